-- Root of the `Micromap` library.  The order is the order of reading (and respects the imports): model and
-- specifications, program logic, list-level laws, one container, refinement of the ideal dictionary, the invariant
-- over histories, ownership, the list-level system, property theorems.

-- the model (`Driver.lean` executes `Model/Sys`, `StdIter`, `StdIterB` and what they import) and the specifications
import Micromap.Model.Basic
import Micromap.Model.Map
import Micromap.Model.Entry
import Micromap.Model.Iter
import Micromap.Spec.StdFmt
import Micromap.Model.Step
import Micromap.Model.Sys
import Micromap.Model.StdIter
import Micromap.Model.StdIterB
import Micromap.Model.Legacy
import Micromap.Spec.SetAlg
import Micromap.Spec.Dict
import Micromap.Spec.RefDict
import Micromap.Gen.Frontier

-- program logic: the triple, callbacks
import Micromap.Proofs.Sat
import Micromap.Proofs.Prims

-- list-level laws
import Micromap.Proofs.SetAlgLaws
import Micromap.Proofs.DictLaws

-- one container: a triple per model function (any `==`, any world) and its determinate run in a benign world
import Micromap.Proofs.Lookup
import Micromap.Proofs.Quiet
import Micromap.Proofs.MapOps
import Micromap.Proofs.MapApi
import Micromap.Proofs.Bulk
import Micromap.Proofs.Bridge
import Micromap.Proofs.Benign
import Micromap.Proofs.EntryOps
import Micromap.Proofs.Disjoint
import Micromap.Proofs.EqClone
import Micromap.Proofs.FromIter
import Micromap.Proofs.Iters
import Micromap.Proofs.StdIter
import Micromap.Proofs.Alg
import Micromap.Proofs.StdIterB
import Micromap.Proofs.Fmt
import Micromap.Proofs.Unchecked

-- refinement of the ideal dictionary and set
import Micromap.Proofs.RefineList
import Micromap.Proofs.Refine
import Micromap.Proofs.RefineStep
import Micromap.Proofs.RefineSet
import Micromap.Proofs.RefineTie

-- the invariant over histories
import Micromap.Proofs.Inv
import Micromap.Proofs.StepInv
import Micromap.Proofs.StepInvEntry
import Micromap.Proofs.StepEqs
import Micromap.Proofs.SysInv
import Micromap.Proofs.UncheckedInv

-- ownership: every object is in exactly one place (with the serde visitor, which needs `OwnAlg`'s frame rules)
import Micromap.Proofs.Ledger
import Micromap.Proofs.Own
import Micromap.Proofs.OwnMap
import Micromap.Proofs.OwnStep
import Micromap.Proofs.Ledger2
import Micromap.Proofs.OwnAlg
import Micromap.Proofs.Serde
import Micromap.Proofs.SerdeAny
import Micromap.Proofs.OwnGarb
import Micromap.Proofs.OwnSys

-- the list-level system
import Micromap.Spec.ListSys
import Micromap.Proofs.ListSysBase
import Micromap.Proofs.ListSysMap
import Micromap.Proofs.ListSysIter
import Micromap.Proofs.ListSysEntry
import Micromap.Proofs.ListSysMapOp
import Micromap.Proofs.ListSysAlg
import Micromap.Proofs.ListSysSet
import Micromap.Proofs.ListSysBuild
import Micromap.Proofs.ListSysRefine
import Micromap.Proofs.ListSysDecEq

-- property theorems, by number (some rest on others: C01 on SysSpec, C02 on C03, C10, C12, C03 on C11, C16, …)
import Micromap.Props.C01
import Micromap.Props.C02
import Micromap.Props.C03
import Micromap.Props.C04
import Micromap.Props.C05
import Micromap.Props.C06
import Micromap.Props.C07
import Micromap.Props.C08
import Micromap.Props.C09
import Micromap.Props.C10
import Micromap.Props.C11
import Micromap.Props.C12
import Micromap.Props.C13
import Micromap.Props.C14
import Micromap.Props.C15
import Micromap.Props.C16
import Micromap.Props.C17
import Micromap.Props.C18
import Micromap.Props.C19
import Micromap.Props.C20
import Micromap.Props.SysSpec
