/-
`stepMapOp` computes `lMapOp`: every operation of the safe `Map` API on one register.
-/
import Micromap.Proofs.ListSysEntry

namespace Micromap.ListSys
open Micromap
variable {K V Q : Type} (E : Env K V Q) (R : Render K V)

/-- For a time-independent `==`, in a world without armed faults, every operation of the safe `Map`
    API run on the slot machine returns the value (or raises the panic) that `lMapOp` computes and
    leaves a state that represents the list `lMapOp` computes, with the capacity unchanged and the
    world still benign. -/
theorem stepMapOp_ok (hE : E.Pure) {prof : Profile} {cap : Nat} {l : List (K × V)} {s : St K V Q}
    (hc : Ctx prof cap l s) (other : Nat → Raw K V) (lo : Nat → List (K × V))
    (hother : ∀ o, Rep (other o) (lo o)) (op : MapOp K V Q) (hop : op.safeApi = true)
    (hside : MapOp.SideOK op) :
    RegOK prof cap (lMapOp E R prof cap lo l op) (stepMapOp E R other op) s := by
  cases op with
  | insert k v =>
    exact lInsert_ok E (ins_ret E (fun _ p => some p.2) (fun i p => l.set i (p.1, v)) hc
      (insert_benign E hE hc.rep hc.benign k v) fun h => Pan.bind (hc.pan_of_overflow h))
      (fun _ _ => rfl) rfl
  | insert_key_value k v =>
    exact lInsert_ok E (ins_ret E (fun _ p => some p) (fun i _ => l.set i (k, v)) hc
      (insert_key_value_benign E hE hc.rep hc.benign k v) fun h => Pan.bind (hc.pan_of_overflow h))
      (fun _ _ => rfl) rfl
  | checked_insert k v =>
    exact lInsert_ok E (ins_ret E (fun _ p => some (some p.2)) (fun i p => l.set i (p.1, v)) hc
      (checked_insert_benign E hE hc.rep hc.benign k v)
      fun ⟨s', hm, hs, hw⟩ => Ret.bind_pure ⟨s', hm, hc.frame hs hw⟩ rfl)
      (fun _ _ => rfl) rfl
  | insert_unchecked k v => cases hop
  | get pr | get_key_value pr =>
    exact RegOK.of_lookup (get_ret E hE hc pr) (fun _ _ h => h.bind_pure rfl)
      fun h => h.bind_pure rfl
  | get_mut pr g =>
    exact RegOK.of_lookup (get_mut_ret E hE hc pr g) (fun _ _ h => h.bind_pure rfl)
      fun h => h.bind_pure rfl
  | contains_key pr => exact (contains_key_ret E hE hc pr).bind_pure rfl
  | index pr =>
    exact RegOK.of_lookup (get_ret E hE hc pr)
      (fun _ _ h => Ret.bind_pure (h.bind_pure rfl) rfl)
      fun h => Pan.bind (h.bind_pan fun s' h' => ⟨s', rfl, h'⟩)
  | index_mut pr g =>
    exact RegOK.of_lookup (get_mut_ret E hE hc pr g)
      (fun _ _ h => Ret.bind_pure (h.bind_pure rfl) rfl)
      fun h => Pan.bind (h.bind_pan fun s' h' => ⟨s', rfl, h'⟩)
  | remove pr =>
    exact RegOK.of_lookup (remove_ret E hE hc pr) (fun _ _ h => h.bind_pure rfl)
      fun h => h.bind_pure rfl
  | remove_entry pr =>
    exact RegOK.of_lookup (remove_entry_ret E hE hc pr) (fun _ _ h => h.bind_pure rfl)
      fun h => h.bind_pure rfl
  | retain f =>
    exact Ret.bind_pure (retain_ret E hc f hside) rfl
  | clear => exact Ret.bind_pure (clear_ret E hc) rfl
  | len => exact ⟨s, congrArg (fun n => Res.ok (RV.nat n) s) hc.rep.1, hc⟩
  | is_empty => exact ⟨s, congrArg (fun n => Res.ok (RV.bool (n == 0)) s) hc.rep.1, hc⟩
  | capacity => exact ⟨s, congrArg (fun n => Res.ok (RV.nat n) s) hc.cap, hc⟩
  | drain take forget =>
    exact Ret.bind_pure (drainOp_ret E hc take forget) rfl
  | into_iter kind take forget =>
    refine Ret.bind (intoIterOp_ret E hc kind take forget) (fun s1 hc1 => ?_)
    cases kind <;> exact Ret.pure hc1
  | iter kind g script =>
    exact Ret.bind_pure (iterOp_ret R kind g script hc) rfl
  | clone_to dst => exact ⟨s, rfl, hc⟩
  | eq o =>
    exact Ret.getS (Ret.bind_pure (mapEq_ret E hE hc hc.rep (hother o)) rfl)
  | from_iter pulls xs => exact ⟨s, rfl, hc⟩
  | entry k mods fin => exact entryOp_ok E hE hc k mods fin
  | get_disjoint_mut unchecked g ks =>
    cases unchecked with
    | true => cases hop
    | false => exact gdm_ok E R hE hc other g ks
  | fmt kind => exact Ret.bind_pure ⟨s, fmtMap_eq R hc kind, hc⟩ rfl
  | drop => exact Ret.bind_pure (dropAndRenew_ret E hc) rfl
  | forget => exact Ret.bind_pure (forgetMap_ret hc) rfl
  | with_capacity c =>
    have hm : stepMapOp E R other (.with_capacity c) s =
        (assertP (c == cap) .capacity >>= fun _ => pure RV.unit) s := by rw [← hc.cap]; rfl
    show RegOK prof cap (if c == cap then _ else _) _ s
    cases h : c == cap <;> rw [h] at hm <;> exact ⟨s, hm, hc⟩
  | serde dst => exact ⟨s, rfl, hc⟩

end Micromap.ListSys
