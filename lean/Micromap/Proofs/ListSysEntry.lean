/-
Entry chains: `entryOp` computes `lEntryOp`.
-/
import Micromap.Proofs.ListSysIter
import Micromap.Proofs.EntryOps
import Micromap.Proofs.StepInvEntry

namespace Micromap.ListSys
open Micromap EntryOps
variable {K V Q : Type} (E : Env K V Q)
variable {prof : Profile} {cap : Nat}

theorem RegOK.mapRet {res : RRes K V} {m : SM K V Q (RV K V)} {s : St K V Q} (f : RV K V → RV K V)
    (h : RegOK prof cap res m s) : RegOK prof cap (res.mapRet f) (m >>= fun r => pure (f r)) s := by
  cases res with
  | ok r l =>
    obtain ⟨s', h1, h2⟩ := h
    exact ⟨s', by simp [bind_apply, h1], h2⟩
  | panic c l =>
    obtain ⟨s', h1, h2⟩ := h
    exact ⟨s', by simp [bind_apply, h1], h2⟩

/-- `Map::entry`: occupied at the slot of the first stored key equal to `k`, vacant otherwise. -/
theorem entry_cases (hE : E.Pure) {l : List (K × V)} {s : St K V Q} (hc : Ctx prof cap l s) (k : K) :
    (∃ i, ∃ hi : i < l.length, lookup E l (.key k) = some (i, l[i]) ∧
      Ret (entry E k) s (.occ i) (Ctx prof cap l)) ∨
    (findKey E l (.key k) = none ∧ Ret (entry E k) s (.vac k) (Ctx prof cap l)) := by
  have h := entry_benign E hE hc.rep hc.benign k
  cases hk : findKey E l (.key k) with
  | some i =>
    rw [hk] at h; obtain ⟨hi, h⟩ := h
    exact Or.inl ⟨i, hi, lookup_some E hk hi, hc.ret_frame h⟩
  | none => rw [hk] at h; exact Or.inr ⟨rfl, hc.ret_frame h⟩

theorem entryMods_occ : ∀ (mods : List (V → V)) (l : List (K × V)) (s : St K V Q), Ctx prof cap l s →
    ∀ {i} (hi : i < l.length),
    Ret (entryMods (Q := Q) mods (.occ i)) s (.occ i)
      (Ctx prof cap (l.set i (l[i].1, mods.foldl (fun v g => g v) l[i].2)))
  | [], l, s, hc, i, hi => by
    refine ⟨s, rfl, ?_⟩
    show Ctx prof cap (l.set i l[i]) s
    rw [List.set_getElem_self]; exact hc
  | g :: gs, l, s, hc, i, hi => by
    have hi1 : i < (l.set i (l[i].1, g l[i].2)).length := by simpa using hi
    have h : Ret (entryMods (Q := Q) (g :: gs) (.occ i)) s _ _ :=
      Ret.bind (hc.ret_step (and_modify_occ_benign (Q := Q) hc.rep hc.benign g hi)) fun s1 hc1 =>
        entryMods_occ gs _ s1 hc1 hi1
    simpa using h

theorem entryMods_vac : ∀ (mods : List (V → V)) (k : K) (s : St K V Q),
    entryMods mods (.vac k) s = .ok (.vac k) s
  | [], _, _ => rfl
  | g :: gs, k, s => by
    simp only [entryMods, bind_apply, and_modify_vac g k s, entryMods_vac gs k s]

theorem refVal_ret {l : List (K × V)} {s : St K V Q} (hc : Ctx prof cap l s) {i} (hi : i < l.length) :
    Ret (refVal i) s (RV.ref i (.val l[i].2)) (Ctx prof cap l) := by
  refine ⟨s, ?_, hc⟩
  simp [refVal, bind_apply, itemRef_ok (s := s) (hc.rep.cap_lt hi) (hc.rep.slot hi)]

theorem entryFinish_occ {l : List (K × V)} {s : St K V Q} (hc : Ctx prof cap l s) {i} (hi : i < l.length)
    (fin : EntryEnd V) :
    Ret (entryFinish E fin (.occ i)) s (lEntryOcc l i l[i] fin).1 (Ctx prof cap (lEntryOcc l i l[i] fin).2) := by
  have hiref := itemRef_ok (s := s) (hc.rep.cap_lt hi) (hc.rep.slot hi)
  cases fin with
  | or_insert v =>
    exact Ret.bind (hc.ret_frame (or_insert_occ_benign E hc.rep hc.benign v hi)) fun s1 hc1 => refVal_ret hc1 hi
  | or_insert_with v | or_insert_with_key v | or_default v =>
    exact Ret.bind ⟨s, or_insert_with_occ E hc.rep _ v hi, hc⟩ fun s1 hc1 => refVal_ret hc1 hi
  | key =>
    exact ⟨s, by simp [entryFinish, bind_apply, entry_key_occ hc.rep hi, dropEntry, lEntryOcc], hc⟩
  | drop => exact ⟨s, by simp [entryFinish, bind_apply, dropEntry, lEntryOcc], hc⟩
  | occ_key | occ_get => exact ⟨s, by simp [entryFinish, bind_apply, occ_get, hiref, lEntryOcc], hc⟩
  | occ_get_mut g =>
    refine ⟨{ s with r := setSlot s.r i (some (l[i].1, g l[i].2)) },
      by simp only [entryFinish, bind_apply, occ_get_mut_eq hc.rep hi g, pure_apply, lEntryOcc], ?_⟩
    exact hc.step' (hc.rep.set hi (l[i].1, g l[i].2)) rfl rfl
  | occ_insert v =>
    refine ⟨{ s with r := setSlot s.r i (some (l[i].1, v)) },
      by simp only [entryFinish, bind_apply, occ_insert_eq E hc.rep hi v, pure_apply, lEntryOcc], ?_⟩
    exact hc.step' (hc.rep.set hi (l[i].1, v)) rfl rfl
  | occ_remove =>
    rcases (occ_remove_sat (Q := Q) hc.rep hi).cases with ⟨v, s1, hm, hv, hrep, hcap, hw⟩ | ⟨c, s1, _, _, _, hi'⟩
    · subst hv
      exact ⟨s1, by simp only [entryFinish, bind_apply, hm, pure_apply, lEntryOcc], hc.step hrep hcap hw⟩
    · exact (no_inj hc.benign hi').elim
  | occ_remove_entry =>
    rcases (occ_remove_entry_sat (Q := Q) hc.rep hi (P := fun _ _ => False)).cases with
      ⟨p, s1, hm, hp, hrep, hcap, hw⟩ | ⟨c, s1, _, hf⟩
    · subst hp
      exact ⟨s1, by simp only [entryFinish, bind_apply, hm, pure_apply, lEntryOcc], hc.step hrep hcap hw⟩
    · exact hf.elim
  | occ_into_mut =>
    obtain ⟨s2, g1, g2⟩ := refVal_ret hc hi
    exact ⟨s2, by simp only [entryFinish, g1, lEntryOcc], g2⟩
  | vac_key | vac_into_key | vac_insert v => exact ⟨s, by simp [entryFinish, lEntryOcc], hc⟩

theorem entryFinish_vac (hE : E.Pure) {l : List (K × V)} {s : St K V Q} (hc : Ctx prof cap l s) (k : K)
    (hf : findKey E l (.key k) = none) (fin : EntryEnd V) :
    RegOK prof cap (lEntryVac prof cap l k fin) (entryFinish E fin (.vac k)) s := by
  -- `VacantEntry::insert` then `refVal`
  have hins : ∀ (v : V) (s0 : St K V Q), Ctx prof cap l s0 →
      RegOK prof cap
        (if l.length < cap then .ok (.ref l.length (.val v)) (l ++ [(k, v)]) else .panic (fullPanic prof) l)
        (vacant_insert E k v >>= refVal) s0 := by
    intro v s0 hc0
    by_cases hroom : l.length < cap
    · rw [if_pos hroom]
      refine Ret.bind (hc0.ret_step (vacant_insert_room E hE hc0.rep hc0.benign k v hf (hc0.cap ▸ hroom)))
        fun s1 hc1 => ?_
      simpa using refVal_ret hc1 (i := l.length) (by simp)
    · rw [if_neg hroom]
      exact Pan.bind (hc0.pan_of_overflow (vacant_insert_full E hE hc0.rep hc0.benign k v hf
        (by have := hc0.rep.2.1; have := hc0.cap; omega)))
  have hdrop : ∀ (r : RV K V), Ret (dropK k >>= fun _ => (pure r : SM K V Q (RV K V))) s r (Ctx prof cap l) :=
    fun r => Ret.bind_pure (cb_ret_unit (dropK_cb k) hc) rfl
  have hcall : ∀ tag : Nat, Ret (Micromap.unwindWith (dropK k) (callF tag) : SM K V Q Unit) s ()
      (Ctx prof cap l) := fun tag => Ret.unwindWith (cb_ret_unit (callF_cb tag) hc)
  cases fin with
  | or_insert v | vac_insert v => exact hins v s hc
  | or_insert_with v | or_insert_with_key v | or_default v =>
    show RegOK prof cap _ ((Micromap.unwindWith (dropK k) (callF _) >>= fun _ => vacant_insert E k v) >>= refVal) s
    rw [M_bind_assoc]
    exact RegOK.bind_ret (hcall _) (fun s1 hc1 => hins v s1 hc1)
  | key =>
    obtain ⟨s1, h1, h2⟩ := hdrop (.key k)
    exact ⟨s1, by simpa [entryFinish, entry_key, dropEntry, bind_apply] using h1, h2⟩
  | vac_into_key => exact ⟨s, rfl, hc⟩
  | drop => exact hdrop .unit
  | vac_key => exact hdrop (.key k)
  | occ_key | occ_get | occ_get_mut _ | occ_insert _ | occ_remove | occ_remove_entry | occ_into_mut =>
    exact hdrop (.tag "vacant")

theorem entryOp_ok (hE : E.Pure) {l : List (K × V)} {s : St K V Q} (hc : Ctx prof cap l s) (k : K)
    (mods : List (V → V)) (fin : EntryEnd V) :
    RegOK prof cap (lEntryOp E prof cap l k mods fin) (entryOp E k mods fin) s := by
  unfold lEntryOp entryOp
  rcases entry_cases E hE hc k with ⟨i, hi, hl, he⟩ | ⟨hf, he⟩
  · rw [hl]
    refine Ret.bind he (fun s1 hc1 => ?_)
    refine Ret.bind (entryMods_occ mods l s1 hc1 hi) (fun s2 hc2 => ?_)
    have hi2 : i < (l.set i (l[i].1, mods.foldl (fun v g => g v) l[i].2)).length := by simpa using hi
    have := entryFinish_occ E hc2 hi2 fin
    simp only [List.getElem_set_self] at this
    exact this.bind_pure rfl
  · rw [lookup_none E hf]
    refine RegOK.bind_ret he (fun s1 hc1 => ?_)
    refine RegOK.bind_ret ⟨s1, entryMods_vac mods k s1, hc1⟩ (fun s2 hc2 => ?_)
    exact RegOK.mapRet _ (entryFinish_vac E hE hc2 k hf fin)

end Micromap.ListSys
