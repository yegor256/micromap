/-
The representation invariant `Rep`, lawfulness of user equality, and the triple of the
linear scan that every lookup and every insertion starts with.
-/
import Micromap.Proofs.Prims
import Micromap.Model.Step

namespace Micromap
variable {K V Q : Type}

/-- slots `[0, len)` are exactly the list `l`. -/
def Rep (r : Raw K V) (l : List (K × V)) : Prop :=
  r.len = l.length ∧ l.length ≤ r.cap ∧ ∀ i, i < l.length → r.slots i = l[i]?

theorem Rep.len_le_cap {r : Raw K V} {l} (h : Rep r l) : r.len ≤ r.cap := h.1 ▸ h.2.1

theorem Rep.cap_lt {r : Raw K V} {l} (h : Rep r l) {i} (hi : i < l.length) : i < r.cap :=
  Nat.lt_of_lt_of_le hi h.2.1

theorem Rep.slot {r : Raw K V} {l} (h : Rep r l) {i} (hi : i < l.length) : r.slots i = some l[i] := by
  rw [h.2.2 i hi]; exact List.getElem?_eq_getElem hi

theorem Rep.itemRefR_ok {r : Raw K V} {l} (h : Rep r l) {i} (hi : i < l.length) (s : St K V Q) :
    itemRefR r i s = .ok l[i] s := by
  simp only [itemRefR, h.cap_lt hi, h.slot hi, if_true]

theorem Rep.itemRef_ok {s : St K V Q} {l} (h : Rep s.r l) {i} (hi : i < l.length) :
    itemRef i s = .ok l[i] s := h.itemRefR_ok hi s

theorem Rep.iterStartR_ok {r : Raw K V} {l} (h : Rep r l) (s : St K V Q) :
    iterStartR r s = .ok ⟨0, l.length⟩ s := by
  unfold iterStartR
  rw [if_pos h.len_le_cap, h.1]; rfl

theorem Rep.safe {r : Raw K V} {l} (h : Rep r l) : Safe r :=
  ⟨h.len_le_cap, fun i hi => by rw [h.slot (h.1 ▸ hi)]; rfl⟩

theorem Rep.new (cap : Nat) : Rep (Raw.new cap : Raw K V) [] := ⟨rfl, Nat.zero_le _, fun _ h => by simp at h⟩

/-- the live prefix of a container, read off slot by slot. -/
def absUpTo (r : Raw K V) : Nat → List (K × V)
  | 0 => []
  | n + 1 => absUpTo r n ++ (match r.slots n with | some p => [p] | none => [])

def Raw.abs (r : Raw K V) : List (K × V) := absUpTo r r.len

theorem absUpTo_spec (r : Raw K V) : ∀ n, (∀ i, i < n → (r.slots i).isSome = true) →
    (absUpTo r n).length = n ∧ ∀ i, i < n → r.slots i = (absUpTo r n)[i]?
  | 0, _ => ⟨rfl, fun _ h => by simp at h⟩
  | n + 1, h => by
    obtain ⟨ih1, ih2⟩ := absUpTo_spec r n (fun i hi => h i (Nat.lt_succ_of_lt hi))
    have hn := h n (Nat.lt_succ_self n)
    cases hs : r.slots n with
    | none => simp [hs] at hn
    | some p =>
      simp only [absUpTo, hs]
      refine ⟨by simp [ih1], fun i hi => ?_⟩
      by_cases hin : i < n
      · rw [List.getElem?_append_left (by omega)]; exact ih2 i hin
      · have : i = n := by omega
        subst this
        rw [List.getElem?_append_right (by omega)]
        simp [ih1, hs]

theorem Safe.rep {r : Raw K V} (h : Safe r) : Rep r r.abs := by
  obtain ⟨h1, h2⟩ := absUpTo_spec r r.len h.2
  exact ⟨h1.symm, h1 ▸ h.1, fun i hi => h2 i (h1 ▸ hi)⟩

theorem Rep.unique {r : Raw K V} {l l'} (h : Rep r l) (h' : Rep r l') : l = l' := by
  apply List.ext_getElem?
  intro i
  by_cases hi : i < l.length
  · rw [← h.2.2 i hi, ← h'.2.2 i (by rw [← h'.1, h.1]; exact hi)]
  · have : ¬ i < l'.length := by rw [← h'.1, h.1]; exact hi
    simp [List.getElem?_eq_none (Nat.le_of_not_lt hi), List.getElem?_eq_none (Nat.le_of_not_lt this)]

/-- `==` on keys as a function.  The model's `E.eqK n a b` is the answer to the `n`-th call of user
    code (an `Eq` that changes its mind is allowed); list-level specifications need one fixed answer
    per pair, and take the one at call number 0.  `Env.Pure` says the choice does not matter;
    without it `keq` is just one of the answers the oracle may give.  `qeq` likewise for `Q`. -/
def Env.keq (E : Env K V Q) (a b : K) : Bool := E.eqK 0 a b
def Env.qeq (E : Env K V Q) (a b : Q) : Bool := E.eqQ 0 a b

/-- the answers of `==` do not depend on when it is asked. -/
structure Env.Pure (E : Env K V Q) : Prop where
  k : ∀ n a b, E.eqK n a b = E.keq a b
  q : ∀ n a b, E.eqQ n a b = E.qeq a b

/-- `Eq` is an equivalence and `Borrow` respects it (the contracts of `Eq` and `Borrow`). -/
structure Env.Lawful (E : Env K V Q) : Prop extends E.Pure where
  refl : ∀ a, E.keq a a = true
  symm : ∀ a b, E.keq a b = E.keq b a
  trans : ∀ a b c, E.keq a b = true → E.keq b c = true → E.keq a c = true
  borrow : ∀ a b, E.qeq (E.borrow a) (E.borrow b) = E.keq a b
  qrefl : ∀ a, E.qeq a a = true
  qsymm : ∀ a b, E.qeq a b = E.qeq b a
  qtrans : ∀ a b c, E.qeq a b = true → E.qeq b c = true → E.qeq a c = true

theorem Env.Lawful.of_proj {κ : Type} [BEq κ] [LawfulBEq κ] {E : Env K V Q} (f : K → κ) (g : Q → κ)
    (hk : ∀ n a b, E.eqK n a b = (f a == f b)) (hq : ∀ n a b, E.eqQ n a b = (g a == g b))
    (hb : ∀ a, g (E.borrow a) = f a) : E.Lawful where
  k := fun n a b => by rw [Env.keq, hk, hk]
  q := fun n a b => by rw [Env.qeq, hq, hq]
  refl := fun a => by rw [Env.keq, hk]; exact beq_self_eq_true _
  symm := fun a b => by rw [Env.keq, Env.keq, hk, hk]; exact BEq.comm
  trans := fun a b c h1 h2 => by rw [Env.keq, hk] at *; rw [eq_of_beq h1]; exact h2
  borrow := fun a b => by rw [Env.qeq, Env.keq, hq, hk, hb, hb]
  qrefl := fun a => by rw [Env.qeq, hq]; exact beq_self_eq_true _
  qsymm := fun a b => by rw [Env.qeq, Env.qeq, hq, hq]; exact BEq.comm
  qtrans := fun a b c h1 h2 => by rw [Env.qeq, hq] at *; rw [eq_of_beq h1]; exact h2

theorem Env.Pure.toUnit {E : Env K V Q} (h : E.Pure) : E.toUnit.Pure := ⟨h.k, h.q⟩

theorem Env.Lawful.toUnit {E : Env K V Q} (h : E.Lawful) : E.toUnit.Lawful :=
  ⟨h.toPure.toUnit, h.refl, h.symm, h.trans, h.borrow, h.qrefl, h.qsymm, h.qtrans⟩

/-- does the stored key match the probe (time-independent reading). -/
def Env.hit (E : Env K V Q) (stored : K) : Probe K Q → Bool
  | .key k => E.keq stored k
  | .q q => E.qeq (E.borrow stored) q

variable (E : Env K V Q)

/-- `Env.hit` with the probe first: a probe as a predicate on stored keys, the form the list-level
    `Dict.findIdxP` / `Dict.lookupP` take. -/
def Env.hitP (pr : Probe K Q) : K → Bool := fun stored => E.hit stored pr

theorem eqK_pure_cb (a b : K) : CbOk (eqK E a b) (fun _ => []) (fun _ r => E.Pure → r = E.keq a b) :=
  (eqK_cb E a b).mono (fun _ => rfl) fun _ _ ⟨n, hn⟩ hp => hn.trans (hp.k n a b)

theorem eqQ_pure_cb (a b : Q) : CbOk (eqQ E a b) (fun _ => []) (fun _ r => E.Pure → r = E.qeq a b) :=
  (eqQ_cb E a b).mono (fun _ => rfl) fun _ _ ⟨n, hn⟩ hp => hn.trans (hp.q n a b)

theorem probeEq_cb (stored : K) : ∀ pr : Probe K Q,
    CbOk (probeEq E stored pr) (fun _ => []) (fun _ r => E.Pure → r = E.hit stored pr)
  | .key k => eqK_pure_cb E stored k
  | .q q => eqQ_pure_cb E (E.borrow stored) q

/-- first index `j ≥ i` of `l` whose key matches the probe. -/
def findFrom (l : List (K × V)) (pr : Probe K Q) : Nat → Nat → Option Nat
  | 0, _ => none
  | n + 1, i =>
    match l[i]? with
    | some p => if E.hit p.1 pr then some i else findFrom l pr n (i + 1)
    | none => none

def findKey (l : List (K × V)) (pr : Probe K Q) : Option Nat := findFrom E l pr l.length 0

theorem findFrom_succ {l : List (K × V)} {pr : Probe K Q} (n : Nat) {i} (hi : i < l.length) :
    findFrom E l pr (n + 1) i = if E.hit l[i].1 pr then some i else findFrom E l pr n (i + 1) := by
  rw [findFrom, List.getElem?_eq_getElem hi]

theorem findFrom_eq_findIdx (l : List (K × V)) (pr : Probe K Q) (n : Nat) :
    ∀ i, i + n = l.length →
      findFrom E l pr n i = ((l.drop i).findIdx? fun p => E.hitP pr p.1).map (· + i) := by
  induction n with
  | zero =>
    intro i h
    have : l.drop i = [] := List.drop_eq_nil_of_le (by omega)
    simp [findFrom, this]
  | succ n ih =>
    intro i h
    have hi : i < l.length := by omega
    rw [findFrom_succ E n hi, List.drop_eq_getElem_cons hi, List.findIdx?_cons]
    cases hh : E.hit l[i].1 pr with
    | true => simp [Env.hitP, hh]
    | false =>
      rw [ih (i + 1) (by omega)]
      simp only [Env.hitP, hh, Bool.false_eq_true, if_false, Option.map_map]
      congr 1
      funext x
      simp [Nat.add_assoc, Nat.add_comm 1 i]

theorem findFrom_none {l : List (K × V)} {pr : Probe K Q} : ∀ {n i}, i + n = l.length →
    findFrom E l pr n i = none → ∀ m, i ≤ m → ∀ p, l[m]? = some p → E.hit p.1 pr = false := by
  intro n i hn h m hm p hp
  rw [findFrom_eq_findIdx E l pr n i hn, Option.map_eq_none_iff, List.findIdx?_eq_none_iff] at h
  exact h p (List.mem_iff_getElem?.mpr ⟨m - i, by rw [List.getElem?_drop, Nat.add_sub_cancel' hm]; exact hp⟩)

theorem findKey_lt {l : List (K × V)} {pr : Probe K Q} {i} (h : findKey E l pr = some i) : i < l.length := by
  rw [findKey, findFrom_eq_findIdx E l pr _ 0 (Nat.zero_add _), Option.map_eq_some_iff] at h
  obtain ⟨j, hj, rfl⟩ := h
  exact (List.findIdx?_eq_some_iff_getElem.mp hj).1

theorem scanFromR_cb {r : Raw K V} {l : List (K × V)} (hr : Rep r l) (pr : Probe K Q) :
    ∀ n i, i + n = l.length →
    CbOk (scanFromR E r pr n i) (fun _ => [])
      (fun _ o => (∀ j, o = some j → i ≤ j ∧ j < l.length) ∧ (E.Pure → o = findFrom E l pr n i))
  | 0, i, _ => fun s => CbAt.pure ⟨fun j h => (by cases h), fun _ => rfl⟩
  | n + 1, i, hn => by
    intro s
    have hlt : i < l.length := by omega
    unfold scanFromR
    refine Sat.bind_ok (hr.itemRefR_ok hlt s) ?_
    refine (CbAt.bind ((probeEq_cb E l[i].1 pr).at s) fun b s1 _ _ h3 => ?_).mono (fun _ _ => rfl) (fun _ h => h)
    cases b with
    | true =>
      refine CbAt.pure ⟨fun j hj => ?_, fun hp => ?_⟩
      · cases hj; exact ⟨Nat.le_refl _, hlt⟩
      · simp [findFrom_succ E n hlt, ← h3 hp]
    | false =>
      refine CbAt.mono (scanFromR_cb hr pr n (i + 1) (by omega) s1) (fun _ _ => rfl) ?_
      intro o ⟨g3, g4⟩
      refine ⟨fun j hj => ?_, fun hp => ?_⟩
      · have := g3 j hj; exact ⟨by omega, this.2⟩
      · simp [findFrom_succ E n hlt, ← h3 hp, g4 hp]

theorem scanR_cb {r : Raw K V} {l : List (K × V)} (hr : Rep r l) (pr : Probe K Q) :
    CbOk (scanR E r pr) (fun _ => [])
      (fun _ o => (∀ j, o = some j → j < l.length) ∧ (E.Pure → o = findKey E l pr)) := by
  intro s
  unfold scanR
  simp only [hr.len_le_cap, if_true]
  rw [hr.1]
  exact ((scanFromR_cb E hr pr l.length 0 (Nat.zero_add _)).at s).mono (fun _ _ => rfl)
    fun _ ⟨h3, h4⟩ => ⟨fun j hj => (h3 j hj).2, h4⟩

end Micromap
