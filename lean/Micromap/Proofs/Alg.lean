/-
The lazy set-algebra adaptors (`difference`, `intersection`, `union`, `symmetric_difference`),
the set predicates and `&a - &b`.

First the list-level reading, with no container in sight: what an iterator state still yields
(`algRest`), its invariant `AlgInv` and bound `meas`, the postconditions `StepPost`/`NextPost`.
Then the triples: every read-only function is `Quiet`; its result is stated under `E.Pure`
relative to the list-level reading.
-/
import Micromap.Model.Sys
import Micromap.Proofs.EqClone
import Micromap.Proofs.Benign
import Micromap.Proofs.Quiet

namespace Micromap.Alg
open Micromap SetAlg Dict
variable {K V Q : Type}

/-- the selected slots of `l` among positions `lo, lo+1, …` (`n` of them), each with its key. -/
def selRest (l : List (K × V)) (sel : K → Bool) : Nat → Nat → List (Nat × K)
  | 0, _ => []
  | n + 1, lo =>
    match l[lo]? with
    | some p => if sel p.1 then (lo, p.1) :: selRest l sel n (lo + 1) else selRest l sel n (lo + 1)
    | none => []

/-- the selection predicate of `Difference` (`want = false`) / `Intersection` (`want = true`). -/
def selD (keq : K → K → Bool) (kb : List K) (want : Bool) : K → Bool := fun x => memB keq x kb == want

/-- what `find` returns given what is left: the head, and the position after it. -/
def nextOfRest (lo n : Nat) : List (Nat × K) → Option (Nat × K) × Nat
  | [] => (none, lo + n)
  | x :: _ => (some x, x.1 + 1)

theorem selRest_succ_of_lt {l : List (K × V)} {sel : K → Bool} {n lo : Nat} (h : lo < l.length) :
    selRest l sel (n + 1) lo =
      if sel l[lo].1 then (lo, l[lo].1) :: selRest l sel n (lo + 1) else selRest l sel n (lo + 1) := by
  simp [selRest, List.getElem?_eq_getElem h]

theorem selRest_keys (l : List (K × V)) (sel : K → Bool) (n lo : Nat) :
    (selRest l sel n lo).map (·.2) = (((l.map (·.1)).drop lo).take n).filter sel := by
  fun_induction selRest l sel n lo with
  | case1 => rfl
  | case2 n lo p hp hs ih =>
    obtain ⟨hl, rfl⟩ := List.getElem?_eq_some_iff.mp hp
    rw [List.drop_eq_getElem_cons (by simpa using hl), List.take_succ_cons, List.filter_cons,
      List.getElem_map, if_pos hs, List.map_cons, ih]
  | case3 n lo p hp hs ih =>
    obtain ⟨hl, rfl⟩ := List.getElem?_eq_some_iff.mp hp
    rw [List.drop_eq_getElem_cons (by simpa using hl), List.take_succ_cons, List.filter_cons,
      List.getElem_map, if_neg hs, ih]
  | case4 n lo hp =>
    rw [List.drop_eq_nil_of_le (by simpa using List.getElem?_eq_none_iff.mp hp)]
    rfl

theorem selRest_length_le (l : List (K × V)) (sel : K → Bool) (n lo : Nat) : (selRest l sel n lo).length ≤ n := by
  fun_induction selRest l sel n lo with
  | case1 => exact Nat.le_refl _
  | case2 _ _ _ _ _ ih => exact Nat.succ_le_succ ih
  | case3 _ _ _ _ _ ih => exact Nat.le_succ_of_le ih
  | case4 => exact Nat.zero_le _

theorem selRest_mem {l : List (K × V)} {sel : K → Bool} {n lo : Nat} {x : Nat × K} (h : x ∈ selRest l sel n lo) :
    lo ≤ x.1 ∧ x.1 < lo + n ∧ sel x.2 = true ∧ ∃ h : x.1 < l.length, x.2 = l[x.1].1 := by
  fun_induction selRest l sel n lo with
  | case1 => cases h
  | case2 n lo p hp hs ih =>
    rcases List.mem_cons.mp h with rfl | h
    · obtain ⟨hl, rfl⟩ := List.getElem?_eq_some_iff.mp hp
      exact ⟨Nat.le_refl _, by omega, hs, hl, rfl⟩
    · have := ih h
      exact ⟨by omega, by omega, this.2.2⟩
  | case3 n lo p hp hs ih =>
    have := ih h
    exact ⟨by omega, by omega, this.2.2⟩
  | case4 => cases h

theorem selRest_sorted (l : List (K × V)) (sel : K → Bool) (n lo : Nat) :
    (selRest l sel n lo).Pairwise (fun x y => x.1 < y.1) := by
  fun_induction selRest l sel n lo with
  | case1 => exact .nil
  | case2 _ _ _ _ _ ih => exact List.pairwise_cons.mpr ⟨fun y hy => Nat.lt_of_succ_le (selRest_mem hy).1, ih⟩
  | case3 _ _ _ _ _ ih => exact ih
  | case4 => exact .nil

theorem selRest_cons {l : List (K × V)} {sel : K → Bool} {n lo : Nat} {x : Nat × K} {t : List (Nat × K)}
    (h : selRest l sel n lo = x :: t) : t = selRest l sel (lo + n - (x.1 + 1)) (x.1 + 1) := by
  fun_induction selRest l sel n lo with
  | case1 => cases h
  | case2 n lo p hp hs ih => cases h; rw [Nat.add_sub_add_left]; rfl
  | case3 n lo p hp hs ih => exact Nat.add_right_comm lo 1 n ▸ ih h
  | case4 => cases h

/-- nothing is selected in the window before the first selected slot (anywhere, if there is none). -/
theorem selRest_unselected {l : List (K × V)} {sel : K → Bool} {n lo : Nat} {R : List (Nat × K)}
    (h : selRest l sel n lo = R) {m : Nat} (hm : m < l.length) (h1 : lo ≤ m) (h2 : m < lo + n)
    (hR : ∀ x, R.head? = some x → m < x.1) : sel l[m].1 = false := by
  subst h
  fun_induction selRest l sel n lo with
  | case1 => omega
  | case2 n lo p hp hs ih => have := hR _ rfl; omega
  | case3 n lo p hp hs ih =>
    obtain ⟨hl, rfl⟩ := List.getElem?_eq_some_iff.mp hp
    by_cases hml : m = lo
    · subst hml; exact Bool.eq_false_iff.mpr hs
    · exact ih (by omega) (by omega) hR
  | case4 n lo hp =>
    have := List.getElem?_eq_none_iff.mp hp
    omega

theorem nextOfRest_selRest (l : List (K × V)) (sel : K → Bool) (n lo : Nat) :
    (nextOfRest lo n (selRest l sel n lo)).1 = (selRest l sel n lo).head? ∧
    selRest l sel (lo + n - (nextOfRest lo n (selRest l sel n lo)).2) (nextOfRest lo n (selRest l sel n lo)).2 =
      (selRest l sel n lo).tail := by
  cases hR : selRest l sel n lo with
  | nil => exact ⟨rfl, by simp only [nextOfRest, Nat.sub_self]; rfl⟩
  | cons x t => exact ⟨rfl, (selRest_cons hR).symm⟩

theorem window_ok {it : SliceIt} {n : Nat} (h : it.hi ≤ n) : 0 < it.len → it.lo + it.len ≤ n := by
  unfold SliceIt.len; omega

theorem selD_eq_true {keq : K → K → Bool} {kb : List K} {want : Bool} {k : K} :
    selD keq kb want k = true ↔ memB keq k kb = want := beq_iff_eq

theorem selD_eq_false {keq : K → K → Bool} {kb : List K} {want : Bool} {k : K} :
    selD keq kb want k = false ↔ memB keq k kb ≠ want := beq_eq_false_iff_ne

theorem selD_true (keq : K → K → Bool) (kb : List K) : selD keq kb true = fun x => memB keq x kb := by
  funext x; simp [selD]

theorem selD_false (keq : K → K → Bool) (kb : List K) : selD keq kb false = fun x => !memB keq x kb := by
  funext x; simp [selD]

theorem selRest_full_keys (l : List (K × V)) (sel : K → Bool) :
    (selRest l sel l.length 0).map (·.2) = (l.map (·.1)).filter sel := by
  rw [selRest_keys, List.drop_zero, List.take_of_length_le (Nat.le_of_eq (List.length_map ..))]

/-- items of operand `op`. -/
def tag (op : Nat) (l : List (Nat × K)) : List (AlgItem K) := l.map fun x => (op, x.1, x.2)

theorem tag_keys (op : Nat) (l : List (Nat × K)) : (tag op l).map (·.2.2) = l.map (·.2) := by
  simp [tag]

theorem tag_length (op : Nat) (l : List (Nat × K)) : (tag op l).length = l.length := by
  simp [tag]

theorem tag_head? (op : Nat) (l : List (Nat × K)) :
    (tag op l).head? = l.head?.map fun x => match x with | (i, k) => (op, i, k) := by
  cases l <;> rfl

theorem tag_tail (op : Nat) (l : List (Nat × K)) : (tag op l).tail = tag op l.tail := by
  cases l <;> rfl

/-- an item points into operand 0 (`self`, list `la`) or 1 (`other`, list `lb`) at a live slot
    and carries that slot's key: it is a reference to the operand's own element. -/
def ItemOf (la lb : List (K × V)) (x : AlgItem K) : Prop :=
  (x.1 = 0 ∧ ∃ h : x.2.1 < la.length, x.2.2 = la[x.2.1].1) ∨
  (x.1 = 1 ∧ ∃ h : x.2.1 < lb.length, x.2.2 = lb[x.2.1].1)

theorem itemOf0 (la lb : List (K × V)) (j : Nat) (h : j < la.length) : ItemOf la lb (0, j, la[j].1) :=
  Or.inl ⟨rfl, h, rfl⟩

theorem itemOf1 (la lb : List (K × V)) (j : Nat) (h : j < lb.length) : ItemOf la lb (1, j, lb[j].1) :=
  Or.inr ⟨rfl, h, rfl⟩

theorem tag_selRest_forall {op : Nat} {l : List (K × V)} {P : AlgItem K → Prop}
    (hP : ∀ j (h : j < l.length), P (op, j, l[j].1)) (sel : K → Bool) (n lo : Nat) :
    ∀ x, x ∈ tag op (selRest l sel n lo) → P x := by
  intro x hx
  obtain ⟨y, hy, rfl⟩ := List.mem_map.mp hx
  obtain ⟨hj, hk⟩ := (selRest_mem hy).2.2.2
  exact hk ▸ hP y.1 hj

theorem tag_selRest_own (op : Nat) (l : List (K × V)) (sel : K → Bool) (n lo : Nat) :
    ∀ x, x ∈ tag op (selRest l sel n lo) → x.1 = op ∧ ∃ h : x.2.1 < l.length, x.2.2 = l[x.2.1].1 :=
  tag_selRest_forall (P := fun x => x.1 = op ∧ ∃ h : x.2.1 < l.length, x.2.2 = l[x.2.1].1)
    (fun _ h => ⟨rfl, h, rfl⟩) sel n lo

theorem tag_selRest_sorted (op : Nat) (l : List (K × V)) (sel : K → Bool) (n lo : Nat) :
    ((tag op (selRest l sel n lo)).map (·.2.1)).Pairwise (· < ·) := by
  simp only [tag, List.map_map]
  rw [List.pairwise_map]
  exact selRest_sorted l sel n lo

theorem zipIdx_plain (l : List (K × V)) (lo0 : Nat) : ∀ n lo k, lo0 + k = lo →
    (((l.drop lo).take n).zipIdx k).map (fun x => match x with | (p, j) => ((1, lo0 + j, p.1) : AlgItem K)) =
      tag 1 (selRest l (fun _ => true) n lo) := by
  intro n
  induction n with
  | zero => intro _ _ _; rfl
  | succ n ih =>
    intro lo k h
    by_cases hl : lo < l.length
    · rw [List.drop_eq_getElem_cons hl, List.take_succ_cons, List.zipIdx_cons, List.map_cons,
        selRest_succ_of_lt hl, ih (lo + 1) (k + 1) (by omega)]
      simp [tag, h]
    · have h1 : l.drop lo = [] := List.drop_eq_nil_of_le (by omega)
      have h2 : l[lo]? = none := List.getElem?_eq_none (by omega)
      simp [h1, selRest, h2, tag]

/-- what the first half of the iterator will still yield. -/
def fstRest (keq : K → K → Bool) (la lb : List (K × V)) (kind : AlgKind) (it : SliceIt) : List (AlgItem K) :=
  match kind with
  | .difference => tag 0 (selRest la (selD keq (lb.map (·.1)) false) it.len it.lo)
  | .symmetric_difference => tag 0 (selRest la (selD keq (lb.map (·.1)) false) it.len it.lo)
  | .intersection => tag 0 (selRest la (selD keq (lb.map (·.1)) true) it.len it.lo)
  | .union => tag 1 (selRest lb (fun _ => true) it.len it.lo)

/-- what the second half (of a chain) will still yield. -/
def sndRest (keq : K → K → Bool) (la lb : List (K × V)) (kind : AlgKind) (it : SliceIt) : List (AlgItem K) :=
  match kind with
  | .union => tag 0 (selRest la (selD keq (lb.map (·.1)) false) it.len it.lo)
  | _ => tag 1 (selRest lb (selD keq (la.map (·.1)) false) it.len it.lo)

/-- everything an iterator state will still yield, in order. -/
def algRest (keq : K → K → Bool) (la lb : List (K × V)) (s : AlgIt) : List (AlgItem K) :=
  (match s.fst with | some it => fstRest keq la lb s.kind it | none => []) ++
  (match s.snd with | some it => sndRest keq la lb s.kind it | none => [])

/-- well-formed iterator states over operands of `na` and `nb` elements (oracle-independent):
    the windows end inside their operand; plain adaptors have no second half.  `lo ≤ hi` is not
    demanded: an exhausted window may have `lo > hi` (its `len` is 0), which is why the lemmas about
    a window ask for `lo + n ≤ |l|` only when `0 < n` (`window_ok`). -/
structure AlgInv (na nb : Nat) (s : AlgIt) : Prop where
  fst : ∀ it, s.fst = some it → it.hi ≤ (if s.kind = .union then nb else na)
  snd : ∀ it, s.snd = some it → it.hi ≤ (if s.kind = .union then na else nb)
  plain : s.kind = .difference ∨ s.kind = .intersection → s.snd = none

/-- upper bound on the number of items still to come, whatever the oracle answers. -/
def meas (s : AlgIt) : Nat :=
  (match s.fst with | some it => it.len | none => 0) + (match s.snd with | some it => it.len | none => 0)

/-- the state `algStart` builds. -/
def startIt (na nb : Nat) : AlgKind → AlgIt
  | .difference => ⟨.difference, some ⟨0, na⟩, none⟩
  | .intersection => ⟨.intersection, some ⟨0, na⟩, none⟩
  | .union => ⟨.union, some ⟨0, nb⟩, some ⟨0, na⟩⟩
  | .symmetric_difference => ⟨.symmetric_difference, some ⟨0, na⟩, some ⟨0, nb⟩⟩

theorem startIt_kind (na nb : Nat) (kind : AlgKind) : (startIt na nb kind).kind = kind := by
  cases kind <;> rfl

theorem startIt_inv (na nb : Nat) (kind : AlgKind) : AlgInv na nb (startIt na nb kind) := by
  cases kind <;> constructor <;> simp [startIt]

theorem startIt_meas (na nb : Nat) (kind : AlgKind) : meas (startIt na nb kind) ≤ na + nb := by
  cases kind <;> simp [startIt, meas, SliceIt.len] <;> omega

theorem algRest_length_le_meas (keq : K → K → Bool) (la lb : List (K × V)) (s : AlgIt) :
    (algRest keq la lb s).length ≤ meas s := by
  obtain ⟨kind, fst, snd⟩ := s
  rw [algRest, List.length_append]
  refine Nat.add_le_add ?_ ?_
  · cases fst with
    | none => exact Nat.le_refl _
    | some it => cases kind <;> exact Nat.le_trans (Nat.le_of_eq (tag_length ..)) (selRest_length_le ..)
  · cases snd with
    | none => exact Nat.le_refl _
    | some it => cases kind <;> exact Nat.le_trans (Nat.le_of_eq (tag_length ..)) (selRest_length_le ..)

theorem algRest_start (keq : K → K → Bool) (la lb : List (K × V)) (kind : AlgKind) :
    algRest keq la lb (startIt la.length lb.length kind) = match kind with
      | .difference => tag 0 (selRest la (selD keq (lb.map (·.1)) false) la.length 0)
      | .intersection => tag 0 (selRest la (selD keq (lb.map (·.1)) true) la.length 0)
      | .union => tag 1 (selRest lb (fun _ => true) lb.length 0) ++
          tag 0 (selRest la (selD keq (lb.map (·.1)) false) la.length 0)
      | .symmetric_difference => tag 0 (selRest la (selD keq (lb.map (·.1)) false) la.length 0) ++
          tag 1 (selRest lb (selD keq (la.map (·.1)) false) lb.length 0) := by
  cases kind
  · exact List.append_nil _
  · exact List.append_nil _
  · rfl
  · rfl

theorem algRest_start_keys (keq : K → K → Bool) (la lb : List (K × V)) (kind : AlgKind) :
    (algRest keq la lb (startIt la.length lb.length kind)).map (·.2.2) = match kind with
      | .difference => diffL keq (la.map (·.1)) (lb.map (·.1))
      | .intersection => interL keq (la.map (·.1)) (lb.map (·.1))
      | .union => unionL keq (la.map (·.1)) (lb.map (·.1))
      | .symmetric_difference => symmL keq (la.map (·.1)) (lb.map (·.1)) := by
  rw [algRest_start]
  have hp : ∀ l : List K, l.filter (fun _ => true) = l := fun l => List.filter_eq_self.mpr fun _ _ => rfl
  cases kind <;> simp only [List.map_append, tag_keys, selRest_full_keys, selD_false, selD_true, hp] <;> rfl

/-- postcondition of one `next` of a half: the window only shrinks (strictly when an item is
    yielded), a yielded item satisfies `P`, and under `pur` it is the head of `R`. -/
def StepPost (R : SliceIt → List (AlgItem K)) (P : AlgItem K → Prop) (pur : Prop) (it : SliceIt)
    (res : Option (AlgItem K) × SliceIt) : Prop :=
  res.2.hi = it.hi ∧ res.2.len ≤ it.len ∧ (∀ x, res.1 = some x → res.2.len < it.len ∧ P x) ∧
  (pur → res.1 = (R it).head? ∧ R res.2 = (R it).tail)

/-- postcondition of `algNext`: kind kept, invariant kept, the bound `meas` never grows and strictly
    shrinks when an item is yielded, items are references to operands' own elements; under `pur` the
    item is the head of `algRest` and the new state has the tail left. -/
def NextPost (keq : K → K → Bool) (la lb : List (K × V)) (pur : Prop) (s : AlgIt)
    (res : Option (AlgItem K) × AlgIt) : Prop :=
  res.2.kind = s.kind ∧ AlgInv la.length lb.length res.2 ∧ meas res.2 ≤ meas s ∧
  (∀ x, res.1 = some x → meas res.2 < meas s ∧ ItemOf la lb x) ∧
  (pur → res.1 = (algRest keq la lb s).head? ∧ algRest keq la lb res.2 = (algRest keq la lb s).tail)

theorem head_tail_append {α : Type} {F S : List α} (h : F = [] → S = []) :
    (F ++ S).head? = F.head? ∧ (F ++ S).tail = F.tail ++ S := by
  cases F with
  | nil => rw [h rfl]; exact ⟨rfl, rfl⟩
  | cons y t => exact ⟨rfl, rfl⟩

theorem eq_nil_of_head?_none {α : Type} {F : List α} (h : none = F.head?) : F = [] := by
  cases F with
  | nil => rfl
  | cons y t => cases h

theorem cons_of_head? {α : Type} {l : List α} {x : α} (h : some x = l.head?) : l = x :: l.tail := by
  cases l with
  | nil => cases h
  | cons y t => simp at h; subst h; rfl

section

variable {keq : K → K → Bool} {la lb : List (K × V)} {pur : Prop} {kind : AlgKind} {it it' : SliceIt}
  {fst snd : Option SliceIt} {o : Option (AlgItem K)}

theorem NextPost.done (hs : AlgInv la.length lb.length ⟨kind, none, none⟩) :
    NextPost keq la lb pur ⟨kind, none, none⟩ (none, ⟨kind, none, none⟩) :=
  ⟨rfl, hs, Nat.le_refl _, fun _ h => (by cases h), fun _ => ⟨rfl, rfl⟩⟩

/-- a step of the first half is a step of the iterator, provided that half is not a chain's
    first half just exhausted (`Chain` then clears it and asks the second). -/
theorem NextPost.of_fst (hs : AlgInv la.length lb.length ⟨kind, some it, snd⟩)
    (h : StepPost (fstRest keq la lb kind) (ItemOf la lb) pur it (o, it')) (ho : o = none → snd = none) :
    NextPost keq la lb pur ⟨kind, some it, snd⟩ (o, ⟨kind, some it', snd⟩) := by
  obtain ⟨h1, h2, h3, h4⟩ := h
  refine ⟨rfl, ⟨fun _ e => by cases e; rw [h1]; exact hs.fst it rfl, hs.snd, hs.plain⟩,
    Nat.add_le_add_right h2 _, fun x hx => ⟨Nat.add_lt_add_right (h3 x hx).1 _, (h3 x hx).2⟩, fun hp => ?_⟩
  obtain ⟨k1, k2⟩ := h4 hp
  have := head_tail_append (F := fstRest keq la lb kind it)
    (S := match (generalizing := false) snd with | some it => sndRest keq la lb kind it | none => [])
    fun hF => by
      obtain rfl := ho (k1.trans (congrArg List.head? hF)); rfl
  exact ⟨k1.trans this.1.symm, (congrArg (· ++ _) k2).trans this.2.symm⟩

/-- once the first half is exhausted the iterator behaves as if it had been cleared. -/
theorem NextPost.skip_fst {P : AlgItem K → Prop} {res : Option (AlgItem K) × AlgIt}
    (h : StepPost (fstRest keq la lb kind) P pur it (none, it'))
    (hn : NextPost keq la lb pur ⟨kind, none, snd⟩ res) : NextPost keq la lb pur ⟨kind, some it, snd⟩ res := by
  obtain ⟨k1, k2, k3, k4, k5⟩ := hn
  have hm : meas ⟨kind, none, snd⟩ ≤ meas ⟨kind, some it, snd⟩ := Nat.add_le_add_right (Nat.zero_le _) _
  refine ⟨k1, k2, Nat.le_trans k3 hm, fun x hx => ⟨Nat.lt_of_lt_of_le (k4 x hx).1 hm, (k4 x hx).2⟩, fun hp => ?_⟩
  have : algRest keq la lb ⟨kind, some it, snd⟩ = algRest keq la lb ⟨kind, none, snd⟩ :=
    congrArg (· ++ _) (eq_nil_of_head?_none (h.2.2.2 hp).1)
  rw [this]
  exact k5 hp

theorem NextPost.of_snd (hs : AlgInv la.length lb.length ⟨kind, none, some it⟩)
    (h : StepPost (sndRest keq la lb kind) (ItemOf la lb) pur it (o, it')) :
    NextPost keq la lb pur ⟨kind, none, some it⟩ (o, ⟨kind, none, some it'⟩) := by
  obtain ⟨h1, h2, h3, h4⟩ := h
  exact ⟨rfl, ⟨hs.fst, fun _ e => by cases e; rw [h1]; exact hs.snd it rfl, fun hk => nomatch hs.plain hk⟩,
    Nat.add_le_add_left h2 _, fun x hx => ⟨Nat.add_lt_add_left (h3 x hx).1 _, (h3 x hx).2⟩, h4⟩

end

/-- the not-yet-visited part of the key list under a window. -/
def windowKeys (l : List (K × V)) (it : SliceIt) : List K := ((l.map (·.1)).drop it.lo).take it.len

theorem windowKeys_length {l : List (K × V)} {it : SliceIt} (h : it.hi ≤ l.length) :
    (windowKeys l it).length = it.len := by
  simp only [windowKeys, List.length_take, List.length_drop, List.length_map]
  exact Nat.min_eq_left (Nat.sub_le_sub_right h _)

theorem windowKeys_nodup {keq : K → K → Bool} {l : List (K × V)} (hn : NodupB keq (l.map (·.1)))
    (it : SliceIt) : NodupB keq (windowKeys l it) := by
  unfold NodupB windowKeys at *
  exact (hn.sublist (List.drop_sublist _ _)).sublist (List.take_sublist _ _)

theorem tag_selRest_length (op : Nat) (l : List (K × V)) (sel : K → Bool) (it : SliceIt) :
    (tag op (selRest l sel it.len it.lo)).length = ((windowKeys l it).filter sel).length := by
  rw [tag_length, ← List.length_map (f := (·.2)), selRest_keys]; rfl

/-- a size hint `(lo, Some hi)` with `lo ≤ n ≤ hi`. -/
def Brackets (h : Nat × Option Nat) (n : Nat) : Prop := h.1 ≤ n ∧ ∃ hi, h.2 = some hi ∧ n ≤ hi

theorem Brackets.add {x y : Nat × Option Nat} {m n : Nat} (hx : Brackets x m) (hy : Brackets y n) :
    Brackets (addHint x y) (m + n) := by
  obtain ⟨h1, p, h2, h3⟩ := hx
  obtain ⟨g1, q, g2, g3⟩ := hy
  exact ⟨Nat.add_le_add h1 g1, p + q, by simp only [addHint, h2, g2], Nat.add_le_add h3 g3⟩

theorem Brackets.append_nil {α : Type} {x : Nat × Option Nat} {F : List α} (h : Brackets x F.length) :
    Brackets x (F ++ []).length := by
  rwa [List.append_nil]

/-- `Difference::size_hint`: at least the surplus of the window over the other operand (pigeonhole
    on the duplicate-free window), at most the window. -/
theorem diffHint_brackets {keq : K → K → Bool} (h : EquivB keq) {l lo : List (K × V)} {o : Raw K V}
    (hro : Rep o lo) (hn : NodupB keq (l.map (·.1))) (op : Nat) {it : SliceIt} (hit : it.hi ≤ l.length) :
    Brackets (diffHint o it) (tag op (selRest l (selD keq (lo.map (·.1)) false) it.len it.lo)).length := by
  have := diff_hint_brackets h (windowKeys l it) (lo.map (·.1)) (windowKeys_nodup hn it)
  rw [windowKeys_length hit, List.length_map, ← hro.1] at this
  rw [tag_selRest_length, selD_false]
  refine ⟨?_, _, rfl, this.2⟩
  show (if it.len > o.len then it.len - o.len else 0) ≤ (diffL keq (windowKeys l it) (lo.map (·.1))).length
  split <;> omega

theorem interHint_brackets {keq : K → K → Bool} (h : EquivB keq) {l lo : List (K × V)} {o : Raw K V}
    (hro : Rep o lo) (hn : NodupB keq (l.map (·.1))) (op : Nat) {it : SliceIt} (hit : it.hi ≤ l.length) :
    Brackets (interHint o it) (tag op (selRest l (selD keq (lo.map (·.1)) true) it.len it.lo)).length := by
  have := inter_hint_brackets h (windowKeys l it) (lo.map (·.1)) (windowKeys_nodup hn it)
  rw [windowKeys_length hit, List.length_map, ← hro.1] at this
  rw [tag_selRest_length, selD_true]
  exact ⟨Nat.zero_le _, _, rfl, this⟩

theorem plainHint_brackets {l : List (K × V)} (op : Nat) {it : SliceIt} (hit : it.hi ≤ l.length) :
    Brackets (it.len, some it.len) (tag op (selRest l (fun _ => true) it.len it.lo)).length := by
  rw [tag_selRest_length, List.filter_eq_self.mpr fun _ _ => rfl, windowKeys_length hit]
  exact ⟨Nat.le_refl _, _, rfl, Nat.le_refl _⟩

/-- the clone events of collecting the keys `ks` into clones `cl`: one `cloneK` per key
    (`EqClone.cloneTrace` is the trace of `Map::clone`: pairs, with the value clones). -/
def cloneTrace (ks cl : List K) : List (Event K V Q) := List.zipWith (fun k c => Event.cloneK k c) ks cl

theorem memB_clones {keq : K → K → Bool} (h : EquivB keq) (cl : Nat → K → K)
    (hcl : ∀ n k, keq (cl n k) k = true) (ids : List Nat) (ks : List K) (hl : ids.length = ks.length) (x : K) :
    memB keq x (List.zipWith cl ids ks) = memB keq x ks := by
  induction ids generalizing ks with
  | nil => cases ks with
    | nil => rfl
    | cons => cases hl
  | cons n ids ih => cases ks with
    | nil => cases hl
    | cons k ks =>
      have ih := ih ks (Nat.succ.inj hl)
      simp only [List.zipWith_cons_cons, memB, List.any_cons] at ih ⊢
      rw [ih, h.symm (cl n k) x, h.symm k x, keq_congr_right h (hcl n k) x]

theorem nodup_clones {keq : K → K → Bool} (h : EquivB keq) (cl : Nat → K → K)
    (hcl : ∀ n k, keq (cl n k) k = true) (ids : List Nat) (ks : List K) (hl : ids.length = ks.length)
    (hn : NodupB keq ks) : NodupB keq (List.zipWith cl ids ks) := by
  induction ids generalizing ks with
  | nil => exact List.Pairwise.nil
  | cons n ids ih => cases ks with
    | nil => exact List.Pairwise.nil
    | cons k ks =>
      have hl' : ids.length = ks.length := Nat.succ.inj hl
      unfold NodupB at hn ⊢
      rw [List.pairwise_cons] at hn
      rw [List.zipWith_cons_cons, List.pairwise_cons]
      refine ⟨fun c hc => ?_, ih ks hl' hn.2⟩
      have h1 : memB keq (cl n k) (List.zipWith cl ids ks) = false := by
        rw [memB_clones h cl hcl ids ks hl', memB_congr h (hcl n k), memB_eq_false]
        intro y hy
        rw [h.symm]; exact hn.1 y hy
      rw [h.symm]
      exact memB_eq_false.mp h1 c hc

variable (E : Env K V Q)

/-- `other.contains(x)`. -/
theorem contains_quiet {b : Raw K V} {lb : List (K × V)} (hb : Rep b lb) (x : K) :
    Quiet (scanR E b (.key x)) (fun o => E.Pure → o.isSome = memB E.keq x (lb.map (·.1))) :=
  CbOk.mono (scanR_cb E hb (.key x)) (fun _ => rfl) fun _ o h hp => by rw [h.2 hp, findKey_isSome_eq_memB]

theorem iterRestR_quiet {r : Raw K V} {l : List (K × V)} (hr : Rep r l) : ∀ n i, (0 < n → i + n ≤ l.length) →
    Quiet (iterRestR r n i : SM K V Q (List (K × V))) (fun res => res = (l.drop i).take n) := by
  intro n
  induction n with
  | zero => exact fun i _ => Quiet.pure rfl
  | succ n ih =>
    intro i hn
    have hn := hn (Nat.succ_pos n)
    have hl : i < l.length := by omega
    unfold iterRestR
    refine Quiet.bind (Quiet.itemRefR hr hl) ?_
    rintro _ rfl
    refine Quiet.bind (ih (i + 1) (fun _ => by omega)) ?_
    rintro _ rfl
    refine Quiet.pure ?_
    rw [List.drop_eq_getElem_cons hl, List.take_succ_cons]

/-- `SetIter::next` as the first half of `union`: no callback, so the result is determined. -/
theorem plainHalf_quiet (a : Raw K V) {b : Raw K V} {lb : List (K × V)} (hrb : Rep b lb) (P : AlgItem K → Prop)
    (hP : ∀ j (h : j < lb.length), P (1, j, lb[j].1))
    (it : SliceIt) (hit : it.hi ≤ lb.length) :
    Quiet (algFstNext E a b .union it)
      (StepPost (fun it => tag 1 (selRest lb (fun _ => true) it.len it.lo)) P E.Pure it) := by
  by_cases hlo : it.lo < it.hi
  · have hl : it.lo < lb.length := by omega
    have hlen : it.len = (⟨it.lo + 1, it.hi⟩ : SliceIt).len + 1 := by simp only [SliceIt.len]; omega
    refine Quiet.of_ok (a := (some (1, it.lo, lb[it.lo].1), ⟨it.lo + 1, it.hi⟩))
      (fun s => by simp only [algFstNext, iterNextR, if_pos hlo, bind_apply, hrb.itemRefR_ok hl s]; rfl)
      ⟨rfl, by rw [hlen]; exact Nat.le_succ _, fun x hx => ?_, fun _ => ?_⟩
    · cases hx
      exact ⟨by rw [hlen]; exact Nat.lt_succ_self _, hP _ hl⟩
    · show _ = (tag 1 (selRest lb _ it.len it.lo)).head? ∧ _ = (tag 1 (selRest lb _ it.len it.lo)).tail
      rw [hlen, selRest_succ_of_lt hl, if_pos rfl]
      exact ⟨rfl, rfl⟩
  · have hz : it.len = 0 := by unfold SliceIt.len; omega
    refine Quiet.of_ok (a := (none, it))
      (fun s => by simp only [algFstNext, iterNextR, if_neg hlo, bind_apply]; rfl)
      ⟨rfl, Nat.le_refl _, fun x h => (by cases h), fun _ => ?_⟩
    show _ = (tag 1 (selRest lb _ it.len it.lo)).head? ∧
      tag 1 (selRest lb _ it.len it.lo) = (tag 1 (selRest lb _ it.len it.lo)).tail
    rw [hz]
    exact ⟨rfl, rfl⟩

/-- `k` calls of `next` in a row: what each returned, and the iterator afterwards. -/
def nextN (a b : Raw K V) : Nat → AlgIt → SM K V Q (List (Option (AlgItem K)) × AlgIt)
  | 0, it => pure ([], it)
  | k + 1, it => do
    let (o, it') ← algNext E a b it
    let (os, it'') ← nextN a b k it'
    pure (o :: os, it'')

/-! `a` is `self`, `b` is `other`. -/
section operands
variable {a b : Raw K V} {la lb : List (K × V)} (hra : Rep a la) (hrb : Rep b lb)
include hra hrb

/-- the round every adaptor and predicate repeats: read slot `lo` of `a`, ask `b` whether it
    contains that key.  Under a pure oracle the test `c.isSome == want` is the selector `selD`. -/
theorem Quiet.probe
    (want : Bool) {lo : Nat} (hl : lo < la.length) {α : Type} {f : K × V → Option Nat → SM K V Q α}
    {Qv : α → Prop}
    (hf : ∀ c : Option Nat,
      (E.Pure → (c.isSome == want) = selD E.keq (lb.map (·.1)) want la[lo].1) → Quiet (f la[lo] c) Qv) :
    Quiet (Micromap.itemRefR a lo >>= fun p => scanR E b (.key p.1) >>= f p) Qv := by
  refine Quiet.bind (Quiet.itemRefR hra hl) ?_
  rintro _ rfl
  refine Quiet.bind (contains_quiet E hrb la[lo].1) ?_
  intro c hc
  exact hf c fun hp => by rw [hc hp]; rfl

/-- `find` over the rest of `a`, filtered by (non-)membership in `b`. -/
theorem filtNextR_quiet (want : Bool) : ∀ n lo, (0 < n → lo + n ≤ la.length) →
    Quiet (filtNextR E a b want n lo) (fun res =>
      lo ≤ res.2 ∧ res.2 ≤ lo + n ∧
      (∀ x, res.1 = some x → lo ≤ x.1 ∧ res.2 = x.1 + 1 ∧ ∃ h : x.1 < la.length, x.2 = la[x.1].1) ∧
      (E.Pure → res = nextOfRest lo n (selRest la (selD E.keq (lb.map (·.1)) want) n lo))) := by
  intro n
  induction n with
  | zero => exact fun lo _ => Quiet.pure ⟨Nat.le_refl _, Nat.le_refl _, fun x h => (by cases h), fun _ => rfl⟩
  | succ n ih =>
    intro lo hn
    have hn := hn (Nat.succ_pos n)
    have hl : lo < la.length := by omega
    unfold filtNextR
    refine Quiet.probe E hra hrb want hl fun c hc => ?_
    cases hw : c.isSome == want with
    | true =>
      refine Quiet.pure ⟨Nat.le_succ _, by omega, ?_, fun hp => ?_⟩
      · rintro x ⟨⟩
        exact ⟨Nat.le_refl _, rfl, hl, rfl⟩
      · rw [selRest_succ_of_lt hl, ← hc hp, hw]; rfl
    | false =>
      refine Quiet.mono (ih (lo + 1) (fun _ => by omega)) ?_
      intro res ⟨h1, h2, h3, h4⟩
      refine ⟨by omega, by omega, fun x hx => ?_, fun hp => ?_⟩
      · obtain ⟨g1, g2, g3⟩ := h3 x hx
        exact ⟨by omega, g2, g3⟩
      · rw [selRest_succ_of_lt hl, ← hc hp, hw, h4 hp]
        cases selRest la (selD E.keq (lb.map (·.1)) want) n (lo + 1) with
        | nil => exact congrArg (Prod.mk none) (by omega)
        | cons x t => rfl

theorem filtNext_quiet (want : Bool) (it : SliceIt) (hit : it.hi ≤ la.length) :
    Quiet (filtNext E a b want it) (fun res =>
      res.2.hi = it.hi ∧ it.lo ≤ res.2.lo ∧ res.2.len ≤ it.len ∧
      (∀ x, res.1 = some x → res.2.len < it.len ∧ it.lo ≤ x.1 ∧ res.2.lo = x.1 + 1 ∧
        ∃ h : x.1 < la.length, x.2 = la[x.1].1) ∧
      (E.Pure → res.1 = (selRest la (selD E.keq (lb.map (·.1)) want) it.len it.lo).head? ∧
        selRest la (selD E.keq (lb.map (·.1)) want) res.2.len res.2.lo =
          (selRest la (selD E.keq (lb.map (·.1)) want) it.len it.lo).tail)) := by
  unfold filtNext
  refine Quiet.bind (filtNextR_quiet E hra hrb want it.len it.lo (window_ok hit)) ?_
  rintro ⟨o, lo'⟩ ⟨h1, h2, h3, h4⟩
  simp only [SliceIt.len] at h1 h2 h3 h4
  refine Quiet.pure ⟨rfl, h1, ?_, fun x hx => ?_, fun hp => ?_⟩
  · exact Nat.sub_le_sub_left h1 it.hi
  · obtain ⟨g1, g2, g3⟩ := h3 x hx
    refine ⟨?_, g1, g2, g3⟩
    show it.hi - lo' < it.hi - it.lo
    omega
  · have h5 := nextOfRest_selRest la (selD E.keq (lb.map (·.1)) want) (it.hi - it.lo) it.lo
    rw [← h4 hp] at h5
    have : it.hi - lo' = it.lo + (it.hi - it.lo) - lo' := by omega
    show o = _ ∧ selRest _ _ (it.hi - lo') lo' = _
    rw [this]
    exact h5

/-- the custom `fold` of `Difference` / `Intersection` visits exactly what `next` would yield. -/
theorem filtFoldR_quiet (want : Bool) : ∀ n lo, (0 < n → lo + n ≤ la.length) →
    Quiet (filtFoldR E a b want n lo) (ListPost (fun x => ∃ h : x.1 < la.length, x.2 = la[x.1].1) E.Pure
      (selRest la (selD E.keq (lb.map (·.1)) want) n lo)) := by
  intro n
  induction n with
  | zero => exact fun lo _ => Quiet.nil
  | succ n ih =>
    intro lo hn
    have hn := hn (Nat.succ_pos n)
    have hl : lo < la.length := by omega
    unfold filtFoldR
    refine Quiet.probe E hra hrb want hl fun c hc => ?_
    refine Quiet.bind (ih (lo + 1) (fun _ => by omega)) ?_
    intro rest ⟨h1, h2⟩
    cases hw : c.isSome == want with
    | true =>
      refine Quiet.pure ⟨List.forall_mem_cons.mpr ⟨⟨hl, rfl⟩, h1⟩, fun hp => ?_⟩
      rw [selRest_succ_of_lt hl, ← hc hp, hw, h2 hp]; rfl
    | false =>
      refine Quiet.pure ⟨h1, fun hp => ?_⟩
      rw [selRest_succ_of_lt hl, ← hc hp, hw, h2 hp]; rfl

/-- `a.iter().all(|v| other.contains(v) == want)`. -/
theorem allContainR_quiet (want : Bool) : ∀ n i, i + n ≤ la.length →
    Quiet (allContainR E a b want n i) (fun res =>
      E.Pure → res = (((la.map (·.1)).drop i).take n).all (selD E.keq (lb.map (·.1)) want)) := by
  intro n
  induction n with
  | zero => exact fun i _ => Quiet.pure (fun _ => rfl)
  | succ n ih =>
    intro i hn
    have hl : i < la.length := by omega
    have hd : (la.map (·.1)).drop i = la[i].1 :: (la.map (·.1)).drop (i + 1) := by
      rw [List.drop_eq_getElem_cons (by simpa using hl)]; simp
    unfold allContainR
    refine Quiet.probe E hra hrb want hl fun c hc => ?_
    cases hw : c.isSome == want with
    | true =>
      refine Quiet.mono (ih (i + 1) (by omega)) ?_
      intro res h hp
      rw [hd, List.take_succ_cons, List.all_cons, ← hc hp, hw, h hp, Bool.true_and]
    | false =>
      refine Quiet.pure (fun hp => ?_)
      rw [hd, List.take_succ_cons, List.all_cons, ← hc hp, hw, Bool.false_and]

theorem allContain_quiet (want : Bool) :
    Quiet (allContain E a b want) (fun res =>
      E.Pure → res = (la.map (·.1)).all (selD E.keq (lb.map (·.1)) want)) := by
  unfold allContain
  rw [if_pos hra.safe.1, hra.1]
  refine Quiet.mono (allContainR_quiet E hra hrb want la.length 0 (by omega)) ?_
  intro res h hp
  rw [h hp, List.drop_zero, List.take_of_length_le (by simp)]

theorem is_subset_quiet :
    Quiet (is_subset E a b) (fun res =>
      E.Pure → res = isSubsetCode E.keq (la.map (·.1)) (lb.map (·.1))) := by
  unfold is_subset isSubsetCode
  rw [hra.1, hrb.1, List.length_map, List.length_map]
  split
  · exact (allContain_quiet E hra hrb true).mono fun _ h hp => by rw [h hp, selD_true]
  · exact Quiet.pure fun _ => rfl

theorem is_superset_quiet :
    Quiet (is_superset E a b) (fun res =>
      E.Pure → res = isSubsetCode E.keq (lb.map (·.1)) (la.map (·.1))) :=
  is_subset_quiet E hrb hra

theorem is_disjoint_quiet :
    Quiet (is_disjoint E a b) (fun res =>
      E.Pure → res = isDisjointCode E.keq (la.map (·.1)) (lb.map (·.1))) := by
  unfold is_disjoint isDisjointCode
  rw [hra.1, hrb.1, List.length_map, List.length_map]
  split
  · exact (allContain_quiet E hra hrb false).mono fun _ h hp => by rw [h hp, selD_false]
  · exact (allContain_quiet E hrb hra false).mono fun _ h hp => by rw [h hp, selD_false]

/-- `|a| + |b| + 1` is fuel enough for every state a fresh iterator can reach. -/
theorem startIt_fuel (kind : AlgKind) {it : AlgIt} (h : meas it ≤ meas (startIt la.length lb.length kind)) :
    meas it < a.len + b.len + 1 := by
  have := startIt_meas la.length lb.length kind
  rw [hra.1, hrb.1]; omega

theorem algStart_eq (kind : AlgKind) (s : St K V Q) :
    algStart a b kind s = .ok (startIt la.length lb.length kind) s := by
  cases kind <;> simp [algStart, bind_apply, hra.iterStartR_ok, hrb.iterStartR_ok, startIt]

theorem filtHalf_quiet (want : Bool) (op : Nat) (P : AlgItem K → Prop)
    (hP : ∀ j (h : j < la.length), P (op, j, la[j].1))
    (it : SliceIt) (hit : it.hi ≤ la.length) :
    Quiet (filtNext E a b want it >>= fun x =>
        pure (x.1.map (fun y => match y with | (i, k) => (op, i, k)), x.2))
      (StepPost (fun it => tag op (selRest la (selD E.keq (lb.map (·.1)) want) it.len it.lo)) P E.Pure it) := by
  refine (filtNext_quiet E hra hrb want it hit).map ?_
  rintro ⟨o, it'⟩ ⟨h1, _, h3, h4, h5⟩
  simp only at h1 h3 h4 h5
  refine ⟨h1, h3, ?_, fun hp => ?_⟩
  · intro x hx
    obtain ⟨⟨j, k⟩, rfl, rfl⟩ := Option.map_eq_some_iff.mp hx
    obtain ⟨g1, _, _, g4, g5⟩ := h4 _ rfl
    simp only at g4 g5
    subst g5
    exact ⟨g1, hP j g4⟩
  · obtain ⟨g1, g2⟩ := h5 hp
    simp only [tag_head?, tag_tail, g1, g2, and_self]

theorem algFstNext_quiet
    (kind : AlgKind) (it : SliceIt) (hit : it.hi ≤ (if kind = .union then lb.length else la.length)) :
    Quiet (algFstNext E a b kind it)
      (StepPost (fstRest E.keq la lb kind) (ItemOf la lb) E.Pure it) := by
  cases kind with
  | difference | symmetric_difference =>
    exact filtHalf_quiet E hra hrb false 0 _ (itemOf0 la lb) it (by simpa using hit)
  | intersection => exact filtHalf_quiet E hra hrb true 0 _ (itemOf0 la lb) it (by simpa using hit)
  | union => exact plainHalf_quiet E a hrb _ (itemOf1 la lb) it (by simpa using hit)

theorem algSndNext_quiet
    (kind : AlgKind) (it : SliceIt) (hit : it.hi ≤ (if kind = .union then la.length else lb.length)) :
    Quiet (algSndNext E a b kind it)
      (StepPost (sndRest E.keq la lb kind) (ItemOf la lb) E.Pure it) := by
  cases kind with
  | union => exact filtHalf_quiet E hra hrb false 0 _ (itemOf0 la lb) it (by simpa using hit)
  | difference | symmetric_difference | intersection =>
    exact filtHalf_quiet E hrb hra false 1 _ (itemOf1 la lb) it (by simpa using hit)

theorem plainNext_quiet
    (kind : AlgKind) (fst : Option SliceIt) (hs : AlgInv la.length lb.length ⟨kind, fst, none⟩) :
    Quiet (match (generalizing := false) fst with
        | some it => algFstNext E a b kind it >>= fun x =>
            pure (x.1, ({ kind := kind, fst := some x.2, snd := none } : AlgIt))
        | none => pure (none, ⟨kind, fst, none⟩))
      (NextPost E.keq la lb E.Pure ⟨kind, fst, none⟩) := by
  cases fst with
  | none => exact Quiet.pure (NextPost.done hs)
  | some it =>
    refine Quiet.bind (algFstNext_quiet E hra hrb kind it (hs.fst it rfl)) ?_
    rintro ⟨o, it'⟩ h
    exact Quiet.pure (NextPost.of_fst hs h fun _ => rfl)

/-- `algNext`; for `Union` and `SymmetricDifference` it is `Chain::next`: the first half while it
    yields, then (the first half cleared) the second. -/
theorem algNext_quiet (s : AlgIt) (hs : AlgInv la.length lb.length s) :
    Quiet (algNext E a b s) (NextPost E.keq la lb E.Pure s) := by
  obtain ⟨kind, fst, snd⟩ := s
  unfold algNext
  dsimp only
  split
  · obtain rfl : snd = none := hs.plain (Or.inl rfl)
    exact plainNext_quiet E hra hrb .difference fst hs
  · obtain rfl : snd = none := hs.plain (Or.inr rfl)
    exact plainNext_quiet E hra hrb .intersection fst hs
  · rename_i hd hi
    have hs' : AlgInv la.length lb.length ⟨kind, none, snd⟩ :=
      ⟨fun _ e => (nomatch e), hs.snd, fun hk => (hk.elim hd hi).elim⟩
    -- after the first half: an item (then this is the step), or the state with the first half
    -- cleared, and (`back`) whatever is a step from there is a step from here
    refine Quiet.bind (Q₁ := fun x => match x.1 with
      | some _ => NextPost E.keq la lb E.Pure ⟨kind, fst, snd⟩ x
      | none => x.2 = ⟨kind, none, snd⟩ ∧ ∀ res, NextPost E.keq la lb E.Pure ⟨kind, none, snd⟩ res →
          NextPost E.keq la lb E.Pure ⟨kind, fst, snd⟩ res) ?_ ?_
    · cases fst with
      | none => exact Quiet.pure ⟨rfl, fun _ h => h⟩
      | some it =>
        refine Quiet.bind (algFstNext_quiet E hra hrb kind it (hs.fst it rfl)) ?_
        rintro ⟨o, it'⟩ h
        cases o with
        | some y => exact Quiet.pure (NextPost.of_fst hs h fun e => nomatch e)
        | none => exact Quiet.pure ⟨rfl, fun _ => NextPost.skip_fst h⟩
    · rintro ⟨o, s'⟩ h
      cases o with
      | some y => exact Quiet.pure h
      | none =>
        obtain ⟨rfl, back⟩ := h
        cases snd with
        | none => exact Quiet.pure (back _ (NextPost.done hs'))
        | some it =>
          refine Quiet.bind (algSndNext_quiet E hra hrb kind it (hs.snd it rfl)) ?_
          rintro ⟨o, it'⟩ h
          exact Quiet.pure (back _ (NextPost.of_snd hs' h))

/-- under a pure oracle the `i`-th of `k` calls of `next` returned the `i`-th item of `algRest`
    (`None` beyond the end, forever). -/
theorem nextN_quiet :
    ∀ (k : Nat) (s : AlgIt), AlgInv la.length lb.length s →
    Quiet (nextN E a b k s) (fun res =>
      res.2.kind = s.kind ∧ AlgInv la.length lb.length res.2 ∧ meas res.2 ≤ meas s ∧
      (E.Pure → res.1 = (List.range k).map (fun i => (algRest E.keq la lb s)[i]?) ∧
        algRest E.keq la lb res.2 = (algRest E.keq la lb s).drop k)) := by
  intro k
  induction k with
  | zero => exact fun s hs => Quiet.pure ⟨rfl, hs, Nat.le_refl _, fun _ => ⟨rfl, rfl⟩⟩
  | succ k ih =>
    intro s hs
    unfold nextN
    refine Quiet.bind (algNext_quiet E hra hrb s hs) ?_
    rintro ⟨o, s'⟩ ⟨k1, k2, k3, _, k5⟩
    simp only at k1 k2 k3 k5
    refine Quiet.bind (ih s' k2) ?_
    rintro ⟨os, s''⟩ ⟨m1, m2, m3, m5⟩
    simp only at m1 m2 m3 m5
    refine Quiet.pure ⟨m1.trans k1, m2, Nat.le_trans m3 k3, fun hp => ?_⟩
    obtain ⟨h1, h2⟩ := k5 hp
    obtain ⟨g1, g2⟩ := m5 hp
    simp only
    rw [g1, g2, h2, h1]
    refine ⟨?_, List.drop_tail⟩
    rw [List.range_succ_eq_map, List.map_cons, List.map_map, List.head?_eq_getElem?]
    exact congrArg _ (List.map_congr_left fun i _ => List.getElem?_tail)

theorem filtFoldHalf_quiet
    (want : Bool) (op : Nat) (P : AlgItem K → Prop) (hP : ∀ j (h : j < la.length), P (op, j, la[j].1))
    (it : SliceIt) (hit : it.hi ≤ la.length) :
    Quiet (filtFoldR E a b want it.len it.lo >>= fun r =>
        (pure (r.map fun x => match x with | (i, k) => (op, i, k)) : SM K V Q (List (AlgItem K))))
      (ListPost P E.Pure (tag op (selRest la (selD E.keq (lb.map (·.1)) want) it.len it.lo))) := by
  refine (filtFoldR_quiet E hra hrb want it.len it.lo (window_ok hit)).map ?_
  intro r ⟨h1, h2⟩
  refine ⟨fun x hx => ?_, fun hp => by rw [h2 hp]; rfl⟩
  obtain ⟨⟨j, k⟩, hy, rfl⟩ := List.mem_map.mp hx
  obtain ⟨hj, hk⟩ := h1 _ hy
  simp only at hj hk
  subst hk
  exact hP j hj

theorem algFstFold_quiet
    (kind : AlgKind) (it : SliceIt) (hit : it.hi ≤ (if kind = .union then lb.length else la.length)) :
    Quiet (algFstFold E a b kind it) (ListPost (ItemOf la lb) E.Pure (fstRest E.keq la lb kind it)) := by
  cases kind with
  | difference | symmetric_difference =>
    exact filtFoldHalf_quiet E hra hrb false 0 _ (itemOf0 la lb) it (by simpa using hit)
  | intersection => exact filtFoldHalf_quiet E hra hrb true 0 _ (itemOf0 la lb) it (by simpa using hit)
  | union =>
    have hit' : it.hi ≤ lb.length := by simpa using hit
    unfold algFstFold
    refine Quiet.bind (iterRestR_quiet hrb it.len it.lo (window_ok hit')) ?_
    rintro _ rfl
    have := zipIdx_plain lb it.lo it.len it.lo 0 rfl
    refine Quiet.pure ⟨?_, fun _ => ?_⟩
    · simp only
      rw [this]
      exact tag_selRest_forall (itemOf1 la lb) _ _ _
    · simp only [fstRest]
      exact this

theorem algSndFold_quiet
    (kind : AlgKind) (it : SliceIt) (hit : it.hi ≤ (if kind = .union then la.length else lb.length)) :
    Quiet (algSndFold E a b kind it) (ListPost (ItemOf la lb) E.Pure (sndRest E.keq la lb kind it)) := by
  cases kind with
  | union => exact filtFoldHalf_quiet E hra hrb false 0 _ (itemOf0 la lb) it (by simpa using hit)
  | difference | symmetric_difference | intersection =>
    exact filtFoldHalf_quiet E hrb hra false 1 _ (itemOf1 la lb) it (by simpa using hit)

/-- the custom `fold` (and `count`) from ANY well-formed state yields exactly what stepping with
    `next` would still yield. -/
theorem algFold_quiet (s : AlgIt) (hs : AlgInv la.length lb.length s) :
    Quiet (algFold E a b s) (ListPost (ItemOf la lb) E.Pure (algRest E.keq la lb s)) := by
  obtain ⟨kind, fst, snd⟩ := s
  refine Quiet.append ?_ ?_
  · cases fst with
    | none => exact Quiet.nil
    | some it => exact algFstFold_quiet E hra hrb kind it (hs.fst it rfl)
  · cases snd with
    | none => exact Quiet.nil
    | some it => exact algSndFold_quiet E hra hrb kind it (hs.snd it rfl)

end operands

/-- `size_hint` of every well-formed state of every one of the four iterators brackets the number
    of items still to come (the upper bound is always `Some`): each half's hint brackets what that
    half has left, and `Chain` adds the hints of the halves it still has. -/
theorem algHint_brackets {keq : K → K → Bool} (h : EquivB keq) {a b : Raw K V} {la lb : List (K × V)}
    (hra : Rep a la) (hrb : Rep b lb) (hna : NodupB keq (la.map (·.1))) (hnb : NodupB keq (lb.map (·.1)))
    (s : AlgIt) (hs : AlgInv la.length lb.length s) :
    Brackets (algHint a b s) (algRest keq la lb s).length := by
  obtain ⟨kind, fst, snd⟩ := s
  have h0 : Brackets (0, some 0) ([] : List (AlgItem K)).length := ⟨Nat.le_refl _, 0, rfl, Nat.le_refl _⟩
  have hda := fun it => diffHint_brackets h hrb hna 0 (it := it)
  have hdb := fun it => diffHint_brackets h hra hnb 1 (it := it)
  cases kind with
  | difference =>
    obtain rfl : snd = none := hs.plain (Or.inl rfl)
    cases fst with
    | none => exact h0
    | some x => exact (hda x (hs.fst x rfl)).append_nil
  | intersection =>
    obtain rfl : snd = none := hs.plain (Or.inr rfl)
    cases fst with
    | none => exact h0
    | some x => exact (interHint_brackets h hrb hna 0 (hs.fst x rfl)).append_nil
  | union =>
    cases fst with
    | none =>
      cases snd with
      | none => exact h0
      | some y => exact hda y (hs.snd y rfl)
    | some x =>
      have hx := plainHint_brackets (l := lb) 1 (hs.fst x rfl)
      cases snd with
      | none => exact hx.append_nil
      | some y => exact List.length_append ▸ hx.add (hda y (hs.snd y rfl))
  | symmetric_difference =>
    cases fst with
    | none =>
      cases snd with
      | none => exact h0
      | some y => exact hdb y (hs.snd y rfl)
    | some x =>
      have hx := hda x (hs.fst x rfl)
      cases snd with
      | none => exact hx.append_nil
      | some y => exact List.length_append ▸ hx.add (hdb y (hs.snd y rfl))

/-- draining an iterator with `next`: with fuel beyond the bound `meas` the fuel never runs out
    (no `ub`), whatever the oracle answers; under a pure oracle the result is `algRest`. -/
theorem algRunOut_quiet (E : Env K Unit Q) {a b : Raw K Unit} {la lb : List (K × Unit)}
    (hra : Rep a la) (hrb : Rep b lb) : ∀ (fuel : Nat) (s : AlgIt),
    AlgInv la.length lb.length s → meas s < fuel →
    Quiet (algRunOut E a b fuel s) (fun res =>
      (∀ x, x ∈ res → ItemOf la lb x) ∧ res.length ≤ meas s ∧
      (E.Pure → res = algRest E.keq la lb s)) := by
  intro fuel
  induction fuel with
  | zero => intro _ _ hm; omega
  | succ n ih =>
    intro s hs hm
    unfold algRunOut
    refine Quiet.bind (algNext_quiet E hra hrb s hs) ?_
    rintro ⟨o, s'⟩ ⟨_, k2, k3, k4, k5⟩
    simp only at k2 k3 k4 k5
    cases o with
    | none =>
      refine Quiet.pure ⟨fun x h => (by cases h), Nat.zero_le _, fun hp => ?_⟩
      exact (eq_nil_of_head?_none (k5 hp).1).symm
    | some x =>
      obtain ⟨m1, m2⟩ := k4 x rfl
      refine Quiet.bind (ih s' k2 (by omega)) ?_
      intro r ⟨r1, r2, r3⟩
      refine Quiet.pure ⟨List.forall_mem_cons.mpr ⟨m2, r1⟩, by simp only [List.length_cons]; omega, fun hp => ?_⟩
      rw [r3 hp, (k5 hp).2]
      exact (cons_of_head? (k5 hp).1).symm

/-- the collecting loop of `Sub`, with `D` the keys `Difference` still has to yield: in a benign
    lawful world where a clone compares equal to its source, every key of `D` is cloned once and
    appended (never replaced, never overflowing) to the local set.  The clone of the head is absent
    from the local set because the head is, and it keeps the tail absent because `D` has no duplicates. -/
theorem subLoop_run (E : Env K Unit Q) (hE : E.Lawful) (hcl : ∀ n k, E.keq (E.clK n k) k = true)
    {a b : Raw K Unit} {la lb : List (K × Unit)} (hra : Rep a la) (hrb : Rep b lb) :
    ∀ (n : Nat) (it : SliceIt) (D : List K) (l : List (K × Unit)) (s : St K Unit Q),
    (selRest la (selD E.keq (lb.map (·.1)) false) it.len it.lo).map (·.2) = D →
    it.hi ≤ la.length → Benign s.w → Rep s.r l → D.length < n → l.length + D.length ≤ s.r.cap →
    NodupB E.keq D → (∀ x, x ∈ D → memB E.keq x (l.map (·.1)) = false) →
    ∃ s' ids, ids.length = D.length ∧ subLoop E a b n it s = .ok () s' ∧ s'.r.cap = s.r.cap ∧
      Rep s'.r (l ++ (List.zipWith E.clK ids D).map (fun c => (c, ()))) ∧
      WRel s.w s'.w (cloneTrace D (List.zipWith E.clK ids D)) := by
  intro n
  induction n with
  | zero => intro _ _ _ _ _ _ _ _ hn; omega
  | succ n ih =>
    intro it D l s hD hit hw hr hn hroom hnd hfresh
    obtain ⟨⟨o, it'⟩, s1, h1, h2, h3, h4, _, _, _, h8⟩ := (filtNext_quiet E hra hrb false it hit).run hw
    obtain ⟨k1, k2⟩ := h8 hE.toPure
    simp only at h4 k1 k2
    unfold subLoop
    cases hR : selRest la (selD E.keq (lb.map (·.1)) false) it.len it.lo with
    | nil =>
      rw [hR] at hD k1
      subst hD k1
      refine ⟨s1, [], rfl, by simp only [bind_apply, h1]; rfl, by rw [h2], ?_, h3⟩
      rw [h2]; exact (List.append_nil l).symm ▸ hr
    | cons x t =>
      obtain ⟨j, k⟩ := x
      rw [hR] at hD k1 k2
      subst hD k1
      rw [List.map_cons] at hn hroom hnd hfresh ⊢
      obtain ⟨k', s2, c1, c2, c3, m, c4⟩ := (EqClone.cloneK_cb E k).benign (h3.benign hw)
      subst c4
      have hw2 : Benign s2.w := c3.benign (h3.benign hw)
      have hr2 : Rep s2.r l := by rw [c2, h2]; exact hr
      have hcap2 : s2.r.cap = s.r.cap := by rw [c2, h2]
      have habs : findKey E l (.key (E.clK m k)) = none := by
        rw [← Option.not_isSome_iff_eq_none, findKey_isSome_eq_memB, memB_congr hE.equivB (hcl m k),
          hfresh _ List.mem_cons_self]
        exact Bool.false_ne_true
      rw [List.length_cons] at hn hroom
      have hins := insert_benign E hE.toPure hr2 hw2 (E.clK m k) ()
      rw [habs] at hins
      obtain ⟨_, s3, i1, hr3, i2, hw3⟩ | ⟨hfull, _⟩ := hins
      case inr => omega
      rw [NodupB, List.pairwise_cons] at hnd
      obtain ⟨s4, ids, e0, e1, e2, e3, e5⟩ :=
        ih it' (t.map (·.2)) (l ++ [(E.clK m k, ())]) s3 (congrArg (List.map (·.2)) k2) (h4 ▸ hit)
          (hw3.benign hw2) hr3 (by omega)
          (by rw [List.length_append, List.length_singleton, i2, hcap2]; omega)
          hnd.2 (fun y hy => by
            rw [List.map_append, memB_append, hfresh y (List.mem_cons_of_mem _ hy), Bool.false_or]
            show (E.keq (E.clK m k) y || false) = false
            rw [Bool.or_false, hE.symm, keq_congr_right hE.equivB (hcl m k), hE.symm]
            exact hnd.1 y hy)
      refine ⟨s4, m :: ids, by rw [List.length_cons, List.length_cons, e0],
        by simp only [bind_apply, h1, List.head?_cons, c1, i1]; exact e1, by rw [e2, i2, hcap2], ?_, ?_⟩
      · rw [List.append_assoc] at e3; exact e3
      · exact ((h3.trans c3).trans hw3).trans e5

end Micromap.Alg
