/-
The run of each map operation of one register from a state that represents the list `l`, in the
form that `stepMapOp_ok` (`ListSysMapOp.lean`: `stepMapOp` computes `lMapOp`) assembles: the
dictionary operations, `retain`, `clear`, drains and consuming iterators, drop and forget, `eq`,
formatting.  Iterator scripts and `get_disjoint_mut` are in `ListSysIter.lean`, entry chains in
`ListSysEntry.lean`.
-/
import Micromap.Proofs.ListSysBase
import Micromap.Proofs.Benign

namespace Micromap.ListSys
open Micromap
variable {K V Q : Type}

/-- the slot-machine computation `m`, run from `s`, has the outcome `res` the interpreter gives:
    same returned value / panic class, and the state afterwards represents the list of `res`. -/
def RegOK (prof : Profile) (cap : Nat) : RRes K V → SM K V Q (RV K V) → St K V Q → Prop
  | .ok ret l', m, s => Ret m s ret (Ctx prof cap l')
  | .panic c l', m, s => Pan m s c (Ctx prof cap l')

theorem RegOK.bind_ret {α : Type} {prof cap} {res : RRes K V} {m : SM K V Q α} {f : α → SM K V Q (RV K V)}
    {s : St K V Q} {a : α} {P : St K V Q → Prop} (h : Ret m s a P)
    (hf : ∀ s', P s' → RegOK prof cap res (f a) s') : RegOK prof cap res (m >>= f) s := by
  cases res with
  | ok r l => exact Ret.bind h hf
  | panic c l => exact Ret.bind_pan h hf

theorem RegOK.of_lookup {prof cap} {o : Option (Nat × (K × V))} {res₁ : Nat → K × V → RRes K V}
    {res₀ : RRes K V} {m : SM K V Q (RV K V)} {s : St K V Q} {P₁ : Nat → K × V → Prop} {P₀ : Prop}
    (h : match o with | some (i, p) => P₁ i p | none => P₀)
    (h₁ : ∀ i p, P₁ i p → RegOK prof cap (res₁ i p) m s) (h₀ : P₀ → RegOK prof cap res₀ m s) :
    RegOK prof cap (match o with | some (i, p) => res₁ i p | none => res₀) m s := by
  cases o with
  | none => exact h₀ h
  | some x => exact h₁ x.1 x.2 h

variable (E : Env K V Q) (R : Render K V)

section dict
variable {prof : Profile} {cap : Nat} {l : List (K × V)} {s : St K V Q}

/-- the shape the insertions share, from the `X_benign` statement `h` of the insertion `m` to its
    run on the represented list: a stored key is found at `i` — `m` returns `A₁ i l[i]` and the list
    becomes `L₁ i l[i]`; an absent key with room — `m` returns `a₂`, the list becomes `l₂`; an absent
    key on a full container — `F` is what `h` says then and `G` what the caller wants of it
    (`insert` panics, `checked_insert` returns `None`). -/
theorem ins_ret {α : Type} {m : SM K V Q α} {k : K} (A₁ : Nat → K × V → α)
    (L₁ : Nat → K × V → List (K × V)) {a₂ : α} {l₂ : List (K × V)} {tr₁ tr₂} {F G : Prop}
    (hc : Ctx prof cap l s)
    (h : match findKey E l (.key k) with
      | some i => ∃ (hi : i < l.length) (s' : St K V Q), m s = .ok (A₁ i l[i]) s' ∧
          Rep s'.r (L₁ i l[i]) ∧ s'.r.cap = s.r.cap ∧ WRel s.w s'.w tr₁
      | none => (l.length < s.r.cap ∧ ∃ s', m s = .ok a₂ s' ∧ Rep s'.r l₂ ∧ s'.r.cap = s.r.cap ∧
          WRel s.w s'.w tr₂) ∨ (l.length = s.r.cap ∧ F))
    (hF : F → G) :
    match lookup E l (.key k) with
    | some (i, p) => Ret m s (A₁ i p) (Ctx prof cap (L₁ i p))
    | none => if l.length < cap then Ret m s a₂ (Ctx prof cap l₂) else G :=
  match_lookup E h (fun _ _ => hc.ret_step) fun h => by
    rcases h with ⟨hroom, h⟩ | ⟨hfull, h⟩
    · rw [if_pos (hc.cap ▸ hroom)]; exact hc.ret_step h
    · rw [if_neg (by rw [← hc.cap]; omega)]; exact hF h

theorem insert_ret (hE : E.Pure) (hc : Ctx prof cap l s) (k : K) (v : V) :
    match lookup E l (.key k) with
    | some (i, p) => Ret (insert E k v) s (some p.2) (Ctx prof cap (l.set i (p.1, v)))
    | none =>
      if l.length < cap then Ret (insert E k v) s none (Ctx prof cap (l ++ [(k, v)]))
      else Pan (insert E k v) s (fullPanic prof) (Ctx prof cap l) :=
  ins_ret E (fun _ p => some p.2) (fun i p => l.set i (p.1, v)) hc
    (insert_benign E hE hc.rep hc.benign k v) hc.pan_of_overflow

/-- the wrapper `m >>= f` of such an insertion in `stepMapOp` / `stepSetOp` computes `lInsert`. -/
theorem lInsert_ok {α : Type} {m : SM K V Q α} {f : α → SM K V Q (RV K V)} {k : K}
    {A₁ : Nat → K × V → α} {L₁ : Nat → K × V → List (K × V)} {a₂ : α} {l₂ : List (K × V)}
    {r₁ : Nat → K × V → RV K V} {r₂ : RV K V} {full : RRes K V}
    (h : match lookup E l (.key k) with
      | some (i, p) => Ret m s (A₁ i p) (Ctx prof cap (L₁ i p))
      | none => if l.length < cap then Ret m s a₂ (Ctx prof cap l₂) else RegOK prof cap full (m >>= f) s)
    (h₁ : ∀ i p, f (A₁ i p) = pure (r₁ i p)) (h₂ : f a₂ = pure r₂) :
    RegOK prof cap (lInsert E cap l k (fun i p => .ok (r₁ i p) (L₁ i p)) (.ok r₂ l₂) full) (m >>= f) s := by
  unfold lInsert
  cases hl : lookup E l (.key k) with
  | some x => obtain ⟨i, p⟩ := x; rw [hl] at h; exact h.bind_pure (h₁ i p)
  | none =>
    rw [hl] at h
    by_cases hr : l.length < cap
    · rw [if_pos hr] at h ⊢; exact h.bind_pure h₂
    · rw [if_neg hr] at h ⊢; exact h

theorem get_ret (hE : E.Pure) (hc : Ctx prof cap l s) (pr : Probe K Q) :
    match lookup E l pr with
    | some (i, p) => Ret (get E pr) s (some (i, p)) (Ctx prof cap l)
    | none => Ret (get E pr) s none (Ctx prof cap l) :=
  match_lookup E (get_benign E hE hc.rep hc.benign pr) (fun _ _ => hc.ret_frame) hc.ret_frame

theorem contains_key_ret (hE : E.Pure) (hc : Ctx prof cap l s) (pr : Probe K Q) :
    Ret (contains_key E pr) s (findKey E l pr).isSome (Ctx prof cap l) :=
  hc.ret_frame (contains_key_benign E hE hc.rep hc.benign pr)

theorem remove_ret (hE : E.Pure) (hc : Ctx prof cap l s) (pr : Probe K Q) :
    match lookup E l pr with
    | some (i, p) => Ret (remove E pr) s (some p.2) (Ctx prof cap (Dict.swapRemove l i))
    | none => Ret (remove E pr) s none (Ctx prof cap l) :=
  match_lookup E (remove_benign E hE hc.rep hc.benign pr) (fun _ _ => hc.ret_step) hc.ret_frame

theorem remove_entry_ret (hE : E.Pure) (hc : Ctx prof cap l s) (pr : Probe K Q) :
    match lookup E l pr with
    | some (i, p) => Ret (remove_entry E pr) s (some p) (Ctx prof cap (Dict.swapRemove l i))
    | none => Ret (remove_entry E pr) s none (Ctx prof cap l) :=
  match_lookup E (remove_entry_benign E hE hc.rep hc.benign pr) (fun _ _ => hc.ret_step) hc.ret_frame

theorem get_mut_ret (hE : E.Pure) (hc : Ctx prof cap l s) (pr : Probe K Q) (g : V → V) :
    match lookup E l pr with
    | some (i, p) =>
      Ret (get_mut E pr g) s (some (i, (p.1, g p.2))) (Ctx prof cap (l.set i (p.1, g p.2)))
    | none => Ret (get_mut E pr g) s none (Ctx prof cap l) :=
  match_lookup E (get_mut_benign E hE hc.rep hc.benign pr g) (fun _ _ => hc.ret_step) hc.ret_frame

theorem retain_ret (hc : Ctx prof cap l s) (f : Nat → K → V → Bool × V) (hf : ∀ n k v, f n k v = f 0 k v) :
    Ret (retain E f) s () (Ctx prof cap (Dict.retainL (f 0) l.length 0 l)) := by
  obtain ⟨s', hm, hrep, hcap, tr, hw⟩ := retain_benign E f (f 0) hf hc.rep hc.benign
  exact ⟨s', hm, hc.step hrep hcap hw⟩

theorem clear_ret (hc : Ctx prof cap l s) : Ret (clear E) s () (Ctx prof cap ([] : List (K × V))) :=
  hc.ret_step (clear_benign E hc.rep hc.benign)

theorem drainOp_ret (hc : Ctx prof cap l s) (take : Nat) (forget : Bool) :
    Ret (drainOp E take forget) s (l.take take, l.length - take, l.drop take)
      (Ctx prof cap ([] : List (K × V))) :=
  hc.ret_step (Iters.drainOp_benign E take forget hc.rep hc.benign)

theorem intoIterOp_ret (hc : Ctx prof cap l s) (kind : IntoKind) (take : Nat) (forget : Bool) :
    Ret (intoIterOp E kind take forget) s
      (l.reverse.take take, l.length - take, l.take (l.length - take))
      (Ctx prof cap ([] : List (K × V))) := by
  obtain ⟨s', hm, hr, hw⟩ := Iters.intoIterOp_benign E kind take forget hc.rep hc.benign
  exact ⟨s', hm, hc.step (hr ▸ Rep.new _) (by rw [hr]; rfl) hw⟩

theorem dropAndRenew_ret (hc : Ctx prof cap l s) :
    Ret (dropAndRenew E) s () (Ctx prof cap ([] : List (K × V))) := by
  obtain ⟨s', hm, hr, hw⟩ := Iters.dropAndRenew_benign E hc.rep hc.benign
  exact ⟨s', hm, hc.step (hr ▸ Rep.new _) (by rw [hr]; rfl) hw⟩

theorem forgetMap_ret (hc : Ctx prof cap l s) :
    Ret (forgetMap : SM K V Q Unit) s () (Ctx prof cap ([] : List (K × V))) := by
  refine ⟨_, Iters.forgetMap_eq s, ?_⟩
  exact hc.step (Rep.new _) rfl (Iters.WRel.leaked s.w _)

theorem mapEq_ret (hE : E.Pure) (hc : Ctx prof cap l s) {a b : Raw K V} {la lb : List (K × V)}
    (ha : Rep a la) (hb : Rep b lb) :
    Ret (mapEq E a b) s (SetAlg.mapEqCode E.keq (EqClone.veq E) la lb) (Ctx prof cap l) := by
  obtain ⟨r, hr, h⟩ := cb_ret (EqClone.mapEq_cb E ha hb) hc
  rw [hr hE] at h; exact h

theorem fmtMap_eq (hc : Ctx prof cap l s) (kind : FmtKind) :
    fmtMap R kind s = .ok (lFmtMap R kind l) s := by
  show (entriesOf s.r >>= _) s = _
  rw [bind_apply, Iters.entriesOf_rep hc.rep]
  cases kind <;> rfl

end dict

/-- the operations of the safe `Map` API whose refinement does not need more than `E.Pure`
    and, for `retain`, a predicate that does not depend on the call counter. -/
def MapOp.SideOK : MapOp K V Q → Prop
  | .retain f => ∀ n k v, f n k v = f 0 k v
  | _ => True

end Micromap.ListSys
