/-
Triples of std's provided iterator methods `nth`, `count`, `last` on the crate's owning iterators
(`Model/StdIter.lean`).  All statements hold for every `Env`, every world (any equality oracle,
any armed injected panic, either profile) and every content `l` (`Rep s.r l`) unless `Benign` is
assumed explicitly.
-/
import Micromap.Proofs.Iters
import Micromap.Model.StdIter

namespace Micromap.StdIterP
open Micromap Micromap.Iters
variable {K V Q : Type} (E : Env K V Q)
variable {r r' : Raw K V} {s : St K V Q} {l ps : List (K × V)} {lo hi : Nat} (kind : IntoKind)

theorem getLast?_take_sub {α : Type} (l : List α) (k : Nat) :
    (l.take (l.length - k)).getLast? = l.reverse[k]? := by
  rw [← List.head?_drop, List.drop_reverse, List.head?_reverse]

theorem dropLast_take_sub {α : Type} (l : List α) (k : Nat) :
    (l.take (l.length - k)).dropLast = l.take (l.length - (k + 1)) := by
  rw [List.dropLast_eq_take, List.length_take, List.take_take, Nat.min_eq_left (Nat.sub_le _ _),
    Nat.min_eq_left (Nat.sub_le _ _), Nat.sub_sub]

/-- the effects of the caller dropping an item it got from a consuming iterator of kind `kind`. -/
def itemTr (kind : IntoKind) (p : K × V) : List (Event K V Q) :=
  match kind with
  | .pairs => .dropK p.1 :: dropVTr E p.2
  | .keys => [.dropK p.1]
  | .values => dropVTr E p.2

/-- all effects of one skipped item: the half `next` discards, then the caller's drop of the item. -/
def skipTr (kind : IntoKind) (p : K × V) : List (Event K V Q) :=
  discardTr E kind p ++ itemTr E kind p

theorem dropItem_cb (p : K × V) :
    CbOk (dropItem E kind p) (fun _ => itemTr E kind p) (fun _ _ => True) := by
  cases kind with
  | pairs => exact dropPair_cb E p
  | keys => exact dropK_cb p.1
  | values => exact dropV_cb E p.2

theorem leakItem_cb (p : K × V) :
    CbOk (leakItem (Q := Q) kind p) (fun _ => []) (fun _ _ => True) := by
  cases kind with
  | pairs =>
    have := CbOk.seq (leak_cb (Q := Q) (Obj.k p.1 : Obj K V))
      (fun _ => (leak_cb (Q := Q) (Obj.v p.2 : Obj K V)).mono (fun _ => rfl) (fun _ _ _ => trivial))
    exact this.mono (fun _ => rfl) (fun _ _ h => h)
  | keys => exact leak_cb _
  | values => exact leak_cb _

/-- `next` called from a frame that owns something a callback destroys on unwinding (`fold`'s
    accumulator): same triple as `intoIterNextK_sat`. -/
theorem intoIterNextK_guarded_sat {cl : SM K V Q Unit} {tc Qc} (hcl : CbOk cl tc Qc)
    (hr : Rep s.r l) :
    Sat (unwindWith cl (intoIterNextK E kind)) s
      (fun o s' => o = l.getLast? ∧ Rep s'.r l.dropLast ∧ s'.r.cap = s.r.cap ∧
        WRel s.w s'.w ((o.map (discardTr E kind)).getD []))
      (fun c s' => Rep s'.r l.dropLast ∧ s'.r.cap = s.r.cap ∧ InjPanic s s' c ∧ l ≠ [] ∧ kind ≠ .pairs) := by
  refine Sat.unwindWith_cb hcl (intoIterNextK_sat E kind hr) ?_
  intro c s1 s2 ⟨h1, h2, h3, h4, h5⟩ g1 g2
  exact ⟨g1 ▸ h1, g1 ▸ h2, h3.extend g2, h4, h5⟩

/-- `advance_by(k)`.  If a destructor unwinds, a shorter front of the list is left. -/
theorem intoIterSkip_sat : ∀ (k : Nat) (s : St K V Q) (l : List (K × V)), Rep s.r l →
    Sat (intoIterSkip E kind k) s
      (fun b s' => b = decide (k ≤ l.length) ∧ Rep s'.r (l.take (l.length - k)) ∧ s'.r.cap = s.r.cap ∧
        WRel s.w s'.w ((l.reverse.take k).flatMap (skipTr E kind)))
      (PopUnw s l)
  | 0, s, l, hr => Sat.pure ⟨by simp, by simpa using hr, rfl, by simpa using WRel.refl _⟩
  | k + 1, s, l, hr => by
    unfold intoIterSkip
    refine pop_sat E kind (intoIterNextK_sat E kind hr) (dropItem_cb E kind) ?_ ?_ (fun _ _ h => h)
    · rintro rfl s1 h2 h3 h4
      exact Sat.pure ⟨by simp, by simpa using h2, h3, by simpa using h4⟩
    · rintro L p rfl s2 h2 h3 h4
      refine Sat.mono (intoIterSkip_sat k s2 L h2) ?_ (fun c s3 h => h.snoc h3 h4)
      intro b s3 ⟨k1, k2, k3, k4⟩
      exact ⟨by simp [k1], by rw [take_snoc_sub]; exact k2, k3.trans h3,
        by simpa [skipTr, List.append_assoc] using h4.trans k4⟩

theorem intoIterNth_sat (k : Nat) (hr : Rep s.r l) :
    Sat (intoIterNth E kind k) s
      (fun o s' => o = l.reverse[k]? ∧ Rep s'.r (l.take (l.length - (k + 1))) ∧ s'.r.cap = s.r.cap ∧
        WRel s.w s'.w ((l.reverse.take k).flatMap (skipTr E kind) ++ (o.map (discardTr E kind)).getD []))
      (PopUnw s l) := by
  unfold intoIterNth
  refine Sat.bind (intoIterSkip_sat E kind k s l hr) ?_
  intro b s1 ⟨h1, h2, h3, h4⟩
  subst h1
  by_cases hk : k ≤ l.length
  · simp only [hk, decide_true, if_true]
    refine Sat.mono (intoIterNextK_sat E kind h2) ?_ ?_
    · intro o s2 ⟨g1, g2, g3, g4⟩
      rw [getLast?_take_sub] at g1
      rw [dropLast_take_sub] at g2
      exact ⟨g1, g2, by rw [g3, h3], h4.trans g4⟩
    · intro c s2 ⟨g1, g2, g3, g4, _⟩
      exact (PopUnw.of_next g1 g2 g3 g4).of_take h3 h4
  · simp only [hk, decide_false, Bool.false_eq_true, if_false]
    have hn : l.reverse[k]? = none := List.getElem?_eq_none (by simp; omega)
    have h0 : l.length - (k + 1) = l.length - k := by omega
    refine Sat.pure ⟨hn.symm, by rw [h0]; exact h2, h3, ?_⟩
    simpa [hn] using h4

theorem intoIterCount_sat : ∀ (fuel : Nat) (s : St K V Q) (l : List (K × V)), Rep s.r l →
    Sat (intoIterCount E kind fuel) s
      (fun n s' => n = min fuel l.length ∧ Rep s'.r (l.take (l.length - fuel)) ∧ s'.r.cap = s.r.cap ∧
        WRel s.w s'.w ((l.reverse.take fuel).flatMap (skipTr E kind)))
      (PopUnw s l)
  | 0, s, l, hr => Sat.pure ⟨by simp, by simpa using hr, rfl, by simpa using WRel.refl _⟩
  | fuel + 1, s, l, hr => by
    unfold intoIterCount
    refine pop_sat E kind (intoIterNextK_sat E kind hr) (dropItem_cb E kind) ?_ ?_ (fun _ _ h => h)
    · rintro rfl s1 h2 h3 h4
      exact Sat.pure ⟨by simp, by simpa using h2, h3, by simpa using h4⟩
    · rintro L p rfl s2 h2 h3 h4
      refine Sat.bind (Sat.mono (intoIterCount_sat fuel s2 L h2) (fun _ _ h => h)
        (fun c s3 h => h.snoc h3 h4)) ?_
      intro n s3 ⟨k1, k2, k3, k4⟩
      exact Sat.pure ⟨by simp [k1], by rw [take_snoc_sub]; exact k2, k3.trans h3,
        by simpa [skipTr, List.append_assoc] using h4.trans k4⟩

/-- the effects of `last()` on the items `ps` (in yield order) with accumulator `acc`: the half
    `next` discards of the new item, then the drop of the previous item. -/
def lastTr (kind : IntoKind) : Option (K × V) → List (K × V) → List (Event K V Q)
  | _, [] => []
  | acc, p :: ps => discardTr E kind p ++ ((acc.map (itemTr E kind)).getD [] ++ lastTr kind (some p) ps)

/-- dropping `fold`'s accumulator: as clean-up when `next` unwinds, or — with the new item `p`
    already in the return place, hence leaked if the drop unwinds — once `next` has returned. -/
theorem dropAcc_cb (acc : Option (K × V)) :
    CbOk (match acc with | some q => dropItem E kind q | none => pure ())
      (fun _ => (acc.map (itemTr E kind)).getD []) (fun _ _ => True) := by
  cases acc with
  | none => exact (CbOk.pure ()).mono (fun _ => rfl) (fun _ _ _ => trivial)
  | some q => exact dropItem_cb E kind q

theorem dropAccLeak_cb (acc : Option (K × V)) (p : K × V) :
    CbOk (match acc with | some q => unwindWith (leakItem kind p) (dropItem E kind q) | none => pure ())
      (fun _ => (acc.map (itemTr E kind)).getD []) (fun _ _ => True) := by
  cases acc with
  | none => exact (CbOk.pure ()).mono (fun _ => rfl) (fun _ _ _ => trivial)
  | some q => exact CbOk.unwindWith (leakItem_cb kind p) (dropItem_cb E kind q)

/-- one round of `last()`, with the clean-up of `fold`'s frame and the drop of the old accumulator
    as one callback each. -/
theorem intoIterLast_succ (fuel : Nat) (acc : Option (K × V)) :
    intoIterLast E kind (fuel + 1) acc =
      (unwindWith (match acc with | some q => dropItem E kind q | none => pure ()) (intoIterNextK E kind) >>=
        fun o => match o with
        | none => pure acc
        | some p =>
          (match acc with
            | some q => unwindWith (leakItem kind p) (dropItem E kind q)
            | none => pure ()) >>= fun _ => intoIterLast E kind fuel (some p)) := by
  cases acc <;> rfl

theorem intoIterLast_sat : ∀ (fuel : Nat) (acc : Option (K × V)) (s : St K V Q)
    (l : List (K × V)), Rep s.r l → l.length < fuel →
    Sat (intoIterLast E kind fuel acc) s
      (fun o s' => o = l.head?.or acc ∧ Rep s'.r [] ∧ s'.r.cap = s.r.cap ∧
        WRel s.w s'.w (lastTr E kind acc l.reverse))
      (PopUnw s l)
  | 0, _, _, _, _, hf => by omega
  | fuel + 1, acc, s, l, hr, hf => by
    rw [intoIterLast_succ]
    refine pop_sat E kind (intoIterNextK_guarded_sat E kind (dropAcc_cb E kind acc) hr)
      (dropAccLeak_cb E kind acc) ?_ ?_ (fun _ _ h => h)
    · rintro rfl s1 h2 h3 h4
      exact Sat.pure ⟨by simp, h2, h3, by simpa [lastTr] using h4⟩
    · rintro L p rfl s2 h2 h3 h4
      refine Sat.mono (intoIterLast_sat fuel (some p) s2 L h2 (by simp at hf; omega)) ?_
        (fun c s3 h => h.snoc h3 h4)
      intro o s3 ⟨k1, k2, k3, k4⟩
      refine ⟨?_, k2, k3.trans h3, by simpa [lastTr, List.append_assoc] using h4.trans k4⟩
      rw [k1]; cases L <;> simp

/-- the objects of an item of kind `kind`. -/
def leakObjs (kind : IntoKind) (p : K × V) : List (Obj K V) :=
  match kind with
  | .pairs => [.k p.1, .v p.2]
  | .keys => [.k p.1]
  | .values => [.v p.2]

/-- `m` records no leak, whether it returns or unwinds (and never reaches `ub`).  A triple of its own
    beside `CbOk`: `WRel` relates profile, injection, call count and trace of two worlds but not
    `leaked` (`WRel.leaked`), so what `last()` leaks cannot be read off the callback triples. -/
def Lk {α : Type} (m : SM K V Q α) : Prop :=
  ∀ s, Sat m s (fun _ s' => s'.w.leaked = s.w.leaked) (fun _ s' => s'.w.leaked = s.w.leaked)

theorem Lk.pure {α : Type} (a : α) : Lk (pure a : SM K V Q α) := fun _ => rfl

theorem Lk.bind {α β : Type} {m : SM K V Q α} {f : α → SM K V Q β} (hm : Lk m) (hf : ∀ a, Lk (f a)) :
    Lk (m >>= f) := by
  intro s
  refine Sat.bind (hm s) ?_
  intro a s1 h1
  exact Sat.mono (hf a s1) (fun _ _ h => h.trans h1) (fun _ _ h => h.trans h1)

/-- a clean-up that records no leak keeps what the unwinding body says about `leaked`. -/
theorem unwindWith_lk {α : Type} {c : SM K V Q Unit} {b : SM K V Q α} {tc Qc} (hc : CbOk c tc Qc) (hcl : Lk c)
    {Qp : α → St K V Q → Prop} {P : List (Obj K V) → Prop} (hb : Sat b s Qp (fun _ s' => P s'.w.leaked)) :
    Sat (unwindWith c b) s Qp (fun _ s' => P s'.w.leaked) := by
  refine Sat.unwindWith hb ?_
  intro cl s1 h1
  refine Sat.mono (Sat.and (hc.unw (s1.setUnw true) rfl) (hcl (s1.setUnw true))) ?_ (fun _ _ h => h.1)
  intro _ s2 ⟨_, g⟩
  show P s2.w.leaked
  rw [g]; exact h1

theorem Lk.unwindWith {α : Type} {c : SM K V Q Unit} {b : SM K V Q α} {tc Qc} (hc : CbOk c tc Qc)
    (hcl : Lk c) (hb : Lk b) : Lk (unwindWith c b) :=
  fun s => unwindWith_lk hc hcl (P := (· = s.w.leaked)) (hb s)

theorem tick_lk : Lk (tick : SM K V Q Unit) := by
  intro s
  obtain ⟨r, ⟨profile, inject, unwinding, calls, nextId, events, leaked⟩⟩ := s
  unfold Sat tick
  cases unwinding with
  | true => rfl
  | false =>
    cases inject with
    | none => rfl
    | some n => cases n <;> rfl

theorem logE_lk (e : Event K V Q) : Lk (logE e : SM K V Q Unit) := fun _ => rfl

theorem dropK_lk (k : K) : Lk (dropK k : SM K V Q Unit) := Lk.bind (logE_lk _) (fun _ => tick_lk)

theorem dropV_lk (v : V) : Lk (dropV E v) := by
  unfold dropV
  split
  · exact Lk.bind (logE_lk _) (fun _ => tick_lk)
  · exact Lk.pure ()

theorem dropPair_lk (p : K × V) : Lk (dropPair E p) :=
  Lk.bind (Lk.unwindWith (dropV_cb E p.2) (dropV_lk E p.2) (dropK_lk p.1)) (fun _ => dropV_lk E p.2)

theorem dropItem_lk (p : K × V) : Lk (dropItem E kind p) := by
  cases kind with
  | pairs => exact dropPair_lk E p
  | keys => exact dropK_lk p.1
  | values => exact dropV_lk E p.2

theorem leakItem_leaked (p : K × V) (t : St K V Q) :
    Sat (leakItem (Q := Q) kind p) t (fun _ t' => t'.w.leaked = t.w.leaked ++ leakObjs kind p)
      (fun _ _ => False) := by
  cases kind <;> simp [Sat, leakItem, leak, modS, leakObjs]

/-- a body that records no leak, with the item `p` in the return place: if it unwinds, exactly `p` is
    leaked. -/
theorem leakOnUnwind {α : Type} {b : SM K V Q α} (hb : Lk b) (p : K × V) (s : St K V Q) :
    Sat (unwindWith (leakItem kind p) b) s (fun _ s' => s'.w.leaked = s.w.leaked)
      (fun _ s' => s'.w.leaked = s.w.leaked ++ leakObjs kind p) := by
  refine Sat.unwindWith (hb s) ?_
  intro c s1 g
  refine Sat.mono (leakItem_leaked (Q := Q) kind p (s1.setUnw true)) ?_ (fun _ _ h => h)
  intro _ s2 g2
  simpa [g] using g2

/-- `next` leaks nothing when it returns; if the drop of the discarded half unwinds, exactly the
    kept half of the popped entry `p` — the item — is leaked. -/
theorem intoIterNextK_leaked (hr : Rep s.r l) :
    Sat (intoIterNextK E kind) s (fun _ s' => s'.w.leaked = s.w.leaked)
      (fun _ s' => ∃ p, l.getLast? = some p ∧ s'.w.leaked = s.w.leaked ++ leakObjs kind p) := by
  obtain ⟨s1, h1, _, _, h4, _⟩ := intoIterNext_spec hr
  unfold intoIterNextK
  refine Sat.bind_ok h1 ?_
  cases hl : l.getLast? with
  | none => exact Sat.pure (by rw [h4])
  | some p =>
    cases kind with
    | pairs => exact Sat.pure (by rw [h4])
    | keys =>
      exact Sat.bind (Q₁ := fun _ s' => s'.w.leaked = s.w.leaked)
        (Sat.mono (leakOnUnwind .keys (dropV_lk E p.2) p s1) (fun _ _ h => h4 ▸ h) (fun _ _ h => ⟨p, rfl, h4 ▸ h⟩))
        (fun _ _ h => Sat.pure h)
    | values =>
      exact Sat.bind (Q₁ := fun _ s' => s'.w.leaked = s.w.leaked)
        (Sat.mono (leakOnUnwind .values (dropK_lk p.1) p s1) (fun _ _ h => h4 ▸ h) (fun _ _ h => ⟨p, rfl, h4 ▸ h⟩))
        (fun _ _ h => Sat.pure h)

/-- `last()` records no leak when it returns; when it unwinds, the only new leaked objects are those
    of one item `p` of the map: the item `next` was producing (its kept half sat in the return place
    when the drop of the other half unwound), or the newest item, already in `fold`'s return place
    when the drop of the previous one unwound. -/
theorem intoIterLast_leaked : ∀ (fuel : Nat) (acc : Option (K × V)) (s : St K V Q)
    (l : List (K × V)), Rep s.r l →
    Sat (intoIterLast E kind fuel acc) s (fun _ s' => s'.w.leaked = s.w.leaked)
      (fun _ s' => ∃ p ∈ l, s'.w.leaked = s.w.leaked ++ leakObjs kind p)
  | 0, _, _, _, _ => Sat.pure rfl
  | fuel + 1, acc, s, l, hr => by
    have hcl := dropAcc_cb E kind acc
    have hlk : Lk (match acc with | some q => dropItem E kind q | none => pure ()) := by
      cases acc with
      | none => exact Lk.pure ()
      | some q => exact dropItem_lk E kind q
    rw [intoIterLast_succ]
    refine Sat.bind (Sat.mono (Sat.and (intoIterNextK_guarded_sat E kind hcl hr)
      (unwindWith_lk hcl hlk (P := fun x => ∃ p ∈ l, x = s.w.leaked ++ leakObjs kind p)
        (Sat.mono (intoIterNextK_leaked E kind hr) (fun _ _ h => h)
          fun _ _ ⟨p, g1, g2⟩ => ⟨p, List.mem_of_getLast? g1, g2⟩))) (fun _ _ h => h) (fun _ _ h => h.2)) ?_
    · intro o s1 ⟨⟨h1, h2, _, _⟩, h5⟩
      subst h1
      rcases nil_or_snoc l with rfl | ⟨L, p, rfl⟩
      · exact Sat.pure h5
      · simp only [List.getLast?_concat, List.dropLast_concat] at h2 ⊢
        have key : ∀ (s2 : St K V Q), s2.r = s1.r → s2.w.leaked = s.w.leaked →
            Sat (intoIterLast E kind fuel (some p)) s2 (fun _ s' => s'.w.leaked = s.w.leaked)
              (fun _ s' => ∃ p' ∈ L ++ [p], s'.w.leaked = s.w.leaked ++ leakObjs kind p') := by
          intro s2 g1 g2
          refine Sat.mono (intoIterLast_leaked fuel (some p) s2 L (g1 ▸ h2)) ?_ ?_
          · intro _ s3 k; exact k.trans g2
          · intro _ s3 ⟨p', k1, k2⟩
            exact ⟨p', List.mem_append_left _ k1, by rw [k2, g2]⟩
        cases acc with
        | none => exact key s1 rfl h5
        | some q =>
          refine Sat.bind (Q₁ := fun _ s2 => s2.r = s1.r ∧ s2.w.leaked = s.w.leaked)
            (Sat.mono (Sat.and (CbOk.unwindWith (leakItem_cb kind p) (dropItem_cb E kind q) s1)
              (leakOnUnwind kind (dropItem_lk E kind q) p s1))
              (fun _ _ ⟨a, b⟩ => ⟨a.1, b.trans h5⟩) ?_) ?_
          · intro c s2 ⟨_, b⟩
            exact ⟨p, by simp, by rw [b, h5]⟩
          · intro _ s2 ⟨g1, g2⟩
            exact key s2 g1 g2

/-- the items the take phase hands to the caller. -/
def intoItems (take : StdTake) (l : List (K × V)) : List (K × V) :=
  match take with
  | .next n => l.reverse.take n
  | .nth k => l.reverse[k]?.toList
  | .last => l.head?.toList

/-- how many entries are still owned after the take phase on `n` entries. -/
def stdRem (take : StdTake) (n : Nat) : Nat :=
  match take with
  | .next m => n - m
  | .nth k => n - (k + 1)
  | .last => 0

/-- `count()`'s answer, if that is how the iterator ended. -/
def stdCnt (fin : StdEnd) (rem : Nat) : Option Nat :=
  match fin with
  | .count => some rem
  | _ => none

/-- the effects of the take phase. -/
def intoTakeTr (kind : IntoKind) (take : StdTake) (l : List (K × V)) : List (Event K V Q) :=
  match take with
  | .next n => (l.reverse.take n).flatMap (discardTr E kind)
  | .nth k => (l.reverse.take k).flatMap (skipTr E kind) ++ ((l.reverse[k]?).map (discardTr E kind)).getD []
  | .last => lastTr E kind none l.reverse

/-- the effects of the end of the iterator that still owns `rest`. -/
def intoFinTr (kind : IntoKind) (fin : StdEnd) (rest : List (K × V)) : List (Event K V Q) :=
  match fin with
  | .forget => []
  | .drop => dropTrace E rest
  | .count => rest.reverse.flatMap (skipTr E kind)

@[simp] theorem stdRem_le (take : StdTake) (n : Nat) : stdRem take n ≤ n := by
  cases take <;> simp [stdRem]

def intoTakeBody (kind : IntoKind) (take : StdTake) (len0 : Nat) : SM K V Q (List (K × V)) :=
  match take with
  | .next n => intoIterTake E kind n
  | .nth k => do pure (← intoIterNth E kind k).toList
  | .last => do pure (← intoIterLast E kind (len0 + 1) none).toList

def intoStdTail (kind : IntoKind) (fin : StdEnd) (items : List (K × V)) :
    SM K V Q (List (K × V) × Nat × List (K × V) × Option Nat) := do
  let remaining ← getLen
  let s ← getS
  let rest ← entriesOf s.r
  match fin with
  | .forget => do forgetMap; pure (items, remaining, rest, none)
  | .drop => do dropAndRenew E; pure (items, remaining, rest, none)
  | .count => do
    let c ← unwindWith (dropAndRenew E) (intoIterCount E kind (remaining + 1))
    dropAndRenew E
    pure (items, remaining, rest, some c)

theorem intoIterStdOp_eq (take : StdTake) (fin : StdEnd) :
    intoIterStdOp E kind take fin =
      (getLen >>= fun len0 => unwindWith (dropAndRenew E) (intoTakeBody E kind take len0) >>=
        fun items => intoStdTail E kind fin items) := rfl

theorem intoTakeBody_sat (take : StdTake) (hr : Rep s.r l) :
    Sat (intoTakeBody E kind take l.length) s
      (fun items s' => items = intoItems take l ∧ Rep s'.r (l.take (stdRem take l.length)) ∧
        s'.r.cap = s.r.cap ∧ WRel s.w s'.w (intoTakeTr E kind take l))
      (PopUnw s l) := by
  cases take with
  | next n =>
    refine Sat.mono (intoIterTake_sat E kind n s l hr) ?_ (fun _ _ h => h.1)
    rintro _ s' ⟨rfl, h⟩
    exact ⟨rfl, h⟩
  | nth k =>
    show Sat (intoIterNth E kind k >>= fun o => pure o.toList) s _ _
    refine Sat.bind (intoIterNth_sat E kind k hr) ?_
    rintro _ s' ⟨rfl, h⟩
    exact Sat.pure ⟨rfl, h⟩
  | last =>
    show Sat (intoIterLast E kind (l.length + 1) none >>= fun o => pure o.toList) s _ _
    refine Sat.bind (intoIterLast_sat E kind (l.length + 1) none s l hr (by omega)) ?_
    rintro _ s' ⟨rfl, h2, h⟩
    exact Sat.pure ⟨by simp [intoItems], by simpa [stdRem] using h2, h⟩

theorem intoStdTail_sat (fin : StdEnd) (items : List (K × V)) (hr : Rep s.r l) :
    Sat (intoStdTail E kind fin items) s
      (fun res s' => res = (items, l.length, l, stdCnt fin l.length) ∧ s'.r = Raw.new s.r.cap ∧
        WRel s.w s'.w (intoFinTr E kind fin l))
      (fun c s' => s'.r = Raw.new s.r.cap ∧ InjPanic s s' c) := by
  unfold intoStdTail
  refine Sat.bind_ok (getLen_rep hr) ?_
  refine Sat.getS_bind ?_
  refine Sat.bind_ok (entriesOf_rep hr s) ?_
  cases fin with
  | forget =>
    exact Sat.bind_ok (forgetMap_eq s) (Sat.pure ⟨rfl, rfl, WRel.leaked s.w _⟩)
  | drop =>
    refine Sat.bind (dropAndRenew_sat E hr) ?_
    intro _ s2 ⟨g1, g2⟩
    exact Sat.pure ⟨rfl, g1, g2⟩
  | count =>
    refine Sat.bind (renewOnUnwind E (intoIterCount_sat E kind (l.length + 1) s l hr)) ?_
    intro n s1 ⟨h1, h2, h3, h4⟩
    have hn : n = l.length := by omega
    subst hn
    have h0 : l.length - (l.length + 1) = 0 := by omega
    rw [h0, List.take_zero] at h2
    rw [List.take_of_length_le (by simp)] at h4
    refine Sat.bind (Sat.mono (dropAndRenew_sat E h2) (fun _ _ h => h) ?_) ?_
    · intro c s2 ⟨g1, g2⟩
      exact ⟨by rw [g1, h3], g2.after h4⟩
    · intro _ s2 ⟨g1, g2⟩
      refine Sat.pure ⟨rfl, by rw [g1, h3], ?_⟩
      simpa [intoFinTr, dropTrace] using h4.trans g2

/-- `into_iter()` / `into_keys()` / `into_values()`, then `n × next` / `nth(k)` / `last()`, then the
    iterator is dropped, forgotten or `count()`ed — in ANY world: never `ub`; returning or unwinding,
    the register holds a fresh `new()` of the same capacity (the map was consumed); a panic can only
    be an injected one.  The result is `(items, remaining, rest, cnt)` with `items` the items handed
    to the caller, `remaining` the exact `len()` after the take phase, `rest` the untouched front
    (what `Debug` shows), `cnt` the answer of `count()`; the effects are exactly those of the take
    phase followed by those of the end. -/
theorem intoIterStdOp_sat (take : StdTake) (fin : StdEnd) (hr : Rep s.r l) :
    Sat (intoIterStdOp E kind take fin) s
      (fun res s' => s'.r = Raw.new s.r.cap ∧
        res = (intoItems take l, stdRem take l.length, l.take (stdRem take l.length),
          stdCnt fin (stdRem take l.length)) ∧
        WRel s.w s'.w (intoTakeTr E kind take l ++ intoFinTr E kind fin (l.take (stdRem take l.length))))
      (fun c s' => s'.r = Raw.new s.r.cap ∧ InjPanic s s' c) := by
  rw [intoIterStdOp_eq]
  refine Sat.bind_ok (getLen_rep hr) ?_
  refine Sat.bind (renewOnUnwind E (intoTakeBody_sat E kind take hr)) ?_
  intro items s1 ⟨h1, h2, h3, h4⟩
  subst h1
  have hlen : (l.take (stdRem take l.length)).length = stdRem take l.length := by
    rw [List.length_take]; exact Nat.min_eq_left (stdRem_le _ _)
  refine Sat.mono (intoStdTail_sat E kind fin _ h2) ?_ ?_
  · intro res s2 ⟨g1, g2, g3⟩
    rw [hlen] at g1
    exact ⟨by rw [g2, h3], g1, h4.trans g3⟩
  · intro c s2 ⟨g1, g2⟩
    exact ⟨by rw [g1, h3], g2.after h4⟩

/-- how the `Drain` methods below unwind: only by an injected panic, and the `Drain` was dropped —
    no live slot is left in its range `[lo, hi)`, nothing else moved. -/
def DrainUnw (lo hi : Nat) (s : St K V Q) (c : PanicClass) (s' : St K V Q) : Prop :=
  s'.r.len = s.r.len ∧ s'.r.cap = s.r.cap ∧ InjPanic s s' c ∧ Dead lo hi s.r s'.r

theorem DrainUnw.step {s s2 s3 : St K V Q} {c t}
    (hlt : lo < hi) (g1 : s2.r = setSlot s.r lo none) (g2 : WRel s.w s2.w t)
    (h : DrainUnw (lo + 1) hi s2 c s3) :
    DrainUnw lo hi s c s3 := by
  obtain ⟨k1, k2, k3, k4⟩ := h
  rw [g1] at k4
  exact ⟨by rw [k1, g1]; rfl, by rw [k2, g1]; rfl, k3.after g2, k4.step hlt⟩

/-- the caller drops an item while the `Drain` still owns the range `[lo, hi)` holding `ps`: if the
    drop unwinds, the frame's clean-up runs — some bookkeeping `pre` (a leak), then the `Drain` is
    dropped. -/
theorem drainDropItemPre_sat {pre : SM K V Q Unit} {tp Qp} (hpre : CbOk pre tp Qp) (p : K × V)
    (ho : Owns s.r lo hi ps) :
    Sat (unwindWith (pre >>= fun _ => drainDrop E lo hi) (dropPair E p)) s
      (fun _ s' => s'.r = s.r ∧ WRel s.w s'.w (.dropK p.1 :: dropVTr E p.2))
      (DrainUnw lo hi s) := by
  refine Sat.unwindWith (P₀ := fun c s' => s'.r = s.r ∧ InjPanic s s' c) ?_ ?_
  · refine Sat.cb_last (dropPair_cb E p) ?_ ?_
    · intro _ s' h1 h2 _; exact ⟨h1, h2⟩
    · intro s' tr' h1 h2 h3 h4; exact ⟨h1, InjPanic.of_cb h2 h3 h4⟩
  · intro c s1 ⟨h1, k1, k2, k3, tr', k4⟩
    refine Sat.bind (hpre.unw (s1.setUnw true) rfl) ?_
    intro _ s1' ⟨e1, e2, _⟩
    have er : s1'.r = s.r := by rw [e1]; simpa using h1
    have eu : s1'.w.unwinding = true := by rw [e2.unw]; rfl
    -- while unwinding, the drop of the `Drain` cannot unwind again
    refine Sat.mono (drainDrop_sat E (s := s1') (er ▸ ho)) ?_ (fun _ _ h => (h.2.2.2.not_unwinding eu).elim)
    intro _ s2 ⟨g1, g2, g3, g5⟩
    rw [er] at g1 g2 g3
    exact ⟨g1, g2, ⟨k1, k2, k3, _, k4.trans (e2.trans g5).through_unw⟩, g3⟩

/-- the same without bookkeeping (`advance_by`, `count`). -/
theorem drainDropItem_sat (p : K × V)
    (ho : Owns s.r lo hi ps) :
    Sat (unwindWith (drainDrop E lo hi) (dropPair E p)) s
      (fun _ s' => s'.r = s.r ∧ WRel s.w s'.w (.dropK p.1 :: dropVTr E p.2))
      (DrainUnw lo hi s) :=
  drainDropItemPre_sat E (CbOk.pure ()) p ho

/-- one round of a loop over a `Drain` that owns `[lo, hi)`: `next`; if it yields `p`, the caller
    runs `cb p` — drops of items it owns, whose unwinding drops the `Drain` — and goes on with `k1 p`. -/
theorem drainStep_sat (ho : Owns s.r lo hi ps)
    {cb : K × V → SM K V Q Unit} {t : K × V → List (Event K V Q)}
    (hcb : ∀ p ps' (s1 : St K V Q), Owns s1.r (lo + 1) hi ps' →
      Sat (cb p) s1 (fun _ s' => s'.r = s1.r ∧ WRel s1.w s'.w (t p)) (DrainUnw (lo + 1) hi s1))
    {β : Type} {k0 : SM K V Q β} {k1 : K × V → SM K V Q β} {Qp : β → St K V Q → Prop} {P}
    (h0 : ps = [] → Sat k0 s Qp P)
    (h1 : ∀ p ps', ps = p :: ps' → ∀ s2, s2.r = setSlot s.r lo none → Owns s2.r (lo + 1) hi ps' →
      WRel s.w s2.w (t p) → Sat (k1 p) s2 Qp P)
    (hp : ∀ c s', DrainUnw lo hi s c s' → P c s') :
    Sat (drainNext lo hi >>= fun o => match o with
      | none => k0
      | some p => cb p >>= fun _ => k1 p) s Qp P := by
  refine drainNext_sat ho h0 ?_
  rintro p ps' rfl
  refine Sat.bind (Sat.mono (hcb p ps' { s with r := setSlot s.r lo none } ho.read) (fun _ _ h => h) ?_) ?_
  · intro c s2 h
    exact hp c s2 (DrainUnw.step (s2 := { s with r := setSlot s.r lo none }) ho.lt rfl (WRel.refl _) h)
  · intro _ s2 ⟨g1, g2⟩
    exact h1 p ps' rfl s2 g1 (g1 ▸ ho.read) g2

/-- `advance_by(k)` on a `Drain`. -/
theorem drainSkip_sat : ∀ (k : Nat) (ps : List (K × V)) (lo hi : Nat) (s : St K V Q), Owns s.r lo hi ps →
    Sat (drainSkip E hi k lo) s
      (fun res s' => res = (lo + min k ps.length, decide (k ≤ ps.length)) ∧ s'.r.len = s.r.len ∧
        s'.r.cap = s.r.cap ∧ (∀ j, lo + min k ps.length ≤ j → s'.r.slots j = s.r.slots j) ∧
        WRel s.w s'.w (dropTrace E (ps.take k)))
      (DrainUnw lo hi s)
  | 0, ps, lo, hi, s, _ =>
    Sat.pure ⟨by simp, rfl, rfl, fun _ _ => rfl, by simpa [dropTrace] using WRel.refl _⟩
  | k + 1, ps, lo, hi, s, ho => by
    unfold drainSkip
    refine drainStep_sat ho (fun p _ _ ho1 => drainDropItem_sat E p ho1) ?_ ?_ (fun _ _ h => h)
    · rintro rfl
      exact Sat.pure ⟨by simp, rfl, rfl, fun _ _ => rfl, by simpa [dropTrace] using WRel.refl _⟩
    · rintro p ps rfl s2 g1 ho2 g2
      refine Sat.mono (drainSkip_sat k ps (lo + 1) hi s2 ho2) ?_ (fun c s3 h => h.step ho.lt g1 g2)
      intro res s3 ⟨k1, k2, k3, k4, k5⟩
      have hmin : lo + min (k + 1) (ps.length + 1) = lo + 1 + min k ps.length := by omega
      refine ⟨?_, by rw [k2, g1]; rfl, by rw [k3, g1]; rfl, fun j hj => ?_, ?_⟩
      · rw [k1]; simp only [List.length_cons, hmin, Nat.add_le_add_iff_right]
      · simp only [List.length_cons, hmin] at hj
        rw [k4 j hj, g1]; exact setSlot_other _ _ (by omega)
      · simpa [dropTrace] using g2.trans k5

theorem drainNth_sat (k : Nat) (ps : List (K × V)) (lo hi : Nat) (s : St K V Q) (ho : Owns s.r lo hi ps) :
    Sat (drainNth E hi lo k) s
      (fun res s' => res = (ps[k]?, lo + min (k + 1) ps.length) ∧ s'.r.len = s.r.len ∧
        s'.r.cap = s.r.cap ∧ (∀ j, lo + min (k + 1) ps.length ≤ j → s'.r.slots j = s.r.slots j) ∧
        WRel s.w s'.w (dropTrace E (ps.take k)))
      (DrainUnw lo hi s) := by
  unfold drainNth
  refine Sat.bind (drainSkip_sat E k ps lo hi s ho) ?_
  rintro _ s1 ⟨rfl, h2, h3, h4, h5⟩
  by_cases hk : k ≤ ps.length
  · simp only [hk, decide_true, if_true]
    rw [Nat.min_eq_left hk] at h4 ⊢
    have ho1 : Owns s1.r (lo + k) hi (ps.drop k) := by
      obtain ⟨rfl, hl, hc⟩ := ho
      refine ⟨by rw [List.length_drop]; omega, fun j hj => ?_, h3 ▸ hc⟩
      rw [List.length_drop] at hj
      rw [h4 _ (by omega), Nat.add_assoc, hl _ (by omega), List.getElem_drop]
    refine drainNext_sat ho1 ?_ ?_
    · intro hnil
      have hle : ps.length ≤ k := List.drop_eq_nil_iff.mp hnil
      refine Sat.pure ⟨?_, h2, h3, fun j hj => h4 j (by omega), h5⟩
      rw [Nat.min_eq_right (by omega), List.getElem?_eq_none hle, (by omega : k = ps.length)]
    · intro p ps' hps
      have hlt : k < ps.length := by
        have := congrArg List.length hps
        rw [List.length_drop, List.length_cons] at this; omega
      have hp : ps[k]? = some p := by rw [← List.head?_drop, hps]; rfl
      refine Sat.pure ⟨?_, h2, h3, fun j hj => ?_, h5⟩
      · rw [Nat.min_eq_left (by omega), hp]; rfl
      · show (setSlot s1.r (lo + k) none).slots j = _
        rw [setSlot_other _ _ (by omega), h4 j (by omega)]
  · simp only [hk, decide_false, Bool.false_eq_true, if_false]
    have hmin : min k ps.length = ps.length := by omega
    have hmin1 : min (k + 1) ps.length = ps.length := by omega
    rw [hmin] at h4 ⊢
    refine Sat.pure ⟨?_, h2, h3, fun j hj => ?_, h5⟩
    · rw [hmin1, List.getElem?_eq_none (by omega)]
    · rw [hmin1] at hj; exact h4 j hj

theorem drainCount_sat : ∀ (fuel : Nat) (ps : List (K × V)) (lo hi : Nat) (s : St K V Q), Owns s.r lo hi ps →
    Sat (drainCount E hi fuel lo) s
      (fun n s' => n = min fuel ps.length ∧ s'.r.len = s.r.len ∧ s'.r.cap = s.r.cap ∧
        WRel s.w s'.w (dropTrace E (ps.take fuel)))
      (DrainUnw lo hi s)
  | 0, ps, lo, hi, s, _ => Sat.pure ⟨by simp, rfl, rfl, by simpa [dropTrace] using WRel.refl _⟩
  | fuel + 1, ps, lo, hi, s, ho => by
    unfold drainCount
    refine drainStep_sat ho (fun p _ _ ho1 => drainDropItem_sat E p ho1) ?_ ?_ (fun _ _ h => h)
    · rintro rfl
      exact Sat.pure ⟨by simp, rfl, rfl, by simpa [dropTrace] using WRel.refl _⟩
    · rintro p ps rfl s2 g1 ho2 g2
      refine Sat.bind (Sat.mono (drainCount_sat fuel ps (lo + 1) hi s2 ho2) (fun _ _ h => h)
        (fun c s3 h => h.step ho.lt g1 g2)) ?_
      intro n s3 ⟨k1, k2, k3, k5⟩
      exact Sat.pure ⟨by simp [k1], by rw [k2, g1]; rfl, by rw [k3, g1]; rfl,
        by simpa [dropTrace] using g2.trans k5⟩

/-- the effects of `last()` on a `Drain` yielding `ps` with accumulator `acc`: each item is dropped
    when its successor has been produced. -/
def drainLastTr : Option (K × V) → List (K × V) → List (Event K V Q)
  | _, [] => []
  | acc, p :: ps => (acc.map fun q => Event.dropK q.1 :: dropVTr E q.2).getD [] ++ drainLastTr (some p) ps

/-- one round of `last()`, with the drop of the old accumulator as one callback. -/
theorem drainLast_succ (hi fuel lo : Nat) (acc : Option (K × V)) :
    drainLast E hi (fuel + 1) lo acc =
      (drainNext lo hi >>= fun o => match o with
        | none => pure acc
        | some p =>
          (match (generalizing := false) acc with
            | some q => unwindWith (leakItem .pairs p >>= fun _ => drainDrop E (lo + 1) hi) (dropPair E q)
            | none => pure ()) >>= fun _ => drainLast E hi fuel (lo + 1) (some p)) := by
  cases acc <;> rfl

/-- dropping `fold`'s accumulator with the new item `p` in the return place (leaked if the drop
    unwinds) while the `Drain` owns `[lo, hi)`. -/
theorem drainDropAcc_sat (acc : Option (K × V)) (p : K × V) (ho : Owns s.r lo hi ps) :
    Sat (match acc with
        | some q => unwindWith (leakItem .pairs p >>= fun _ => drainDrop E lo hi) (dropPair E q)
        | none => pure ()) s
      (fun _ s' => s'.r = s.r ∧ WRel s.w s'.w ((acc.map fun q => Event.dropK q.1 :: dropVTr E q.2).getD []))
      (DrainUnw lo hi s) := by
  cases acc with
  | none => exact Sat.pure ⟨rfl, WRel.refl _⟩
  | some q => exact drainDropItemPre_sat E (leakItem_cb (Q := Q) .pairs p) q ho

/-- `last()` on a `Drain`, with enough fuel: every slot of the range was read.  If the drop of a
    previous item unwinds, the newest item is leaked and the `Drain` is dropped: no live slot is
    left either. -/
theorem drainLast_sat : ∀ (fuel : Nat) (ps : List (K × V)) (lo hi : Nat) (acc : Option (K × V))
    (s : St K V Q), Owns s.r lo hi ps → ps.length < fuel →
    Sat (drainLast E hi fuel lo acc) s
      (fun o s' => o = ps.getLast?.or acc ∧ s'.r.len = s.r.len ∧ s'.r.cap = s.r.cap ∧
        Dead lo hi s.r s'.r ∧ WRel s.w s'.w (drainLastTr E acc ps))
      (DrainUnw lo hi s)
  | 0, _, _, _, _, _, _, hf => by omega
  | fuel + 1, ps, lo, hi, acc, s, ho, hf => by
    rw [drainLast_succ]
    refine drainStep_sat ho (fun p _ _ ho1 => drainDropAcc_sat E acc p ho1) ?_ ?_ (fun _ _ h => h)
    · rintro rfl
      exact Sat.pure ⟨by simp, rfl, rfl, Dead.of_le (Nat.le_of_not_lt ho.not_lt) _,
        by simpa [drainLastTr] using WRel.refl _⟩
    · rintro p ps rfl s2 g1 ho2 g2
      refine Sat.mono (drainLast_sat fuel ps (lo + 1) hi (some p) s2 ho2 (by simp at hf; omega)) ?_
        (fun c s3 h => h.step ho.lt g1 g2)
      intro o s3 ⟨k1, k2, k3, k4, k6⟩
      rw [g1] at k4
      refine ⟨?_, by rw [k2, g1]; rfl, by rw [k3, g1]; rfl, k4.step ho.lt,
        by simpa [drainLastTr] using g2.trans k6⟩
      rw [k1, List.getLast?_cons]; cases ps.getLast? <;> simp

/-- the items the take phase of a `Drain` hands to the caller. -/
def drainItems (take : StdTake) (l : List (K × V)) : List (K × V) :=
  match take with
  | .next n => l.take n
  | .nth k => l[k]?.toList
  | .last => l.getLast?.toList

/-- the effects of the take phase of a `Drain`. -/
def drainTakeTr (take : StdTake) (l : List (K × V)) : List (Event K V Q) :=
  match take with
  | .next _ => []
  | .nth k => dropTrace E (l.take k)
  | .last => drainLastTr E none l

/-- the effects of the end of a `Drain` that still owns `rest`. -/
def drainFinTr (fin : StdEnd) (rest : List (K × V)) : List (Event K V Q) :=
  match fin with
  | .forget => []
  | .drop => dropTrace E rest
  | .count => dropTrace E rest

def drainTakeBody (take : StdTake) (hi : Nat) : SM K V Q (List (K × V) × Nat) :=
  match take with
  | .next n => drainTake n 0 hi
  | .nth k => do
    let (x, lo) ← drainNth E hi 0 k
    pure (x.toList, lo)
  | .last => do
    let x ← drainLast E hi (hi + 1) 0 none
    pure (x.toList, hi)

def drainStdTail (fin : StdEnd) (hi : Nat) (items : List (K × V)) (lo : Nat) :
    SM K V Q (List (K × V) × Nat × List (K × V) × Option Nat) := do
  let remaining := hi - lo
  let s ← getS
  let rest ← iterRestR s.r remaining lo
  match fin with
  | .forget => pure (items, remaining, rest, none)
  | .drop => do drainDrop E lo hi; pure (items, remaining, rest, none)
  | .count => do
    let c ← drainCount E hi (remaining + 1) lo
    pure (items, remaining, rest, some c)

theorem drainStdOp_eq (take : StdTake) (fin : StdEnd) :
    drainStdOp E take fin =
      (drainStart >>= fun hi => drainTakeBody E take hi >>= fun x => drainStdTail E fin hi x.1 x.2) := rfl

theorem drainTakeBody_sat (take : StdTake) (ho : Owns s.r 0 l.length l) :
    Sat (drainTakeBody E take l.length) s
      (fun x s' => x = (drainItems take l, l.length - stdRem take l.length) ∧ s'.r.len = s.r.len ∧
        s'.r.cap = s.r.cap ∧
        (∀ j, l.length - stdRem take l.length ≤ j → j < l.length → s'.r.slots j = s.r.slots j) ∧
        WRel s.w s'.w (drainTakeTr E take l))
      (fun c s' => s'.r.len = s.r.len ∧ s'.r.cap = s.r.cap ∧ InjPanic s s' c) := by
  have hunw : ∀ c s', DrainUnw 0 l.length s c s' → s'.r.len = s.r.len ∧ s'.r.cap = s.r.cap ∧
      InjPanic s s' c := fun _ _ h => ⟨h.1, h.2.1, h.2.2.1⟩
  cases take with
  | next n =>
    obtain ⟨s1, e, h1, h2, h3, h4⟩ := drainTake_spec n l 0 l.length s ho
    have hpos : l.length - stdRem (.next n) l.length = 0 + min n l.length := by
      simp only [stdRem]; omega
    refine Sat.of_ok (m := drainTake n 0 l.length) e ⟨by rw [hpos]; rfl, h2, h3, fun j hj _ => ?_, ?_⟩
    · exact h4.1 j (Or.inr (by omega))
    · rw [h1]; exact WRel.refl _
  | nth k =>
    show Sat (drainNth E l.length 0 k >>= fun x => pure (x.1.toList, x.2)) s _ _
    refine Sat.bind (Sat.mono (drainNth_sat E k l 0 l.length s ho) (fun _ _ h => h) hunw) ?_
    rintro _ s1 ⟨rfl, h2, h3, h4, h5⟩
    have hpos : l.length - stdRem (.nth k) l.length = 0 + min (k + 1) l.length := by
      simp only [stdRem]; omega
    refine Sat.pure ⟨by rw [hpos]; rfl, h2, h3, fun j hj _ => h4 j (by omega), h5⟩
  | last =>
    show Sat (drainLast E l.length (l.length + 1) 0 none >>= fun x => pure (x.toList, l.length)) s _ _
    refine Sat.bind (Sat.mono (drainLast_sat E (l.length + 1) l 0 l.length none s ho (by omega))
      (fun _ _ h => h) hunw) ?_
    rintro _ s1 ⟨rfl, h2, h3, _, h5⟩
    refine Sat.pure ⟨by simp [drainItems, stdRem], h2, h3, fun j hj hj' => ?_, h5⟩
    simp only [stdRem] at hj; omega

theorem drainStdTail_sat (fin : StdEnd) (items : List (K × V)) (ho : Owns s.r lo hi ps) :
    Sat (drainStdTail E fin hi items lo) s
      (fun res s' => res = (items, ps.length, ps, stdCnt fin ps.length) ∧ s'.r.len = s.r.len ∧
        s'.r.cap = s.r.cap ∧ WRel s.w s'.w (drainFinTr E fin ps))
      (fun c s' => s'.r.len = s.r.len ∧ s'.r.cap = s.r.cap ∧ InjPanic s s' c ∧
        ∀ j, j < lo → s'.r.slots j = s.r.slots j) := by
  unfold drainStdTail
  have hn : hi - lo = ps.length := by have := ho.hi_eq; omega
  simp only [hn]
  refine Sat.getS_bind ?_
  refine Sat.bind_ok (iterRestR_slots s ho) ?_
  cases fin with
  | forget => exact Sat.pure ⟨rfl, rfl, rfl, WRel.refl _⟩
  | drop =>
    refine Sat.bind (Sat.mono (drainDrop_sat E ho) (fun _ _ h => h)
      (fun _ _ ⟨g1, g2, g3, g4⟩ => ⟨g1, g2, g4, fun j hj => g3 j (Or.inl hj)⟩)) ?_
    intro _ s2 ⟨g1, g2, _, g3⟩
    exact Sat.pure ⟨rfl, g1, g2, g3⟩
  | count =>
    refine Sat.bind (Sat.mono (drainCount_sat E (ps.length + 1) ps lo hi s ho) (fun _ _ h => h)
      (fun _ _ ⟨g1, g2, g3, g4⟩ => ⟨g1, g2, g3, fun j hj => g4.1 j (Or.inl hj)⟩)) ?_
    intro n s2 ⟨g1, g2, g3, g4⟩
    have hn' : n = ps.length := by omega
    subst hn'
    rw [List.take_of_length_le (by omega)] at g4
    exact Sat.pure ⟨rfl, g2, g3, g4⟩

/-- `drain()`, then `n × next` / `nth(k)` / `last()`, then the `Drain` is dropped, forgotten or
    `count()`ed — in ANY world: never `ub`; returning or unwinding, the container is empty and
    well-formed with its capacity unchanged (as reusable as after `drainOp`); a panic can only be an
    injected one.  The result is `(items, remaining, rest, cnt)`: the items handed to the caller,
    the exact `len()` of the `Drain` after the take phase, the entries it still owns (what its
    `Debug` shows), and the answer of `count()`. -/
theorem drainStdOp_sat (take : StdTake) (fin : StdEnd)
    (hr : Rep s.r l) :
    Sat (drainStdOp E take fin) s
      (fun res s' => Rep s'.r [] ∧ s'.r.cap = s.r.cap ∧
        res = (drainItems take l, stdRem take l.length, l.drop (l.length - stdRem take l.length),
          stdCnt fin (stdRem take l.length)) ∧
        WRel s.w s'.w (drainTakeTr E take l ++ drainFinTr E fin (l.drop (l.length - stdRem take l.length))))
      (fun c s' => Rep s'.r [] ∧ s'.r.cap = s.r.cap ∧ InjPanic s s' c) := by
  rw [drainStdOp_eq]
  refine Sat.bind_ok (drainStart_ok hr) ?_
  have hrem : stdRem take l.length ≤ l.length := stdRem_le _ _
  refine Sat.bind (Sat.mono (drainTakeBody_sat E take (Owns.drained hr)) (fun _ _ h => h) ?_) ?_
  · intro c s1 ⟨g1, g2, g3⟩
    exact ⟨rep_nil_of_len g1, g2, g3⟩
  · rintro _ s1 ⟨rfl, (hlen0 : s1.r.len = 0), (hcap : s1.r.cap = s.r.cap), h4,
      (hw : WRel s.w s1.w (drainTakeTr E take l))⟩
    have hld : (l.drop (l.length - stdRem take l.length)).length = stdRem take l.length := by
      rw [List.length_drop]; omega
    have ho : Owns s1.r (l.length - stdRem take l.length) l.length
        (l.drop (l.length - stdRem take l.length)) :=
      (Owns.of_rep hr (Nat.sub_le _ _)).frame h4 hcap
    refine Sat.mono (drainStdTail_sat E fin _ ho) ?_ ?_
    · intro res s2 ⟨g1, g2, g3, g4⟩
      rw [hld] at g1
      exact ⟨rep_nil_of_len (g2.trans hlen0), g3.trans hcap, g1, hw.trans g4⟩
    · intro c s2 ⟨g1, g2, g3, _⟩
      exact ⟨rep_nil_of_len (g1.trans hlen0), g2.trans hcap, g3.after hw⟩

@[simp] theorem stdCnt_count (r : Nat) : stdCnt .count r = some r := rfl
@[simp] theorem stdCnt_drop (r : Nat) : stdCnt .drop r = none := rfl
@[simp] theorem stdCnt_forget (r : Nat) : stdCnt .forget r = none := rfl

theorem intoIterStdOp_safe (kind : IntoKind) (take : StdTake) (fin : StdEnd) {s : St K V Q}
    {l : List (K × V)} (hr : Rep s.r l) :
    Sat (intoIterStdOp E kind take fin) s (fun _ s' => s'.r = Raw.new s.r.cap)
      (fun c s' => s'.r = Raw.new s.r.cap ∧ InjPanic s s' c) :=
  Sat.mono (intoIterStdOp_sat E kind take fin hr) (fun _ _ h => h.1) (fun _ _ h => h)

theorem intoIterStdOp_next (kind : IntoKind) (n : Nat) (fin : StdEnd) {s : St K V Q}
    {l : List (K × V)} (hr : Rep s.r l) :
    Sat (intoIterStdOp E kind (.next n) fin) s
      (fun res s' => s'.r = Raw.new s.r.cap ∧
        res = (l.reverse.take n, l.length - n, l.take (l.length - n), stdCnt fin (l.length - n)))
      (fun c s' => s'.r = Raw.new s.r.cap ∧ InjPanic s s' c) :=
  Sat.mono (intoIterStdOp_sat E kind (.next n) fin hr) (fun _ _ h => ⟨h.1, h.2.1⟩) (fun _ _ h => h)

theorem drop_sub_sub {α : Type} (l : List α) (n : Nat) : l.drop (l.length - (l.length - n)) = l.drop n := by
  have : l.length - (l.length - n) = min n l.length := by omega
  rw [this, drop_min_length]

theorem drainStdOp_next (n : Nat) (fin : StdEnd) {s : St K V Q} {l : List (K × V)} (hr : Rep s.r l) :
    Sat (drainStdOp E (.next n) fin) s
      (fun res s' => Rep s'.r [] ∧ s'.r.cap = s.r.cap ∧
        res = (l.take n, l.length - n, l.drop n, stdCnt fin (l.length - n)))
      (fun c s' => s'.r.len = 0 ∧ s'.r.cap = s.r.cap ∧ InjPanic s s' c) :=
  Sat.mono (drainStdOp_sat E (.next n) fin hr)
    (fun _ _ h => ⟨h.1, h.2.1, by simpa [drainItems, stdRem, drop_sub_sub] using h.2.2.1⟩)
    (fun _ _ h => ⟨h.1.1, h.2⟩)

/-- `drain().last()` unwinding: no live slot is left in the drained range — the `Drain` was dropped
    (or had read everything). -/
theorem drainStdOp_last_dead (fin : StdEnd) (hr : Rep s.r l) :
    Sat (drainStdOp E .last fin) s (fun _ _ => True)
      (fun _ s' => ∀ j, j < l.length → s'.r.slots j = none) := by
  rw [drainStdOp_eq]
  refine Sat.bind_ok (drainStart_ok hr) ?_
  refine Sat.bind (Q₁ := fun x s1 => x.2 = l.length ∧ s1.r.cap = s.r.cap ∧
    ∀ j, j < l.length → s1.r.slots j = none) ?_ ?_
  · show Sat (drainLast E l.length (l.length + 1) 0 none >>= fun x => pure (x.toList, l.length)) _ _ _
    refine Sat.bind (Sat.mono (drainLast_sat E (l.length + 1) l 0 l.length none _ (Owns.drained hr)
      (by omega)) (fun _ _ h => h) (fun _ _ ⟨_, _, _, g4⟩ j hj => g4.2 j (Nat.zero_le _) hj)) ?_
    intro o s1 ⟨_, _, h3, h4, _⟩
    exact Sat.pure ⟨rfl, h3, fun j hj => h4.2 j (Nat.zero_le _) hj⟩
  · rintro ⟨items, lo⟩ s1 ⟨h1, h2, h3⟩
    simp only at h1
    subst h1
    refine Sat.mono (drainStdTail_sat E fin items (ps := []) (lo := l.length) (hi := l.length)
      (s := s1) ⟨rfl, fun j hj => by simp at hj, by rw [h2]; exact hr.2.1⟩)
      (fun _ _ _ => trivial) ?_
    intro c s2 ⟨_, _, _, g4⟩ j hj
    rw [g4 j hj]; exact h3 j hj

theorem no_inj {s s' : St K V Q} {c} (hb : Benign s.w) (h : InjPanic s s' c) : False := h.not_benign hb

/-- for whole pairs nothing is discarded inside `next`: a skipped pair is just dropped. -/
theorem flatMap_skipTr_pairs (ps : List (K × V)) : ps.flatMap (skipTr E .pairs) = dropTrace E ps := by
  have : skipTr E .pairs = fun p => Event.dropK p.1 :: dropVTr E p.2 := by
    funext p; simp [skipTr, discardTr, itemTr]
  rw [this]; rfl

/-- what the end of an `IntoIter` (whole pairs) that still owns `rest` does: nothing when forgotten,
    the drops of `rest` in slot order when dropped, in reverse slot order when `count()`ed. -/
def pairsFinTr (fin : StdEnd) (rest : List (K × V)) : List (Event K V Q) :=
  match fin with
  | .forget => []
  | .drop => dropTrace E rest
  | .count => dropTrace E rest.reverse

/-! Non-vacuity: a concrete container meets the hypotheses, and the model computes what the
    theorems say (tests, not proofs). -/

def exEnv : Env Nat Nat Nat :=
  { eqK := fun _ a b => a == b, eqQ := fun _ a b => a == b, eqV := fun a b => a == b, borrow := id,
    clK := fun _ k => k, clV := fun _ v => v }

def exRaw : Raw Nat Nat :=
  { cap := 4, len := 3, slots := fun i =>
      if i = 0 then some (7, 70) else if i = 1 then some (8, 80) else if i = 2 then some (9, 90) else none }

def exSt : St Nat Nat Nat := { r := exRaw, w := {} }
/-- the same container in a world where the 2nd callback from now panics. -/
def exStInj : St Nat Nat Nat := { r := exRaw, w := { inject := some 1 } }

example : Rep exSt.r [(7, 70), (8, 80), (9, 90)] :=
  ⟨rfl, by decide, fun i hi => by
    have : i = 0 ∨ i = 1 ∨ i = 2 := by simp at hi; omega
    rcases this with rfl | rfl | rfl <;> rfl⟩
example : Benign exSt.w := ⟨rfl, rfl⟩
-- (`decide +kernel`: the kernel evaluates the model by reduction; nothing is compiled or assumed)
example : (match intoIterStdOp exEnv .pairs (.nth 1) .count exSt with
    | .ok x s' => x == ([(8, 80)], 1, [(7, 70)], some 1) && s'.r.len == 0 && s'.r.cap == 4
    | _ => false) = true := by decide +kernel
example : (match intoIterStdOp exEnv .keys .last .drop exSt with
    | .ok x s' => x == ([(7, 70)], 0, [], none) && s'.r.len == 0 | _ => false) = true := by decide +kernel
example : (match drainStdOp exEnv (.nth 1) .count exSt with
    | .ok x s' => x == ([(8, 80)], 1, [(9, 90)], some 1) && s'.r.len == 0 && s'.r.cap == 4
    | _ => false) = true := by decide +kernel
example : (match drainStdOp exEnv .last .forget exSt with
    | .ok x s' => x == ([(9, 90)], 0, [], none) && s'.r.len == 0 | _ => false) = true := by decide +kernel
-- with an armed fault the operations unwind (the panic postconditions are not vacuous); the
-- register is fresh / the map is empty all the same
example : (match intoIterStdOp exEnv .pairs (.nth 2) .drop exStInj with
    | .panic c s' => some (c, s'.r.len, s'.r.cap, (s'.r.slots 0).isSome) | _ => none) =
    some (.inject, 0, 4, false) := by decide +kernel
example : (match drainStdOp exEnv (.nth 2) .drop exStInj with
    | .panic c s' => some (c, s'.r.len, s'.r.cap) | _ => none) = some (.inject, 0, 4) := by decide +kernel

-- `last()` with an armed fault (the drop of the first accumulator's key unwinds): the newest item is
-- leaked, the rest is dropped — no live slot is left
example : (match drainStdOp exEnv .last .drop exStInj with
    | .panic c s' => some (c, s'.r.len, (s'.r.slots 0).isSome, (s'.r.slots 1).isSome,
        (s'.r.slots 2).isSome, s'.w.leaked.length) | _ => none) =
    some (.inject, 0, false, false, false, 2) := by decide +kernel
example : (match intoIterStdOp exEnv .pairs .last .drop exStInj with
    | .panic c s' => some (c, s'.r.len, s'.r.cap, (s'.r.slots 0).isSome) | _ => none) =
    some (.inject, 0, 4, false) := by decide +kernel

end Micromap.StdIterP
