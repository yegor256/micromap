/-
The invariant of one container (`Inv`; `SysInv` is the one of all registers) and its preservation
by the dictionary API — for ANY user equality (then it is memory safety: `Safe`), any injection
point and either profile; for a lawful key type whose `Clone` respects `Eq` it additionally keeps
the keys pairwise unequal.
-/
import Micromap.Proofs.RefineStep

namespace Micromap
open SetAlg Dict
variable {K V Q : Type}

/-- `Clone` respects `Eq`: a clone compares equal to its source (needed only for "a clone has
    unique keys", which no law of `Eq` alone implies). -/
def Env.CloneOK (E : Env K V Q) : Prop := ∀ n k, E.keq (E.clK n k) k = true

/-- lawful `Eq`/`Borrow` and a `Clone` that respects them: the user code for which `Inv` claims
    unique keys.  `CloneOK` is part of it, although only `clone()` needs it, because the claim is
    conditional in the invariant itself (`Inv` holds for EVERY `E`, so that `step_inv` / `run_inv`
    need no hypothesis on the user code): were the condition `E.Lawful` alone, `clone_to` would not
    preserve `Inv` for a lawful key type with a `Clone` that changes the key. -/
def Env.Good (E : Env K V Q) : Prop := E.Lawful ∧ E.CloneOK

/-- The invariant of one container: the live prefix is well-defined (`Rep`, hence `Safe`:
    `len ≤ cap`, every slot below `len` live) and — if the key type is lawful — its keys are
    pairwise unequal. -/
def Inv (E : Env K V Q) (r : Raw K V) : Prop := ∃ l, Rep r l ∧ (E.Good → NodupKeys E.keq l)

theorem Inv.safe {E : Env K V Q} {r : Raw K V} (h : Inv E r) : Safe r := by
  obtain ⟨l, hr, _⟩ := h; exact hr.safe

theorem Inv.new (E : Env K V Q) (cap : Nat) : Inv E (Raw.new cap : Raw K V) :=
  ⟨[], Rep.new cap, fun _ => List.Pairwise.nil⟩

theorem Inv.abs {E : Env K V Q} {r : Raw K V} (h : Inv E r) : Rep r r.abs ∧ (E.Good → NodupKeys E.keq r.abs) := by
  obtain ⟨l, hr, hn⟩ := h
  have : r.abs = l := Rep.unique hr.safe.rep hr
  rw [this]; exact ⟨hr, hn⟩

/-- the list part of `Inv`: for a lawful key type the keys are pairwise unequal. -/
def InvL (E : Env K V Q) (l : List (K × V)) : Prop := E.Good → NodupKeys E.keq l

section
variable {E : Env K V Q} {l l' : List (K × V)} {s s' s₁ s₂ : St K V Q}

theorem InvL.nil : InvL E [] := fun _ => List.Pairwise.nil

/-- only the keys matter (writes through `&mut V`). -/
theorem InvL.of_keys_eq (h : l'.map (·.1) = l.map (·.1))
    (hn : InvL E l) : InvL E l' := fun hg => by
  have := hn hg
  unfold NodupKeys at *
  rw [h]; exact this

theorem InvL.sublist (hn : InvL E l) (h : l'.Sublist l) : InvL E l' :=
  fun hg => nodupKeys_of_sublist (hn hg) h

theorem InvL.set_val (hn : InvL E l) {i} (hi : i < l.length) (v : V) :
    InvL E (l.set i (l[i].1, v)) :=
  fun hg => nodupKeys_set hg.1.equivB (hn hg) hi _ _ (hg.1.refl _)

theorem InvL.set_found (hn : InvL E l) {k : K} {i}
    (hf : E.Pure → findKey E l (.key k : Probe K Q) = some i) (hi : i < l.length) (v : V) :
    InvL E (l.set i (k, v)) :=
  fun hg => nodupKeys_set hg.1.equivB (hn hg) hi _ _
    ((findKey_some_iff hg.1 (hn hg) _).mp (hf hg.1.toPure)).2

theorem InvL.append (hn : InvL E l) {k : K}
    (hf : E.Pure → findKey E l (.key k : Probe K Q) = none) (v : V) : InvL E (l ++ [(k, v)]) :=
  fun hg => nodupKeys_append hg.1.equivB (hn hg) k v ((findKey_none_iff E _).mp (hf hg.1.toPure))

theorem InvL.swapRemove (hn : InvL E l) {i} (hi : i < l.length) :
    InvL E (swapRemove l i) :=
  fun hg => nodupKeys_swapRemove hg.1.equivB (hn hg) hi

def Keeps (E : Env K V Q) (s s' : St K V Q) : Prop := Inv E s'.r ∧ s'.r.cap = s.r.cap

theorem Keeps.trans (h₁ : Keeps E s s₁) (h₂ : Keeps E s₁ s₂) :
    Keeps E s s₂ :=
  ⟨h₂.1, h₂.2.trans h₁.2⟩

theorem Keeps.of_eq (hs : Inv E s.r) (h : s'.r = s.r) : Keeps E s s' :=
  ⟨h ▸ hs, by rw [h]⟩

theorem Keeps.of_new (h : s'.r = Raw.new s.r.cap) : Keeps E s s' :=
  ⟨h ▸ Inv.new E _, by rw [h]; rfl⟩

end

/-- an operation keeps the invariant and the capacity, whether it returns or unwinds, and never
    reaches `ub`. -/
def OpInv (E : Env K V Q) (m : SM K V Q α) : Prop :=
  ∀ s, Inv E s.r → Sat m s (fun _ s' => Inv E s'.r ∧ s'.r.cap = s.r.cap)
    (fun _ s' => Inv E s'.r ∧ s'.r.cap = s.r.cap)

/-- the same from one given state. -/
def OpInvAt (E : Env K V Q) (m : SM K V Q α) (s : St K V Q) : Prop :=
  Sat m s (fun _ => Keeps E s) (fun _ => Keeps E s)

theorem opInv_iff_at {E : Env K V Q} {m : SM K V Q α} : OpInv E m ↔ ∀ s, Inv E s.r → OpInvAt E m s :=
  Iff.rfl

theorem OpInv.bind {E : Env K V Q} {m : SM K V Q α} {f : α → SM K V Q β} (hm : OpInv E m)
    (hf : ∀ a, OpInv E (f a)) : OpInv E (m >>= f) :=
  fun s hs => Sat.bind (hm s hs) fun a s₁ h₁ =>
    Sat.mono (hf a s₁ h₁.1) (fun _ _ => Keeps.trans h₁) (fun _ _ => Keeps.trans h₁)

theorem OpInv.pure {E : Env K V Q} (a : α) : OpInv E (pure a : SM K V Q α) :=
  fun _ hs => Sat.pure ⟨hs, rfl⟩

theorem OpInv.getS_bind {E : Env K V Q} {f : St K V Q → SM K V Q α}
    (h : ∀ s, Inv E s.r → OpInv E (f s)) : OpInv E (getS >>= f) :=
  fun s hs => h s hs s hs

theorem OpInv.map {E : Env K V Q} {m : SM K V Q α} (hm : OpInv E m) (g : α → β) :
    OpInv E (do let a ← m; Pure.pure (g a)) :=
  hm.bind fun a => OpInv.pure (g a)

theorem OpInv.of_frame {E : Env K V Q} {m : SM K V Q α}
    (h : ∀ s l, Rep s.r l → Sat m s (fun _ s' => s'.r = s.r) (fun _ s' => s'.r = s.r)) : OpInv E m :=
  fun s hs => Sat.mono (h s _ hs.abs.1) (fun _ _ => Keeps.of_eq hs) (fun _ _ => Keeps.of_eq hs)

theorem OpInv.of_cb {E : Env K V Q} {m : SM K V Q α} {tr Qv} (h : CbOk m tr Qv) : OpInv E m :=
  OpInv.of_frame fun s _ _ => Sat.mono (h s) (fun _ _ h => h.1) (fun _ _ h => h.1)

/-- a callback first: what it establishes of its result is available to the rest. -/
theorem OpInv.bind_cb {E : Env K V Q} {m : SM K V Q α} {f : α → SM K V Q β} {tr Qv} (hm : CbOk m tr Qv)
    (hf : ∀ s a, Qv s a → OpInv E (f a)) : OpInv E (m >>= f) :=
  fun s hs => Sat.bind (Sat.mono (hm s) (fun _ _ h => h) (fun _ _ h => Keeps.of_eq hs h.1))
    fun a s₁ ⟨h₁, _, hq⟩ => Sat.mono (hf s a hq s₁ (h₁ ▸ hs)) (fun _ _ => Keeps.trans (Keeps.of_eq hs h₁))
      (fun _ _ => Keeps.trans (Keeps.of_eq hs h₁))

theorem OpInv.unwindWith {E : Env K V Q} {cleanup : SM K V Q Unit} {body : SM K V Q α} {tc Qc}
    (hc : CbOk cleanup tc Qc) (hb : OpInv E body) : OpInv E (Micromap.unwindWith cleanup body) := by
  intro s hs
  refine Sat.unwindWith (hb s hs) ?_
  intro c s' ⟨hI, hcap⟩
  refine Sat.mono (hc.unw (s'.setUnw true) rfl) ?_ (fun _ _ h => h)
  intro _ s'' ⟨g1, _, _⟩
  have : (s''.setUnw s'.w.unwinding).r = s'.r := by simpa using g1
  exact ⟨this ▸ hI, by rw [this]; exact hcap⟩

theorem OpInv.ite {E : Env K V Q} {c : Prop} [Decidable c] {m₁ m₂ : SM K V Q α} (h₁ : OpInv E m₁)
    (h₂ : OpInv E m₂) : OpInv E (if c then m₁ else m₂) := by
  split
  · exact h₁
  · exact h₂

variable (E : Env K V Q)

theorem opInv_insert (k : K) (v : V) : OpInv E (insert E k v) := by
  intro s ⟨l, hr, hn⟩
  refine Sat.mono (insert_sat E hr k v) ?_ ?_
  · intro a s' ⟨hc, h⟩
    refine ⟨?_, hc⟩
    rcases h with ⟨i, hi, _, hrep, _, _⟩ | ⟨_, _, hrep, _, hf⟩
    · exact ⟨_, hrep, InvL.set_val hn hi v⟩
    · exact ⟨_, hrep, InvL.append hn hf v⟩
  · intro c s' ⟨hc, h⟩
    refine ⟨?_, hc⟩
    rcases h with ⟨_, l', hrep, hl'⟩ | ⟨hs, _⟩
    · rcases hl' with rfl | ⟨i, hi, rfl⟩
      · exact ⟨_, hrep, hn⟩
      · exact ⟨_, hrep, InvL.set_val hn hi v⟩
    · exact ⟨l, hs ▸ hr, hn⟩

theorem opInv_insert_key_value (k : K) (v : V) : OpInv E (insert_key_value E k v) := by
  intro s ⟨l, hr, hn⟩
  refine Sat.mono (insert_key_value_sat E hr k v) ?_ (fun _ _ h => Keeps.of_eq ⟨l, hr, hn⟩ h.1)
  intro a s' ⟨hc, _, h⟩
  refine ⟨?_, hc⟩
  rcases h with ⟨i, hi, _, hrep, hf⟩ | ⟨_, _, hrep, hf⟩
  · exact ⟨_, hrep, InvL.set_found hn hf hi v⟩
  · exact ⟨_, hrep, InvL.append hn hf v⟩

theorem opInv_checked_insert (k : K) (v : V) : OpInv E (checked_insert E k v) := by
  intro s ⟨l, hr, hn⟩
  refine Sat.mono (checked_insert_sat E hr k v) ?_ ?_
  · intro a s' ⟨hc, h⟩
    refine ⟨?_, hc⟩
    rcases h with ⟨i, hi, _, hrep, _, _⟩ | ⟨_, _, hrep, _, hf⟩ | ⟨_, _, hs, _⟩
    · exact ⟨_, hrep, InvL.set_val hn hi v⟩
    · exact ⟨_, hrep, InvL.append hn hf v⟩
    · exact ⟨l, hs ▸ hr, hn⟩
  · intro c s' ⟨hc, _, l', hrep, hl'⟩
    refine ⟨?_, hc⟩
    rcases hl' with rfl | ⟨i, hi, rfl⟩
    · exact ⟨_, hrep, hn⟩
    · exact ⟨_, hrep, InvL.set_val hn hi v⟩

theorem opInv_get (pr : Probe K Q) : OpInv E (get E pr) :=
  OpInv.of_frame fun _ _ hr => Sat.mono (get_sat E hr pr) (fun _ _ h => h.1) (fun _ _ h => h.1)

theorem opInv_contains_key (pr : Probe K Q) : OpInv E (contains_key E pr) :=
  OpInv.of_frame fun _ _ hr => Sat.mono (contains_key_cb E hr pr) (fun _ _ h => h.1) (fun _ _ h => h.1)

theorem opInv_get_mut (pr : Probe K Q) (g : V → V) : OpInv E (get_mut E pr g) := by
  intro s ⟨l, hr, hn⟩
  refine Sat.mono (get_mut_sat E hr pr g) ?_ (fun _ _ h => Keeps.of_eq ⟨l, hr, hn⟩ h.1)
  intro a s' ⟨hc, _, h, _⟩
  refine ⟨?_, hc⟩
  rcases h with ⟨_, hs⟩ | ⟨i, hi, _, hrep⟩
  · exact ⟨l, hs ▸ hr, hn⟩
  · exact ⟨_, hrep, InvL.set_val hn hi _⟩

theorem opInv_index (pr : Probe K Q) : OpInv E (index E pr) :=
  OpInv.of_frame fun _ _ hr => Sat.mono (index_sat E hr pr) (fun _ _ h => h.1) (fun _ _ h => h.1)

theorem opInv_index_mut (pr : Probe K Q) (g : V → V) : OpInv E (index_mut E pr g) := by
  intro s ⟨l, hr, hn⟩
  refine Sat.mono (Refine.index_mut_sat E hr pr g) ?_ (fun _ _ h => Keeps.of_eq ⟨l, hr, hn⟩ h.1)
  intro a s' ⟨hc, _, ⟨hi, _, hrep⟩, _⟩
  exact ⟨⟨_, hrep, InvL.set_val hn hi _⟩, hc⟩

theorem opInv_remove (pr : Probe K Q) : OpInv E (remove E pr) := by
  intro s ⟨l, hr, hn⟩
  refine Sat.mono (remove_sat E hr pr) ?_ ?_
  · intro a s' ⟨hc, h, _⟩
    refine ⟨?_, hc⟩
    rcases h with ⟨_, hs, _⟩ | ⟨i, hi, _, hrep, _⟩
    · exact ⟨l, hs ▸ hr, hn⟩
    · exact ⟨_, hrep, InvL.swapRemove hn hi⟩
  · intro c s' ⟨hc, _, h⟩
    refine ⟨?_, hc⟩
    rcases h with hs | ⟨i, hi, hrep⟩
    · exact ⟨l, hs ▸ hr, hn⟩
    · exact ⟨_, hrep, InvL.swapRemove hn hi⟩

theorem opInv_remove_entry (pr : Probe K Q) : OpInv E (remove_entry E pr) := by
  intro s ⟨l, hr, hn⟩
  refine Sat.mono (remove_entry_sat E hr pr) ?_ (fun _ _ h => Keeps.of_eq ⟨l, hr, hn⟩ h.1)
  intro a s' ⟨hc, _, h, _⟩
  refine ⟨?_, hc⟩
  rcases h with ⟨_, hs⟩ | ⟨i, hi, _, hrep, _⟩
  · exact ⟨l, hs ▸ hr, hn⟩
  · exact ⟨_, hrep, InvL.swapRemove hn hi⟩

theorem opInv_clear : OpInv E (clear E) := by
  intro s ⟨l, hr, _⟩
  refine Sat.mono (clear_sat E hr) ?_ ?_
  · intro _ s' ⟨hrep, hc, _⟩; exact ⟨⟨[], hrep, InvL.nil⟩, hc⟩
  · intro c s' ⟨hrep, hc, _⟩; exact ⟨⟨[], hrep, InvL.nil⟩, hc⟩

theorem opInv_len : OpInv E (len : SM K V Q Nat) := fun _ hs => ⟨hs, rfl⟩
theorem opInv_capacity : OpInv E (capacity : SM K V Q Nat) := fun _ hs => ⟨hs, rfl⟩
theorem opInv_is_empty : OpInv E (is_empty : SM K V Q Bool) := fun _ hs => ⟨hs, rfl⟩

theorem opInv_retain (f : Nat → K → V → Bool × V) : OpInv E (retain E f) := by
  intro s ⟨l, hr, hn⟩
  refine Sat.mono (retain_sat E f (fun k v => f 0 k v) hr) ?_ ?_
  · intro _ s' ⟨hc, _, l', hrep, _, _, hk⟩
    exact ⟨⟨l', hrep, fun hg => hk _ hg.1.equivB (hn hg)⟩, hc⟩
  · intro c s' ⟨hc, _, l', hrep, _, hk⟩
    exact ⟨⟨l', hrep, fun hg => hk _ hg.1.equivB (hn hg)⟩, hc⟩

theorem forgetMap_sat {s : St K V Q} {P} :
    Sat (forgetMap : SM K V Q Unit) s
      (fun _ s' => s'.r = Raw.new s.r.cap ∧ s'.w.unwinding = s.w.unwinding ∧ s'.w.inject = s.w.inject ∧
        s'.w.profile = s.w.profile) P :=
  ⟨rfl, rfl, rfl, rfl⟩

theorem opInv_forget : OpInv E (forgetMap : SM K V Q Unit) := by
  intro s _
  refine Sat.mono (forgetMap_sat (P := fun _ _ => False)) ?_ (fun _ _ h => h.elim)
  intro _ s' ⟨h, _⟩
  exact Keeps.of_new h

/-- dropping a container: whatever happens (also when an element's `Drop` unwinds) the register
    ends up holding a fresh `new()` of the same capacity, and no dead slot is touched. -/
theorem dropAndRenew_sat {s : St K V Q} {l : List (K × V)} (hr : Rep s.r l) :
    Sat (dropAndRenew E) s (fun _ s' => s'.r = Raw.new s.r.cap) (fun _ s' => s'.r = Raw.new s.r.cap) := by
  unfold dropAndRenew
  refine Sat.unwindWith (P₀ := fun _ s' => s'.r.cap = s.r.cap) ?_ ?_
  · refine Sat.bind (Sat.mono (dropMap_sat E hr) (fun _ _ h => h) ?_) ?_
    · intro c s' ⟨hc, _⟩; exact hc
    · intro _ s1 ⟨hc, _⟩
      refine Sat.mono (forgetMap_sat (P := fun _ s' => s'.r.cap = s.r.cap)) ?_ (fun _ _ h => h)
      intro _ s' ⟨h, _⟩; rw [h, hc]
  · intro c s' hc
    refine Sat.mono (forgetMap_sat (P := fun _ _ => False)) ?_ (fun _ _ h => h)
    intro _ s'' ⟨h, _⟩
    show (s''.setUnw _).r = _
    rw [setUnw_r, h, setUnw_r, hc]

theorem opInv_drop : OpInv E (dropAndRenew E) := by
  intro s ⟨l, hr, _⟩
  exact Sat.mono (dropAndRenew_sat E hr) (fun _ _ => Keeps.of_new) (fun _ _ => Keeps.of_new)

theorem OpInv.of_read {E : Env K V Q} {m : SM K V Q α} (h : ∀ s l, Rep s.r l → ∃ a, m s = .ok a s) :
    OpInv E m :=
  fun s hs => let ⟨_, ha⟩ := h s _ hs.abs.1; Sat.of_ok ha ⟨hs, rfl⟩

theorem opInv_fmtMap (R : Render K V) (kind : FmtKind) : OpInv E (fmtMap R kind) :=
  OpInv.of_read fun s l hr => by
    unfold fmtMap
    simp only [bind_apply, Micromap.getS, Refine.entriesOf_ok hr]
    cases kind <;> exact ⟨_, rfl⟩

theorem opInv_assertP (c : Bool) (cls : PanicClass) : OpInv E (assertP c cls : SM K V Q Unit) := by
  intro s hs
  unfold Sat assertP
  cases c <;> exact ⟨hs, rfl⟩

end Micromap
