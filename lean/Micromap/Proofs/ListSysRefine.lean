/-
THE REFINEMENT THEOREM: the slot machine (`Micromap.step`, `Micromap.run`) computes the
list-level interpreter (`ListSys.lstep`, `ListSys.lrun`) of `Spec/ListSys.lean`.
-/
import Micromap.Proofs.ListSysBuild
import Micromap.Proofs.SysInv

namespace Micromap.ListSys
open Micromap
variable {K V Q : Type}

/-- every register of `sys` represents the register of `ls` (its slots `[0, len)` are exactly the
    list, whatever the dead slots hold) with the same capacity; same build profile. -/
def SysRep (sys : Sys K V Q) (ls : LSys K V) : Prop :=
  (∀ i, Rep (sys.maps i) (ls.maps i).l ∧ (sys.maps i).cap = (ls.maps i).cap) ∧
  (∀ i, Rep (sys.sets i) (ls.sets i).l ∧ (sys.sets i).cap = (ls.sets i).cap) ∧
  sys.w.profile = ls.profile

theorem SysRep.init (capM capS : Nat → Nat) (w : World K V Q) :
    SysRep (Sys.init capM capS w) (LSys.init capM capS w.profile) :=
  ⟨fun _ => ⟨Rep.new _, rfl⟩, fun _ => ⟨Rep.new _, rfl⟩, rfl⟩

theorem SysRep.setMap {sys : Sys K V Q} {ls : LSys K V} (hs : SysRep sys ls) (i : Nat) {r : Raw K V}
    {c : Nat} {l' : List (K × V)} (hr : Rep r l') (hc : r.cap = c) {w : World K V Q}
    (hw : w.profile = ls.profile) :
    SysRep { sys with maps := updReg sys.maps i r, w := w } (ls.setMap i ⟨c, l'⟩) := by
  refine ⟨fun j => ?_, hs.2.1, hw⟩
  simp only [LSys.setMap, updReg]
  split
  · exact ⟨hr, hc⟩
  · exact hs.1 j

theorem SysRep.setSet {sys : Sys K V Q} {ls : LSys K V} (hs : SysRep sys ls) (i : Nat) {r : Raw K Unit}
    {c : Nat} {l' : List (K × Unit)} (hr : Rep r l') (hc : r.cap = c) {w : World K V Q}
    (hw : w.profile = ls.profile) :
    SysRep { sys with sets := updReg sys.sets i r, w := w } (ls.setSet i ⟨c, l'⟩) := by
  refine ⟨hs.1, fun j => ?_, hw⟩
  simp only [LSys.setSet, updReg]
  split
  · exact ⟨hr, hc⟩
  · exact hs.2.1 j

theorem SysRep.world {sys : Sys K V Q} {ls : LSys K V} (hs : SysRep sys ls) {w : World K V Q}
    (hw : w.profile = ls.profile) : SysRep { sys with w := w } ls := ⟨hs.1, hs.2.1, hw⟩

/-- a system-level computation has the outcome the interpreter gives. -/
def SysOK (res : LRes K V) (r : Res (Sys K V Q) (RV K V)) : Prop :=
  match res with
  | .ok ret ls' => ∃ sys', r = .ok ret sys' ∧ SysRep sys' ls' ∧ Benign sys'.w
  | .panic c ls' => ∃ sys', r = .panic c sys' ∧ SysRep sys' ls' ∧ Benign sys'.w

section lift
variable {sys : Sys K V Q} {ls : LSys K V} (hs : SysRep sys ls) (hb : Benign sys.w)
include hs

include hb in
theorem ctx_map (i : Nat) : Ctx ls.profile (ls.maps i).cap (ls.maps i).l (⟨sys.maps i, sys.w⟩ : St K V Q) :=
  ⟨(hs.1 i).1, (hs.1 i).2, hb, hs.2.2⟩

include hb in
theorem ctx_set (i : Nat) :
    Ctx ls.profile (ls.sets i).cap (ls.sets i).l (⟨sys.sets i, sys.w.toUnit⟩ : St K Unit Q) :=
  ⟨(hs.2.1 i).1, (hs.2.1 i).2, ⟨hb.1, hb.2⟩, hs.2.2⟩

theorem runOnMap_ret {α : Type} (i : Nat) {m : SM K V Q α} {a : α} {l' : List (K × V)}
    (h : Ret m ⟨sys.maps i, sys.w⟩ a (Ctx ls.profile (ls.maps i).cap l')) :
    ∃ sys', runOnMap sys i m = .ok a sys' ∧ SysRep sys' (ls.setMap i ⟨(ls.maps i).cap, l'⟩) ∧
      Benign sys'.w := by
  obtain ⟨s', hm, hc'⟩ := h
  exact ⟨_, by simp only [runOnMap, hm], hs.setMap i hc'.rep hc'.cap hc'.prof, hc'.benign⟩

theorem runOnSet_ret {α : Type} (i : Nat) {m : SM K Unit Q α} {a : α} {l' : List (K × Unit)}
    (h : Ret m ⟨sys.sets i, sys.w.toUnit⟩ a (Ctx ls.profile (ls.sets i).cap l')) :
    ∃ sys', runOnSet sys i m = .ok a sys' ∧ SysRep sys' (ls.setSet i ⟨(ls.sets i).cap, l'⟩) ∧
      Benign sys'.w := by
  obtain ⟨s', hm, hc'⟩ := h
  exact ⟨{ sys with sets := updReg sys.sets i s'.r, w := sys.w.mergeUnit s'.w },
    by simp only [runOnSet, hm],
    hs.setSet i (w := sys.w.mergeUnit s'.w) hc'.rep hc'.cap hc'.prof, ⟨hc'.benign.1, hc'.benign.2⟩⟩

theorem runOnMap_ok (i : Nat) {m : SM K V Q (RV K V)} {res : RRes K V}
    (h : RegOK ls.profile (ls.maps i).cap res m ⟨sys.maps i, sys.w⟩) :
    SysOK (liftMap ls i id res) (runOnMap sys i m) := by
  cases res <;>
  · obtain ⟨s', hm, hc'⟩ := h
    exact ⟨_, by simp only [runOnMap, hm, id], hs.setMap i hc'.rep hc'.cap hc'.prof, hc'.benign⟩

theorem runOnSet_ok (i : Nat) {m : SM K Unit Q (RV K Unit)} {res : RRes K Unit}
    (h : RegOK ls.profile (ls.sets i).cap res m ⟨sys.sets i, sys.w.toUnit⟩) :
    SysOK (liftSet ls i res) ((runOnSet sys i m).mapVal RV.castU) := by
  cases res <;>
  · obtain ⟨s', hm, hc'⟩ := h
    exact ⟨{ sys with sets := updReg sys.sets i s'.r, w := sys.w.mergeUnit s'.w },
      by simp only [runOnSet, hm, Res.mapVal],
      hs.setSet i (w := sys.w.mergeUnit s'.w) hc'.rep hc'.cap hc'.prof, ⟨hc'.benign.1, hc'.benign.2⟩⟩

variable (E : Env K V Q)

/-- `*dst = built`: the register is assigned when the build returns (the old value is dropped);
    when the build unwinds nothing is assigned. -/
theorem assignMap_ok (dst cap : Nat) {build : SM K V Q Unit} {res : Option (List (K × V))} (ret : RV K V)
    (h : BuildOK ls.profile cap res build sys.w) :
    SysOK (match res with
        | some l' => .ok ret (ls.setMap dst ⟨cap, l'⟩)
        | none => .panic (fullPanic ls.profile) ls)
      ((assignMap E sys dst cap build).mapVal fun _ => ret) := by
  cases res with
  | some l' =>
    obtain ⟨s1, h1, hc1⟩ := h
    have hcd : Ctx ls.profile (ls.maps dst).cap (ls.maps dst).l (⟨sys.maps dst, s1.w⟩ : St K V Q) :=
      ⟨(hs.1 dst).1, (hs.1 dst).2, hc1.benign, hc1.prof⟩
    obtain ⟨s2, h2, hc2⟩ := dropAndRenew_ret E hcd
    exact ⟨_, by simp only [assignMap, h1, h2, Res.mapVal], hs.setMap dst hc1.rep hc1.cap hc2.prof, hc2.benign⟩
  | none =>
    obtain ⟨s1, h1, hb1, hp1⟩ := h
    exact ⟨_, by simp only [assignMap, h1, Res.mapVal], hs.world hp1, hb1⟩

theorem assignSet_ok (dst cap : Nat) {build : SM K Unit Q Unit} {res : Option (List (K × Unit))}
    (ret : RV K V) (h : BuildOK ls.profile cap res build sys.w.toUnit) :
    SysOK (match res with
        | some l' => .ok ret (ls.setSet dst ⟨cap, l'⟩)
        | none => .panic (fullPanic ls.profile) ls)
      ((assignSet E sys dst cap build).mapVal fun _ => ret) := by
  cases res with
  | some l' =>
    obtain ⟨s1, h1, hc1⟩ := h
    have hcd : Ctx ls.profile (ls.sets dst).cap (ls.sets dst).l (⟨sys.sets dst, s1.w⟩ : St K Unit Q) :=
      ⟨(hs.2.1 dst).1, (hs.2.1 dst).2, hc1.benign, hc1.prof⟩
    obtain ⟨s2, h2, hc2⟩ := dropAndRenew_ret E.toUnit hcd
    exact ⟨{ sys with sets := updReg sys.sets dst s1.r, w := sys.w.mergeUnit s2.w },
      by simp only [assignSet, h1, h2, Res.mapVal],
      hs.setSet dst (w := sys.w.mergeUnit s2.w) hc1.rep hc1.cap hc2.prof, ⟨hc2.benign.1, hc2.benign.2⟩⟩
  | none =>
    obtain ⟨s1, h1, hb1, hp1⟩ := h
    exact ⟨{ sys with w := sys.w.mergeUnit s1.w }, by simp only [assignSet, h1, Res.mapVal],
      hs.world (w := sys.w.mergeUnit s1.w) hp1, ⟨hb1.1, hb1.2⟩⟩

end lift

/-- the operations the refinement theorem covers: the whole operation language except the two
    `unsafe fn`s (`insert_unchecked`, `get_disjoint_unchecked_mut`: outside their contract the model
    has `ub`) and the harness command `inject` (it arms a fault: the next world is not benign). -/
def _root_.Micromap.Op.inSpec : Op K V Q → Bool
  | .inject _ => false
  | op => op.safeApi

/-- the side conditions on user code beyond a time-independent `==`: `retain` predicates do not
    look at the call counter; for the operations whose RESULT contains clones (`clone_to`,
    `&a - &b`, `serde`) the user's `Clone` does not depend on the fresh-object counter. -/
def Op.SideOK (E : Env K V Q) : Op K V Q → Prop
  | .map _ (.clone_to _) => Env.CloneStable E
  | .map _ (.serde _) => Env.CloneStable E
  | .map _ op => MapOp.SideOK op
  | .set _ (.clone_to _) => Env.CloneStable E
  | .set _ (.serde _) => Env.CloneStable E
  | .set _ (.sub _ _) => Env.CloneStable E
  | .set _ op => SetOp.SideOK op
  | .umap _ op => MapOp.SideOK op
  | .inject _ => True
  | .endCase => True

theorem tokSummary_tokens (l : List (K × V)) : tokSummary (Serde.tokens l) = lTokSummary l := by
  unfold tokSummary Serde.tokens lTokSummary
  have : ∀ xs : List (K × V), (List.filter Tok.isEntry
      (xs.map fun p => Tok.entry p.1 p.2)).length = xs.length := by
    intro xs; induction xs with
    | nil => rfl
    | cons p xs ih => simp [List.filter_cons, Tok.isEntry, ih]
  simp [List.filter_append, Tok.isEntry]
  exact this l

theorem Env.Pure.toUnit {E : Env K V Q} (h : E.Pure) : E.toUnit.Pure := Micromap.Env.Pure.toUnit h

section core
variable (E : Env K V Q) (R : Render K V) {sys : Sys K V Q} (ls : LSys K V) (reg : Nat)

/-! `lstepCore` by equations, as `stepCore` in `StepEqs`. -/

theorem lstepCore_map {mop : MapOp K V Q} (h : mop.atSys = false) :
    lstepCore E R ls (.map reg mop) = liftMap ls reg id
      (lMapOp E R ls.profile (ls.maps reg).cap (fun o => (ls.maps o).l) (ls.maps reg).l mop) := by
  cases mop with
  | clone_to _ | from_iter _ _ | serde _ => cases h
  | _ => rfl

theorem lstepCore_set {sop : SetOp K Q} (h : sop.atSys = false) :
    lstepCore E R ls (.set reg sop) = liftSet ls reg
      (lSetOp E.toUnit R.toUnit ls.profile (ls.sets reg).cap (fun o => (ls.sets o).l) (ls.sets reg).l sop) := by
  cases sop with
  | clone_to _ | from_iter _ _ | sub _ _ | serde _ | extend_from _ => cases h
  | _ => rfl

theorem lstepCore_umap {uop : MapOp K Unit Q} (h : uop.atSys = false) :
    lstepCore E R ls (.umap reg uop) = liftSet ls reg
      (lMapOp E.toUnit R.toUnit ls.profile (ls.sets reg).cap (fun o => (ls.sets o).l) (ls.sets reg).l uop) := by
  cases uop with
  | clone_to _ | from_iter _ _ | serde _ => cases h
  | _ => rfl

theorem lstepCore_umap_atSys {uop : MapOp K Unit Q} (h : uop.atSys = true) :
    lstepCore E R ls (.umap reg uop) = .ok .unit ls := by
  cases uop with
  | clone_to _ | from_iter _ _ | serde _ => rfl
  | _ => cases h

theorem Op.SideOK.map {mop : MapOp K V Q} : Op.SideOK E (.map reg mop) → MapOp.SideOK mop := by
  cases mop with
  | clone_to _ | serde _ => exact fun _ => trivial
  | _ => exact id

theorem Op.SideOK.set {sop : SetOp K Q} : Op.SideOK E (.set reg sop) → SetOp.SideOK sop := by
  cases sop with
  | clone_to _ | serde _ | sub _ _ => exact fun _ => trivial
  | _ => exact id

variable {ls}

theorem stepCore_map_ok (hE : E.Pure) (hs : SysRep sys ls) (hb : Benign sys.w)
    (mop : MapOp K V Q) (hop : mop.safeApi = true) (hside : Op.SideOK E (.map reg mop)) :
    SysOK (lstepCore E R ls (.map reg mop)) (stepCore E R sys (.map reg mop)) := by
  cases hat : mop.atSys with
  | false =>
    rw [stepCore_map E R sys reg hat, lstepCore_map E R ls reg hat]
    exact runOnMap_ok hs reg (stepMapOp_ok E R hE (ctx_map hs hb reg) sys.maps _ (fun o => (hs.1 o).1)
      mop hop (Op.SideOK.map E reg hside))
  | true =>
    cases mop with
    | serde dst =>
      have hbuild := deserialize_ok E hE hside (ls.maps reg).l (cap := (ls.maps dst).cap) hb hs.2.2
      rw [stepCore_map_serde E R sys reg dst (toks := Serde.tokens (ls.maps reg).l) (serializeR_ok (hs.1 reg).1 _),
        tokSummary_tokens, (hs.1 dst).2]
      exact assignMap_ok hs E dst _ _ hbuild
    | clone_to dst =>
      have hbuild := cloneInto_ret E hside (hs.1 reg).1 hb hs.2.2
      rw [stepCore_map_clone_to]
      simp only [lstepCore]
      rw [← (hs.1 reg).2]
      exact assignMap_ok hs E dst _ .unit (res := some _) hbuild
    | from_iter pulls xs =>
      have hbuild := from_iter_ok E hE pulls xs (cap := (sys.maps reg).cap) hb hs.2.2
      rw [stepCore_map_from_iter]
      rw [(hs.1 reg).2] at hbuild ⊢
      exact assignMap_ok hs E reg _ .unit hbuild
    | _ => cases hat

/-- **`sets[i].extend(sets[j])`** (`j ≠ i`, the set `j` moved in): the destination is the fold of
    single inserts of the source's keys in the order the consuming iterator yields them (last
    first); the source is empty afterwards; when a new key finds the destination full, the overflow
    panic of the profile, with what went in so far kept and the source emptied all the same. -/
theorem extendFrom_ok (hE : E.Pure) (hs : SysRep sys ls) (hb : Benign sys.w) {i j : Nat} (hj : j ≠ i) :
    SysOK (lstepCore E R ls (.set i (.extend_from j))) ((extendFrom E sys i j).mapVal fun _ => .unit) := by
  simp only [lstepCore, if_neg hj, Res.mapVal]
  have hF : E.toUnit.Pure := Env.Pure.toUnit hE
  have hloop := extendFromLoop_ok E.toUnit hF (prof := ls.profile) (capS := (ls.sets j).cap)
    (capD := (ls.sets i).cap) ((sys.sets j).len + 1) (ls.sets j).l (ls.sets i).l (sys.sets j)
    ⟨sys.sets i, sys.w.toUnit⟩ (by rw [(hs.2.1 j).1.1]; omega) (hs.2.1 j).1 (hs.2.1 j).2 (ctx_set hs hb i)
  unfold ExtendFromOK at hloop
  unfold extendFrom
  split at hloop
  · rename_i hov
    rw [if_pos hov]
    obtain ⟨x, hx, hr0, hc0, hcd⟩ := hloop
    rw [hx]
    have hcs : Ctx ls.profile (ls.sets j).cap ([] : List (K × Unit)) (⟨x.1, x.2.w⟩ : St K Unit Q) :=
      ⟨hr0, hc0, hcd.benign, hcd.prof⟩
    obtain ⟨s4, h4, hc4⟩ := dropAndRenew_ret E.toUnit hcs
    simp only
    rw [h4]
    refine ⟨extendFin sys i j s4.r x.2.r s4.w, rfl, ?_, ⟨hc4.benign.1, hc4.benign.2⟩⟩
    exact (hs.setSet j (w := sys.w) hc4.rep hc4.cap hs.2.2).setSet i (w := sys.w.mergeUnit s4.w)
      hcd.rep hcd.cap hc4.prof
  · rename_i hov
    rw [if_neg hov]
    obtain ⟨x, hx, hr0, hc0, hcd⟩ := hloop
    rw [hx]
    refine ⟨extendFin sys i j x.1 x.2.r x.2.w, rfl, ?_, ⟨hcd.benign.1, hcd.benign.2⟩⟩
    exact (hs.setSet j (w := sys.w) hr0 hc0 hs.2.2).setSet i (w := sys.w.mergeUnit x.2.w)
      hcd.rep hcd.cap hcd.prof

theorem stepCore_set_ok (hE : E.Pure) (hs : SysRep sys ls) (hb : Benign sys.w)
    (sop : SetOp K Q) (hside : Op.SideOK E (.set reg sop)) :
    SysOK (lstepCore E R ls (.set reg sop)) (stepCore E R sys (.set reg sop)) := by
  have hF : E.toUnit.Pure := Env.Pure.toUnit hE
  have hbu : Benign sys.w.toUnit := ⟨hb.1, hb.2⟩
  cases hat : sop.atSys with
  | false =>
    rw [stepCore_set E R sys reg hat, lstepCore_set E R ls reg hat]
    exact runOnSet_ok hs reg (stepSetOp_ok E.toUnit R.toUnit hF (ctx_set hs hb reg) sys.sets _
      (fun o => (hs.2.1 o).1) sop (Op.SideOK.set E reg hside))
  | true =>
    cases sop with
    | serde dst =>
      -- the world after serializing: nothing happened
      have hs1 : SysRep ({ sys with w := sys.w.mergeUnit sys.w.toUnit } : Sys K V Q) ls := hs.world hs.2.2
      have hbuild := deserialize_ok E.toUnit hF (Env.CloneStable.toUnit hside) (ls.sets reg).l
        (cap := (ls.sets dst).cap) (w := (sys.w.mergeUnit sys.w.toUnit).toUnit) ⟨hb.1, hb.2⟩ hs.2.2
      rw [stepCore_set_serde E R sys reg dst (toks := Serde.tokens (ls.sets reg).l)
        (serializeR_ok (hs.2.1 reg).1 _), tokSummary_tokens, (hs.2.1 dst).2]
      exact assignSet_ok hs1 E dst _ _ hbuild
    | clone_to dst =>
      have hbuild := cloneInto_ret E.toUnit (Env.CloneStable.toUnit hside) (hs.2.1 reg).1 hbu hs.2.2
      rw [stepCore_set_clone_to]
      simp only [lstepCore]
      rw [← (hs.2.1 reg).2]
      exact assignSet_ok hs E dst _ .unit (res := some _) hbuild
    | from_iter pulls xs =>
      have hbuild := from_iter_ok E.toUnit hF pulls (xs.map fun k => (k, ())) (cap := (sys.sets reg).cap)
        hbu hs.2.2
      rw [stepCore_set_from_iter]
      rw [(hs.2.1 reg).2] at hbuild ⊢
      exact assignSet_ok hs E reg _ .unit hbuild
    | sub o dst =>
      have hbuild := subInto_ok E.toUnit hF (Env.CloneStable.toUnit hside) (hs.2.1 reg).1 (hs.2.1 o).1 hbu hs.2.2
      -- the difference has at most `|a| ≤ cap a` elements: the collection cannot overflow
      have hroom : (cloneL E.toUnit ((ls.sets reg).l.filter (notIn E.toUnit (ls.sets o).l))).length ≤
          (ls.sets reg).cap := by
        have h1 := (hs.2.1 reg).1.2.1
        have h2 := List.length_filter_le (notIn E.toUnit (ls.sets o).l) (ls.sets reg).l
        have h3 := (hs.2.1 reg).2
        simp only [cloneL, List.length_map]
        omega
      rw [stepCore_set_sub]
      simp only [lstepCore]
      rw [(hs.2.1 reg).2] at hbuild ⊢
      rw [lBuild_of_room E.toUnit _ _ hroom] at hbuild
      exact assignSet_ok hs E dst _ .unit hbuild
    | extend_from o =>
      by_cases ho : o = reg
      · subst ho
        rw [stepCore_set_extend_from_self]
        simp only [lstepCore, if_true]
        exact ⟨sys, rfl, hs, hb⟩
      · rw [stepCore_set_extend_from E R sys reg ho]
        exact extendFrom_ok E R hE hs hb ho
    | _ => cases hat

theorem stepCore_umap_ok (hE : E.Pure) (hs : SysRep sys ls) (hb : Benign sys.w)
    (uop : MapOp K Unit Q) (hop : uop.safeApi = true) (hside : MapOp.SideOK uop) :
    SysOK (lstepCore E R ls (.umap reg uop)) (stepCore E R sys (.umap reg uop)) := by
  cases hat : uop.atSys with
  | false =>
    rw [stepCore_umap E R sys reg hat, lstepCore_umap E R ls reg hat]
    exact runOnSet_ok hs reg (stepMapOp_ok E.toUnit R.toUnit (Env.Pure.toUnit hE) (ctx_set hs hb reg) sys.sets _
      (fun o => (hs.2.1 o).1) uop hop hside)
  | true =>
    rw [stepCore_umap_atSys E R sys reg hat, lstepCore_umap_atSys E R ls reg hat]
    exact ⟨sys, rfl, hs, hb⟩

/-- the end of a test case: the harness drops registers 0 and 1 of each kind. -/
theorem dropAllRegs_ok (hs : SysRep sys ls) (hb : Benign sys.w) :
    ∃ sys', dropAllRegs E sys = .ok () sys' ∧ Benign sys'.w ∧
      SysRep sys'
        { ls with
          maps := updReg (updReg ls.maps 0 ⟨(ls.maps 0).cap, []⟩) 1 ⟨(ls.maps 1).cap, []⟩
          sets := updReg (updReg ls.sets 0 ⟨(ls.sets 0).cap, []⟩) 1 ⟨(ls.sets 1).cap, []⟩ } := by
  obtain ⟨s1, e1, r1, b1⟩ := runOnMap_ret hs 0 (dropAndRenew_ret E (ctx_map hs hb 0))
  obtain ⟨s2, e2, r2, b2⟩ := runOnMap_ret r1 1 (dropAndRenew_ret E (ctx_map r1 b1 1))
  obtain ⟨s3, e3, r3, b3⟩ := runOnSet_ret r2 0 (dropAndRenew_ret E.toUnit (ctx_set r2 b2 0))
  obtain ⟨s4, e4, r4, b4⟩ := runOnSet_ret r3 1 (dropAndRenew_ret E.toUnit (ctx_set r3 b3 1))
  refine ⟨s4, ?_, b4, r4⟩
  simp only [dropAllRegs, dropAllRegs.goM, dropAllRegs.goS, nRegs, e1, e2, e3, e4]

end core

/-- what the interpreter is compared with: outcome and returned value of a step. -/
def view (o : Out K V Q) : LOut K V := ⟨o.outcome, o.ret⟩

section main
variable (E : Env K V Q) (R : Render K V)

/-- **ONE STEP.**  For a time-independent `==`, in a world without an armed fault, for every
    operation in the scope of the interpreter: `step` shows the outcome and the returned value that
    the list-level interpreter computes, the registers afterwards represent the interpreter's
    lists (same capacities), and the world is again without an armed fault. -/
theorem step_refines (hE : E.Pure) {sys : Sys K V Q} {ls : LSys K V} (hb : Benign sys.w)
    (hs : SysRep sys ls) (op : Op K V Q) (hop : op.inSpec = true) (hside : Op.SideOK E op) :
    view (step E R sys op).2 = (lstep E R ls op).2 ∧
      SysRep (step E R sys op).1 (lstep E R ls op).1 ∧ Benign (step E R sys op).1.w := by
  have hs0 : SysRep ({ sys with w := { sys.w with events := [] } } : Sys K V Q) ls := hs.world hs.2.2
  have hb0 : Benign ({ sys with w := { sys.w with events := [] } } : Sys K V Q).w := ⟨hb.1, hb.2⟩
  -- the three kinds of register operations share the end of the proof
  have hfin : ∀ (o : Op K V Q), (∀ j, o ≠ .inject j) → o ≠ .endCase →
      SysOK (lstepCore E R ls o) (stepCore E R { sys with w := { sys.w with events := [] } } o) →
      view (step E R sys o).2 = (lstep E R ls o).2 ∧
        SysRep (step E R sys o).1 (lstep E R ls o).1 ∧ Benign (step E R sys o).1.w := by
    intro o hni hne h
    rw [step_eq_stepOut E R sys hni hne]
    unfold lstep
    generalize lstepCore E R ls o = res at h
    cases res <;>
    · obtain ⟨sys', h1, h2, h3⟩ := h
      rw [h1]
      exact ⟨rfl, h2.world h2.2.2, ⟨rfl, h3.2⟩⟩
  cases op with
  | inject j => cases hop
  | endCase =>
    have hs1 : SysRep ({ sys with w := { { sys.w with events := [] } with inject := none } } : Sys K V Q) ls :=
      hs.world hs.2.2
    have hb1 : Benign ({ sys with w := { { sys.w with events := [] } with inject := none } } : Sys K V Q).w :=
      ⟨rfl, hb.2⟩
    obtain ⟨sys', h1, h2, h3⟩ := dropAllRegs_ok E hs1 hb1
    unfold step lstep
    simp only [h1, lstepCore]
    exact ⟨rfl, h3, h2⟩
  | map reg mop =>
    exact hfin _ (fun _ h => by cases h) (fun h => by cases h) (stepCore_map_ok E R reg hE hs0 hb0 mop hop hside)
  | set reg sop =>
    exact hfin _ (fun _ h => by cases h) (fun h => by cases h) (stepCore_set_ok E R reg hE hs0 hb0 sop hside)
  | umap reg uop =>
    exact hfin _ (fun _ h => by cases h) (fun h => by cases h) (stepCore_umap_ok E R reg hE hs0 hb0 uop hop hside)

/-- **EVERY HISTORY.**  From any system that represents `ls` in a benign world, for every list of
    operations in the scope of the interpreter: `run` shows, step by step, exactly the outcomes and
    returned values that `lrun` computes on the lists, and the final registers represent the final
    lists. -/
theorem run_refines_from_any (hE : E.Pure) : ∀ (ops : List (Op K V Q)) (sys : Sys K V Q) (ls : LSys K V),
    Benign sys.w → SysRep sys ls → (∀ op ∈ ops, op.inSpec = true ∧ Op.SideOK E op) →
    (run E R sys ops).2.map view = (lrun E R ls ops).2 ∧
      SysRep (run E R sys ops).1 (lrun E R ls ops).1 ∧ Benign (run E R sys ops).1.w
  | [], sys, ls, hb, hs, _ => ⟨rfl, hs, hb⟩
  | op :: ops, sys, ls, hb, hs, hops => by
    obtain ⟨h1, h2, h3⟩ := step_refines E R hE hb hs op (hops op (List.mem_cons_self ..)).1
      (hops op (List.mem_cons_self ..)).2
    obtain ⟨g1, g2, g3⟩ := run_refines_from_any hE ops _ _ h3 h2 (fun o ho => hops o (List.mem_cons_of_mem _ ho))
    simp only [run, lrun, List.map_cons]
    exact ⟨by rw [h1, g1], g2, g3⟩

/-- **`run` from the initial system** (`Sys.init`: all registers empty) computes `lrun` from the
    initial lists. -/
theorem run_refines (hE : E.Pure) (capM capS : Nat → Nat) (w0 : World K V Q) (hb : Benign w0)
    (ops : List (Op K V Q)) (hops : ∀ op ∈ ops, op.inSpec = true ∧ Op.SideOK E op) :
    (run E R (Sys.init capM capS w0) ops).2.map view =
        (lrun E R (LSys.init capM capS w0.profile) ops).2 ∧
      SysRep (run E R (Sys.init capM capS w0) ops).1 (lrun E R (LSys.init capM capS w0.profile) ops).1 ∧
      Benign (run E R (Sys.init capM capS w0) ops).1.w :=
  run_refines_from_any E R hE ops _ _ hb (SysRep.init capM capS w0) hops

/-- **Only the lists matter.**  Two systems whose registers represent the same lists — whatever
    their dead slots hold, whatever their event logs, leak lists, call counters — show the same
    outcomes and returned values on every history, and end representing the same lists. -/
theorem run_deterministic_in_lists (hE : E.Pure) {sys₁ sys₂ : Sys K V Q} {ls : LSys K V}
    (hb₁ : Benign sys₁.w) (hb₂ : Benign sys₂.w) (hs₁ : SysRep sys₁ ls) (hs₂ : SysRep sys₂ ls)
    (ops : List (Op K V Q)) (hops : ∀ op ∈ ops, op.inSpec = true ∧ Op.SideOK E op) :
    (run E R sys₁ ops).2.map view = (run E R sys₂ ops).2.map view ∧
      ∃ ls', SysRep (run E R sys₁ ops).1 ls' ∧ SysRep (run E R sys₂ ops).1 ls' := by
  obtain ⟨h1, h2, _⟩ := run_refines_from_any E R hE ops sys₁ ls hb₁ hs₁ hops
  obtain ⟨g1, g2, _⟩ := run_refines_from_any E R hE ops sys₂ ls hb₂ hs₂ hops
  exact ⟨by rw [h1, g1], _, h2, g2⟩

end main

end Micromap.ListSys
