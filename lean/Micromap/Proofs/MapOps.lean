/-
Evaluation of the container primitives, `Rep` under slot updates, and the triples of
`remove_index_read` and `insert_ii` (`map.rs::internal`) and of `Map::insert`.
-/
import Micromap.Proofs.Lookup
import Micromap.Proofs.DictLaws

namespace Micromap
variable {K V Q : Type}

open Dict (swapRemove)

theorem getLast?_eq_getElem {l : List (K × V)} (h : 0 < l.length) :
    l.getLast? = some (l[l.length - 1]'(by omega)) := by
  rw [List.getLast?_eq_getElem?]
  exact List.getElem?_eq_getElem (by omega)

theorem getElem?_swapRemove {l : List (K × V)} {i} (hi : i < l.length) (j : Nat) :
    (swapRemove l i)[j]? =
      if j < l.length - 1 then (if j = i then l[l.length - 1]? else l[j]?) else none := by
  unfold swapRemove
  by_cases hl : i + 1 = l.length
  · rw [if_pos hl, List.getElem?_dropLast]
    by_cases hj : j < l.length - 1
    · have : j ≠ i := by omega
      simp [hj, this]
    · simp [hj]
  · rw [if_neg hl, getLast?_eq_getElem (by omega : 0 < l.length)]
    simp only [List.getElem?_dropLast, List.length_set]
    by_cases hj : j < l.length - 1
    · by_cases hji : j = i
      · subst hji; simp [hj, hi, List.getElem?_eq_getElem (show l.length - 1 < l.length by omega)]
      · simp [hj, hji, List.getElem?_set_ne (Ne.symm hji)]
    · simp [hj]

theorem itemRef_ok {s : St K V Q} {i p} (hc : i < s.r.cap) (hs : s.r.slots i = some p) :
    itemRef i s = .ok p s := by
  simp [itemRef, itemRefR, hc, hs]

theorem itemRead_ok {s : St K V Q} {i p} (hc : i < s.r.cap) (hs : s.r.slots i = some p) :
    itemRead i s = .ok p { s with r := setSlot s.r i none } := by
  simp [itemRead, hc, hs]

theorem valueReplace_ok {s : St K V Q} {i p} (v : V) (hc : i < s.r.cap) (hs : s.r.slots i = some p) :
    valueReplace i v s = .ok p.2 { s with r := setSlot s.r i (some (p.1, v)) } := by
  simp [valueReplace, hc, hs]

theorem pairReplace_ok {s : St K V Q} {i p} (q : K × V) (hc : i < s.r.cap) (hs : s.r.slots i = some p) :
    pairReplace i q s = .ok p { s with r := setSlot s.r i (some q) } := by
  simp [pairReplace, hc, hs]

theorem Rep.valueReplace_ok {s : St K V Q} {l} (h : Rep s.r l) {i} (hi : i < l.length) (v : V) :
    valueReplace i v s = .ok l[i].2 { s with r := setSlot s.r i (some (l[i].1, v)) } :=
  Micromap.valueReplace_ok v (h.cap_lt hi) (h.slot hi)

theorem Rep.pairReplace_ok {s : St K V Q} {l} (h : Rep s.r l) {i} (hi : i < l.length) (q : K × V) :
    pairReplace i q s = .ok l[i] { s with r := setSlot s.r i (some q) } :=
  Micromap.pairReplace_ok q (h.cap_lt hi) (h.slot hi)

theorem debugAssert_true (cls : PanicClass) (s : St K V Q) : debugAssert true cls s = .ok () s := by
  unfold debugAssert; cases s.w.profile <;> rfl

theorem debugAssert_release (c : Bool) (cls : PanicClass) {s : St K V Q} (h : s.w.profile = .release) :
    debugAssert c cls s = .ok () s := by
  unfold debugAssert; rw [h]

theorem debugAssert_false_debug (cls : PanicClass) {s : St K V Q} (h : s.w.profile = .debug) :
    debugAssert false cls s = .panic cls s := by
  unfold debugAssert; rw [h]; rfl

theorem itemWrite_sat {s : St K V Q} {i} (p : K × V) (hc : i < s.r.cap) {P} :
    Sat (itemWrite i p) s (fun _ s' => s'.r = setSlot s.r i (some p) ∧ WRel s.w s'.w []) P := by
  unfold Sat itemWrite
  simp only [hc, if_true]
  cases h : s.r.slots i with
  | none => exact ⟨rfl, WRel.refl _⟩
  | some old => exact ⟨rfl, ⟨rfl, rfl, id, by simp [World.trace]⟩⟩

theorem checkedWrite_ge {s : St K V Q} {i} (p : K × V) (hc : ¬ i < s.r.cap) :
    checkedWrite i p s = .panic .oob s := if_neg hc

theorem checkedWrite_sat {s : St K V Q} {i} (p : K × V) (hc : i < s.r.cap) {P} :
    Sat (checkedWrite i p) s (fun _ s' => s'.r = setSlot s.r i (some p) ∧ WRel s.w s'.w []) P := by
  have h := itemWrite_sat (P := P) p hc
  unfold Sat at h ⊢
  rwa [show checkedWrite i p s = itemWrite i p s from if_pos hc]

@[simp] theorem setSlot_len (r : Raw K V) (i o) : (setSlot r i o).len = r.len := rfl
@[simp] theorem setSlot_cap (r : Raw K V) (i o) : (setSlot r i o).cap = r.cap := rfl
theorem setSlot_slots (r : Raw K V) (i j o) : (setSlot r i o).slots j = if j = i then o else r.slots j := rfl
@[simp] theorem setSlot_same (r : Raw K V) (i o) : (setSlot r i o).slots i = o := if_pos rfl
theorem setSlot_other (r : Raw K V) {i j} (o) (h : j ≠ i) : (setSlot r i o).slots j = r.slots j := if_neg h

theorem Rep.set {r : Raw K V} {l} (h : Rep r l) {i} (hi : i < l.length) (p : K × V) :
    Rep (setSlot r i (some p)) (l.set i p) := by
  refine ⟨by simp [h.1], by simp [h.2.1], fun j hj => ?_⟩
  simp only [List.length_set] at hj
  by_cases hji : j = i
  · subst hji; simp [hj]
  · rw [setSlot_other _ _ hji, h.2.2 j hj, List.getElem?_set_ne (Ne.symm hji)]

theorem Rep.push {r : Raw K V} {l} (h : Rep r l) (hc : l.length < r.cap) (p : K × V) :
    Rep { setSlot r l.length (some p) with len := l.length + 1 } (l ++ [p]) := by
  refine ⟨by simp, by simp; omega, fun j hj => ?_⟩
  simp only [List.length_append, List.length_singleton] at hj
  by_cases hjl : j = l.length
  · subst hjl; simp [setSlot]
  · have : j < l.length := by omega
    show (setSlot r l.length (some p)).slots j = _
    rw [setSlot_other _ _ hjl, h.2.2 j this, List.getElem?_append_left this]

theorem Rep.swapRemove {r r' : Raw K V} {l} (hr : Rep r l) {i} (hi : i < l.length)
    (hlen : r'.len = l.length - 1) (hcap : r'.cap = r.cap)
    (hs : ∀ j, j < l.length - 1 → r'.slots j = if j = i then r.slots (l.length - 1) else r.slots j) :
    Rep r' (swapRemove l i) := by
  have hL := Dict.swapRemove_length hi
  refine ⟨by rw [hlen, hL], by rw [hL, hcap]; exact Nat.le_trans (Nat.sub_le _ _) hr.2.1, fun j hj => ?_⟩
  rw [hL] at hj
  rw [hs j hj, getElem?_swapRemove hi, if_pos hj, hr.2.2 _ (by omega), hr.2.2 j (by omega)]

theorem remove_index_read_sat {s : St K V Q} {l} (hr : Rep s.r l) {i} (hi : i < l.length) {P} :
    Sat (remove_index_read i) s
      (fun p s' => p = l[i] ∧ Rep s'.r (swapRemove l i) ∧ s'.r.cap = s.r.cap ∧ WRel s.w s'.w []) P := by
  have hne : l.length ≠ 0 := by omega
  have hl1 : l.length - 1 < l.length := by omega
  unfold remove_index_read
  refine Sat.bind_ok (itemRead_ok (hr.cap_lt hi) (hr.slot hi)) (Sat.getLen_bind ?_)
  simp only [setSlot_len, hr.1, if_neg hne]
  refine Sat.bind_ok (s' := { s with r := { setSlot s.r i none with len := l.length - 1 } }) rfl ?_
  by_cases hlast : i = l.length - 1
  · -- removed the last slot
    subst hlast
    simp only [ne_eq, not_true_eq_false, if_false]
    refine Sat.pure ⟨rfl, hr.swapRemove hi rfl rfl fun j hj => ?_, rfl, WRel.refl _⟩
    simp only [setSlot_slots, Nat.ne_of_lt hj, if_false]
  · -- the last live pair moves into the hole
    simp only [ne_eq, hlast, not_false_eq_true, if_true]
    refine Sat.bind_ok (itemRead_ok (p := l[l.length - 1]) (hr.cap_lt hl1) ?_) ?_
    · simp only [setSlot_slots, Ne.symm hlast, if_false]; exact hr.slot hl1
    · refine Sat.bind (itemWrite_sat (P := P) l[l.length - 1] ?_) ?_
      · exact hr.cap_lt hi
      intro _ s2 ⟨h1, h2⟩
      refine Sat.pure ⟨rfl, hr.swapRemove hi (by rw [h1]; rfl) (by rw [h1]; rfl) fun j hj => ?_,
        by rw [h1]; rfl, h2⟩
      have hjl : j ≠ l.length - 1 := by omega
      rw [h1, hr.slot hl1]
      by_cases hji : j = i <;> simp only [setSlot_slots, hji, hjl, if_true, if_false]

variable (E : Env K V Q)

theorem scan_at {s : St K V Q} {l : List (K × V)} (hr : Rep s.r l) (pr : Probe K Q) :
    CbAt (scan E pr) s (fun _ => [])
      (fun o => (∀ j, o = some j → j < l.length) ∧ (E.Pure → o = findKey E l pr)) :=
  scanR_cb E hr pr s

theorem scan_cb' {s : St K V Q} {l : List (K × V)} (hr : Rep s.r l) (pr : Probe K Q) :
    Sat (scan E pr) s
      (fun o s' => s'.r = s.r ∧ WRel s.w s'.w [] ∧ (∀ j, o = some j → j < l.length) ∧
        (E.Pure → o = findKey E l pr))
      (fun c s' => s'.r = s.r ∧ c = .inject ∧ s.w.inject ≠ none ∧ s.w.unwinding = false ∧
        ∃ tr', WRel s.w s'.w tr') :=
  scan_at E hr pr

/-- the other way an operation may unwind, besides `InjPanic`: by the container's own overflow
    check, `debug_assert!` in debug builds, the bounds check of `pairs[i]` in release builds. -/
def OverflowPanic (s : St K V Q) (c : PanicClass) : Prop :=
  (c = .overflow ∧ s.w.profile = .debug) ∨ (c = .oob ∧ s.w.profile = .release)

/-- the profile is fixed along a run, so an overflow panic of a later state is one of the run. -/
theorem OverflowPanic.after {s s1 : St K V Q} {t c} (hw : WRel s.w s1.w t) (h : OverflowPanic s1 c) :
    OverflowPanic s c := by
  unfold OverflowPanic at *
  rw [hw.profile] at h; exact h

/-- `insert_ii`: replace in place when the scan finds the key, append otherwise; on a full
    container without a match it panics with the container untouched and both arguments dropped. -/
theorem insert_ii_sat {s : St K V Q} {l : List (K × V)} (hr : Rep s.r l) (k : K) (v : V) (upd : Bool) :
    Sat (insert_ii E k v upd) s
      (fun res s' => s'.r.cap = s.r.cap ∧ WRel s.w s'.w [] ∧
        ((∃ hi : res.1 < l.length,
            res.2 = some (if upd then l[res.1] else (k, l[res.1].2)) ∧
            Rep s'.r (l.set res.1 (if upd then (k, v) else (l[res.1].1, v))) ∧
            (E.Pure → findKey E l (.key k) = some res.1)) ∨
         (res.1 = l.length ∧ res.2 = none ∧ l.length < s.r.cap ∧ Rep s'.r (l ++ [(k, v)]) ∧
            (E.Pure → findKey E l (.key k) = none))))
      (fun c s' => s'.r = s.r ∧
        (InjPanic s s' c ∨
         (OverflowPanic s c ∧ l.length = s.r.cap ∧ (E.Pure → findKey E l (.key k) = none) ∧
            WRel s.w s'.w (dropVTr E v ++ [.dropK k])))) := by
  unfold insert_ii
  refine Sat.unwindWith_cb (dropArgs_cb E k v) (P₀ := fun c s' => s'.r = s.r ∧
      (InjPanic s s' c ∨ (OverflowPanic s c ∧ l.length = s.r.cap ∧
        (E.Pure → findKey E l (.key k) = none) ∧ WRel s.w s'.w []))) ?_ ?_
  · refine Sat.bind (Sat.mono (scan_at E hr (.key k)) (fun _ _ h => h) fun _ _ h => ⟨h.1, Or.inl h.2⟩) ?_
    intro o s1 ⟨h1, h2, h3, h4⟩
    have hr1 : Rep s1.r l := h1 ▸ hr
    have hc1 : s1.r.cap = s.r.cap := by rw [h1]
    cases o with
    | some i =>
      have hi := h3 i rfl
      have hf : E.Pure → findKey E l (.key k) = some i := fun hp => (h4 hp).symm
      cases upd with
      | true =>
        exact Sat.bind_ok (hr1.pairReplace_ok hi (k, v))
          (Sat.pure ⟨hc1, h2, Or.inl ⟨hi, rfl, hr1.set hi (k, v), hf⟩⟩)
      | false =>
        exact Sat.bind_ok (hr1.valueReplace_ok hi v)
          (Sat.pure ⟨hc1, h2, Or.inl ⟨hi, rfl, hr1.set hi (l[i].1, v), hf⟩⟩)
    | none =>
      have hf : E.Pure → findKey E l (.key k) = none := fun hp => (h4 hp).symm
      refine Sat.getLen_bind (Sat.getCap_bind ?_)
      rw [hr1.1, hc1]
      rcases Nat.lt_or_ge l.length s.r.cap with hroom | hge
      · -- room: both checks pass
        rw [decide_eq_true hroom]
        refine Sat.bind_ok (debugAssert_true _ _) (Sat.bind (checkedWrite_sat (k, v) (hc1 ▸ hroom)) ?_)
        intro _ s2 ⟨g1, g2⟩
        refine Sat.bind_ok (s' := { s2 with r := { s2.r with len := l.length + 1 } }) rfl
          (Sat.pure ⟨by simp only [g1, setSlot_cap, hc1], by simpa using h2.trans g2,
            Or.inr ⟨rfl, rfl, hroom, ?_, hf⟩⟩)
        simpa only [g1] using hr1.push (hc1 ▸ hroom) (k, v)
      · -- full: `debug_assert!` fires in debug builds, the index check in release builds
        have hfull : l.length = s.r.cap := Nat.le_antisymm hr.2.1 hge
        rw [decide_eq_false (Nat.not_lt.mpr hge)]
        cases hprof : s1.w.profile with
        | debug =>
          exact Sat.bind_panic (debugAssert_false_debug _ hprof)
            ⟨h1, Or.inr ⟨Or.inl ⟨rfl, h2.profile ▸ hprof⟩, hfull, hf, h2⟩⟩
        | release =>
          exact Sat.bind_ok (debugAssert_release _ _ hprof) (Sat.bind_panic
            (checkedWrite_ge (k, v) (by rw [hc1]; exact Nat.not_lt.mpr hge))
            ⟨h1, Or.inr ⟨Or.inr ⟨rfl, h2.profile ▸ hprof⟩, hfull, hf, h2⟩⟩)
  · -- unwinding: the two arguments are dropped
    rintro c s' s'' ⟨h1, h2⟩ g1 g2
    refine ⟨g1.trans h1, h2.imp (·.extend g2) fun ⟨ho, hf, hn, hw⟩ => ⟨ho, hf, hn, ?_⟩⟩
    simpa using hw.trans g2

theorem dropReturnedKey_cb (o : Option (K × V)) :
    CbOk (dropReturnedKey (Q := Q) o) (fun _ => match o with | some p => [.dropK p.1] | none => [])
      (fun _ r => r = o.map (·.2)) := by
  cases o with
  | none => exact (CbOk.pure none).mono (fun _ => rfl) (fun _ _ h => h)
  | some p =>
    obtain ⟨k, v⟩ := p
    unfold dropReturnedKey
    have := CbOk.seq (CbOk.unwindWith (leak_cb (.v v)) (dropK_cb k)) (fun _ => CbOk.pure (K := K) (V := V) (Q := Q) (some v))
    exact this.mono (fun _ => by simp) (fun _ _ h => by simpa using h)

/-- the tail of `insert` and `checked_insert` after a replacement (`s1`, holding `L`): the
    displaced pair carries the supplied key, which is dropped; its value is returned. -/
theorem dropReturnedKey_replaced {s s1 : St K V Q} {L : List (K × V)} (hw : WRel s.w s1.w [])
    (hcap : s1.r.cap = s.r.cap) (hrep : Rep s1.r L) (k : K) (v0 : V) :
    Sat (dropReturnedKey (Q := Q) (some (k, v0))) s1
      (fun r s' => r = some v0 ∧ s'.r.cap = s.r.cap ∧ Rep s'.r L ∧ WRel s.w s'.w [.dropK k])
      (fun c s' => s'.r.cap = s.r.cap ∧ Rep s'.r L ∧ InjPanic s s' c) :=
  Sat.mono (((dropReturnedKey_cb _).at s1).shift hw)
    (fun _ _ ⟨g1, g2, g3⟩ => ⟨g3, by rw [g1, hcap], g1 ▸ hrep, g2⟩)
    (fun _ _ ⟨g1, g2⟩ => ⟨by rw [g1, hcap], g1 ▸ hrep, g2⟩)

/-- list-level result of `insert` / `insert_key_value` on a present key. -/
def replaceAt (l : List (K × V)) (i : Nat) (k : K) (v : V) (upd : Bool) : List (K × V) :=
  l.set i (if upd then (k, v) else ((l[i]?.map (·.1)).getD k, v))

theorem insert_sat {s : St K V Q} {l : List (K × V)} (hr : Rep s.r l) (k : K) (v : V) :
    Sat (insert E k v) s
      (fun res s' => s'.r.cap = s.r.cap ∧
        ((∃ i, ∃ hi : i < l.length, res = some l[i].2 ∧ Rep s'.r (l.set i (l[i].1, v)) ∧
            WRel s.w s'.w [.dropK k] ∧ (E.Pure → findKey E l (.key k) = some i)) ∨
         (res = none ∧ l.length < s.r.cap ∧ Rep s'.r (l ++ [(k, v)]) ∧ WRel s.w s'.w [] ∧
            (E.Pure → findKey E l (.key k) = none))))
      (fun c s' => s'.r.cap = s.r.cap ∧
        ((InjPanic s s' c ∧ ∃ l', Rep s'.r l' ∧ (l' = l ∨ ∃ i, ∃ hi : i < l.length, l' = l.set i (l[i].1, v))) ∨
         (s'.r = s.r ∧ OverflowPanic s c ∧ l.length = s.r.cap ∧ (E.Pure → findKey E l (.key k) = none) ∧
            WRel s.w s'.w (dropVTr E v ++ [.dropK k])))) := by
  unfold insert
  refine Sat.bind (Sat.mono (insert_ii_sat E hr k v false) (fun _ _ h => h) ?_) ?_
  · rintro c s' ⟨h1, h | ⟨ho, hf, hn, hw⟩⟩
    · exact ⟨by rw [h1], Or.inl ⟨h, l, h1 ▸ hr, Or.inl rfl⟩⟩
    · exact ⟨by rw [h1], Or.inr ⟨h1, ho, hf, hn, hw⟩⟩
  · rintro ⟨i, old⟩ s1 h
    dsimp only at h
    obtain ⟨hcap, hw, ⟨hi, rfl, hrep, hfind⟩ | ⟨_, rfl, hroom, hrep, hfind⟩⟩ := h
    · refine Sat.mono (dropReturnedKey_replaced hw hcap hrep k l[i].2) ?_ ?_
      · rintro r s2 ⟨rfl, g1, g2, g3⟩
        exact ⟨g1, Or.inl ⟨i, hi, rfl, g2, g3, hfind⟩⟩
      · rintro c s2 ⟨g1, g2, g3⟩
        exact ⟨g1, Or.inl ⟨g3, _, g2, Or.inr ⟨i, hi, rfl⟩⟩⟩
    · exact Sat.pure ⟨hcap, Or.inr ⟨rfl, hroom, hrep, hw, hfind⟩⟩

end Micromap
