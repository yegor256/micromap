/-
List-level lemmas connecting the index-based results of the L0 triples (`set i`, `swapRemove i`,
`retainL`) with the naive reference dictionary (`map`, `filter`, `filterMap`), up to permutation.
-/
import Micromap.Proofs.Bridge
import Micromap.Spec.RefDict

namespace Micromap.RefineList
open SetAlg Dict
variable {K V : Type} {keq : K → K → Bool}

theorem hit_false_of_ne (h : EquivB keq) {hit : K → Bool} (hp : ProbeOK keq hit) {l : List (K × V)}
    (hn : NodupKeys keq l) {i j} (hi : i < l.length) (hj : j < l.length) (hh : hit l[i].1 = true)
    (hne : j ≠ i) : hit l[j].1 = false := by
  cases hjh : hit l[j].1 with
  | false => rfl
  | true =>
    have := hp.single _ _ hjh hh
    have hf := (nodupKeys_iff_getElem h).mp hn j i hj hi hne
    rw [hf] at this; cases this

theorem set_eq_map (h : EquivB keq) {hit : K → Bool} (hp : ProbeOK keq hit) {l : List (K × V)}
    (hn : NodupKeys keq l) {i} (hi : i < l.length) (hh : hit l[i].1 = true) (f : K × V → K × V) :
    l.set i (f l[i]) = l.map fun q => if hit q.1 then f q else q := by
  apply List.ext_getElem
  · simp
  · intro j h1 h2
    simp only [List.length_set] at h1
    by_cases hji : j = i
    · subst hji; simp [hh]
    · have := hit_false_of_ne h hp hn hi h1 hh hji
      simp [List.getElem_set_ne (Ne.symm hji), this]

theorem eraseIdx_eq_filter (h : EquivB keq) {hit : K → Bool} (hp : ProbeOK keq hit) {l : List (K × V)}
    (hn : NodupKeys keq l) {i} (hi : i < l.length) (hh : hit l[i].1 = true) :
    l.eraseIdx i = l.filter fun q => !hit q.1 := by
  have hsplit : l = l.take i ++ l[i] :: l.drop (i + 1) := by
    rw [← List.drop_eq_getElem_cons hi, List.take_append_drop]
  have htake : ∀ q, q ∈ l.take i → hit q.1 = false := by
    intro q hq
    obtain ⟨j, hj, rfl⟩ := List.getElem_of_mem hq
    have hj' : j < i := by
      have := hj; simp only [List.length_take] at this; omega
    rw [List.getElem_take]
    exact hit_false_of_ne h hp hn hi (by omega) hh (by omega)
  have hdrop : ∀ q, q ∈ l.drop (i + 1) → hit q.1 = false := by
    intro q hq
    obtain ⟨j, hj, rfl⟩ := List.getElem_of_mem hq
    rw [List.getElem_drop]
    have hj' : i + 1 + j < l.length := by simp at hj; omega
    exact hit_false_of_ne h hp hn hi hj' hh (by omega)
  rw [List.eraseIdx_eq_take_drop_succ]
  conv => rhs; rw [hsplit]
  rw [List.filter_append, List.filter_cons]
  simp only [hh, Bool.not_true, Bool.false_eq_true, if_false]
  rw [List.filter_eq_self.mpr (fun q hq => by simp [htake q hq]),
    List.filter_eq_self.mpr (fun q hq => by simp [hdrop q hq])]

theorem swapRemove_perm_erase (h : EquivB keq) {hit : K → Bool} (hp : ProbeOK keq hit)
    {l d : List (K × V)} (hn : NodupKeys keq l) (hperm : l.Perm d) {i} (hi : i < l.length)
    (hh : hit l[i].1 = true) : (swapRemove l i).Perm (RefDict.erase hit d) := by
  refine (swapRemove_perm hi).trans ?_
  rw [eraseIdx_eq_filter h hp hn hi hh]
  exact hperm.filter _

theorem set_perm_map (h : EquivB keq) {hit : K → Bool} (hp : ProbeOK keq hit)
    {l d : List (K × V)} (hn : NodupKeys keq l) (hperm : l.Perm d) {i} (hi : i < l.length)
    (hh : hit l[i].1 = true) (f : K × V → K × V) :
    (l.set i (f l[i])).Perm (d.map fun q => if hit q.1 then f q else q) := by
  rw [set_eq_map h hp hn hi hh f]
  exact hperm.map _

theorem erase_none {hit : K → Bool} {d : List (K × V)} (hnone : ∀ p, p ∈ d → hit p.1 = false) :
    RefDict.erase hit d = d :=
  List.filter_eq_self.mpr fun q hq => by simp [hnone q hq]

theorem map_none {hit : K → Bool} {d : List (K × V)} (hnone : ∀ p, p ∈ d → hit p.1 = false)
    (f : K × V → K × V) : (d.map fun q => if hit q.1 then f q else q) = d := by
  conv => rhs; rw [← List.map_id d]
  apply List.map_congr_left
  intro q hq; simp [hnone q hq]

end Micromap.RefineList
