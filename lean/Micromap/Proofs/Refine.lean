/-
What L0 ⊑ L2 for the dictionary API is stated with: the operations (`DOp`), their run on the slot
machine (`mrun`) and on the reference dictionary of `Spec/RefDict.lean` (`srun`, which holds the
capacity rule), the simulation relation (`Sim`) and the translation of what the scan finds
(`find_cases`).  The theorem itself — in a benign world with a lawful key type the two runs return
the same and end in related states — is `sim_step` in `RefineStep.lean`.
-/
import Micromap.Proofs.RefineList
import Micromap.Proofs.Bulk

namespace Micromap.Refine
open SetAlg Dict
variable {K V Q : Type}

/-- the dictionary operations of property C01. -/
inductive DOp (K V Q : Type) where
  | insert (k : K) (v : V)
  | insert_key_value (k : K) (v : V)
  | checked_insert (k : K) (v : V)
  | get (pr : Probe K Q)                    -- `get` and `get_key_value`: the stored pair
  | get_mut (pr : Probe K Q) (g : V → V)    -- followed by the write `*r = g(*r)`
  | contains_key (pr : Probe K Q)
  | index (pr : Probe K Q)
  | index_mut (pr : Probe K Q) (g : V → V)
  | remove (pr : Probe K Q)
  | remove_entry (pr : Probe K Q)
  | retain (f : K → V → Bool × V)
  | clear
  | len
  | is_empty
  | iter                                     -- the entries `iter()` yields

/-- what the caller observes (slot positions erased). -/
inductive DOut (K V : Type) where
  | unit
  | bool (b : Bool)
  | nat (n : Nat)
  | optV (o : Option V)
  | optKV (o : Option (K × V))
  | optOptV (o : Option (Option V))
  | kv (p : K × V)
  | list (l : List (K × V))

/-- outputs agree; iteration order is not part of the dictionary abstraction. -/
def OutRel : DOut K V → DOut K V → Prop
  | .list a, .list b => a.Perm b
  | x, y => x = y

theorem OutRel.eq_of {x y : DOut K V} (h : OutRel x y) (hy : ∀ l, y ≠ .list l) : x = y := by
  cases y with
  | list l => exact absurd rfl (hy l)
  | _ => cases x <;> first | exact h | (simp only [OutRel] at h)

theorem OutRel.cases {x y : DOut K V} (h : OutRel x y) :
    x = y ∨ ∃ a b, x = .list a ∧ y = .list b ∧ a.Perm b := by
  cases y with
  | list b =>
    cases x with
    | list a => exact .inr ⟨a, b, rfl, rfl, h⟩
    | _ => exact .inl h
  | _ => exact .inl (h.eq_of fun _ => nofun)

variable (E : Env K V Q)

/-- the operation on the slot machine: exactly the model functions `stepMapOp` runs. -/
def mrun : DOp K V Q → SM K V Q (DOut K V)
  | .insert k v => do pure (.optV (← insert E k v))
  | .insert_key_value k v => do pure (.optKV (← insert_key_value E k v))
  | .checked_insert k v => do pure (.optOptV (← checked_insert E k v))
  | .get pr => do pure (.optKV ((← get E pr).map (·.2)))
  | .get_mut pr g => do pure (.optKV ((← get_mut E pr g).map (·.2)))
  | .contains_key pr => do pure (.bool (← contains_key E pr))
  | .index pr => do pure (.kv (← index E pr).2)
  | .index_mut pr g => do pure (.kv (← index_mut E pr g).2)
  | .remove pr => do pure (.optV (← remove E pr))
  | .remove_entry pr => do pure (.optKV (← remove_entry E pr))
  | .retain f => do retain E (fun _ k v => f k v); pure .unit
  | .clear => do clear E; pure .unit
  | .len => do pure (.nat (← len))
  | .is_empty => do pure (.bool (← is_empty))
  | .iter => do
    let s ← getS
    pure (.list (← entriesOf s.r))

/-- the same operation on the reference dictionary of capacity `cap`. -/
def srun (op : DOp K V Q) (d : List (K × V)) (cap : Nat) : RefDict.Res (DOut K V) (List (K × V)) :=
  match op with
  | .insert k v =>
    match RefDict.find (E.hitP (.key k)) d with
    | some p => .ok (.optV (some p.2)) (RefDict.setVal (E.hitP (.key k)) v d)
    | none => if d.length < cap then .ok (.optV none) (d ++ [(k, v)]) else .overflow
  | .insert_key_value k v =>
    match RefDict.find (E.hitP (.key k)) d with
    | some p => .ok (.optKV (some p)) (RefDict.setPair (E.hitP (.key k)) k v d)
    | none => if d.length < cap then .ok (.optKV none) (d ++ [(k, v)]) else .overflow
  | .checked_insert k v =>
    match RefDict.find (E.hitP (.key k)) d with
    | some p => .ok (.optOptV (some (some p.2))) (RefDict.setVal (E.hitP (.key k)) v d)
    | none => if d.length < cap then .ok (.optOptV (some none)) (d ++ [(k, v)]) else .ok (.optOptV none) d
  | .get pr => .ok (.optKV (RefDict.find (E.hitP pr) d)) d
  | .get_mut pr g =>
    .ok (.optKV ((RefDict.find (E.hitP pr) d).map fun p => (p.1, g p.2))) (RefDict.modVal (E.hitP pr) g d)
  | .contains_key pr => .ok (.bool (RefDict.find (E.hitP pr) d).isSome) d
  | .index pr =>
    match RefDict.find (E.hitP pr) d with
    | some p => .ok (.kv p) d
    | none => .noentry
  | .index_mut pr g =>
    match RefDict.find (E.hitP pr) d with
    | some p => .ok (.kv (p.1, g p.2)) (RefDict.modVal (E.hitP pr) g d)
    | none => .noentry
  | .remove pr => .ok (.optV ((RefDict.find (E.hitP pr) d).map (·.2))) (RefDict.erase (E.hitP pr) d)
  | .remove_entry pr => .ok (.optKV (RefDict.find (E.hitP pr) d)) (RefDict.erase (E.hitP pr) d)
  | .retain f => .ok .unit (RefDict.retain f d)
  | .clear => .ok .unit []
  | .len => .ok (.nat d.length) d
  | .is_empty => .ok (.bool (d.length == 0)) d
  | .iter => .ok (.list d) d

/-- simulation relation: the live prefix is a permutation of the reference list,
    keys pairwise unequal.  (The capacity is not part of it: it reaches `srun` through `StepOK`.) -/
def Sim (r : Raw K V) (d : List (K × V)) : Prop :=
  ∃ l, Rep r l ∧ NodupKeys E.keq l ∧ l.Perm d

theorem outcome {α : Type} {m : SM K V Q α} {s : St K V Q} {Qp P} (h : Sat m s Qp P) :
    (∃ a s', m s = .ok a s' ∧ Qp a s') ∨ (∃ c s', m s = .panic c s' ∧ P c s') :=
  h.cases

theorem no_inj {s s' : St K V Q} {c} (hb : Benign s.w) (h : InjPanic s s' c) : False := h.not_benign hb

theorem find_cases {E : Env K V Q} (hE : E.Lawful) {l d : List (K × V)} (hn : NodupKeys E.keq l)
    (hperm : l.Perm d) (pr : Probe K Q) :
    (∃ i, ∃ hi : i < l.length, findKey E l pr = some i ∧ E.hitP pr l[i].1 = true ∧
        RefDict.find (E.hitP pr) d = some l[i]) ∨
    (findKey E l pr = none ∧ (∀ p, p ∈ l → E.hitP pr p.1 = false) ∧
        (∀ p, p ∈ d → E.hitP pr p.1 = false) ∧ RefDict.find (E.hitP pr) d = none) := by
  have hfind : RefDict.find (E.hitP pr) d = lookupP (E.hitP pr) l :=
    (lookupP_perm hE.equivB (hE.probeOK pr) hn hperm).symm
  cases hf : findKey E l pr with
  | some i =>
    left
    obtain ⟨hi, hh⟩ := (findKey_some_iff hE hn pr).mp hf
    refine ⟨i, hi, rfl, hh, ?_⟩
    rw [hfind]
    rw [findKey_eq_findIdxP] at hf
    obtain ⟨_, h2, _⟩ := lookupP_eq_of_findIdxP hf
    exact h2
  | none =>
    right
    have hnone := (findKey_none_iff E pr).mp hf
    refine ⟨rfl, hnone, fun p hp => hnone p (hperm.mem_iff.mpr hp), ?_⟩
    rw [hfind]
    exact lookupP_eq_none_iff.mpr hnone

theorem index_mut_sat {s : St K V Q} {l : List (K × V)} (hr : Rep s.r l) (pr : Probe K Q) (g : V → V) :
    Sat (index_mut E pr g) s
      (fun r s' => s'.r.cap = s.r.cap ∧ WRel s.w s'.w [] ∧
        (∃ hi : r.1 < l.length, r.2 = (l[r.1].1, g l[r.1].2) ∧ Rep s'.r (l.set r.1 (l[r.1].1, g l[r.1].2))) ∧
        (E.Pure → findKey E l pr = some r.1))
      (fun c s' => s'.r = s.r ∧ (InjPanic s s' c ∨
        (c = .noentry ∧ WRel s.w s'.w [] ∧ (E.Pure → findKey E l pr = none)))) := by
  unfold index_mut
  refine Sat.bind (Sat.mono (get_mut_sat E hr pr g) (fun _ _ h => h) ?_) ?_
  · intro c s' ⟨h1, h2⟩; exact ⟨h1, Or.inl h2⟩
  · intro o s1 ⟨h1, h2, h3, h4⟩
    rcases h3 with ⟨ho, hs⟩ | ⟨i, hi, ho, hrep⟩
    · subst ho
      exact Sat.throwP ⟨hs, Or.inr ⟨rfl, h2, fun hp => by rw [← h4 hp]; rfl⟩⟩
    · subst ho
      exact Sat.pure ⟨h1, h2, ⟨hi, rfl, hrep⟩, fun hp => by rw [← h4 hp]; rfl⟩

theorem iterRestR_ok {r : Raw K V} {l : List (K × V)} (hr : Rep r l) (s : St K V Q) :
    ∀ n i, i + n = l.length → iterRestR r n i s = .ok (l.drop i) s
  | 0, i, h => by
    have : l.drop i = [] := List.drop_eq_nil_of_le (by omega)
    simp [iterRestR, this]
  | n + 1, i, h => by
    have hi : i < l.length := by omega
    unfold iterRestR
    simp only [bind_apply, hr.itemRefR_ok hi s, iterRestR_ok hr s n (i + 1) (by omega), pure_apply]
    rw [List.drop_eq_getElem_cons hi]

theorem entriesOf_ok {r : Raw K V} {l : List (K × V)} (hr : Rep r l) (s : St K V Q) :
    entriesOf r s = .ok l s := by
  unfold entriesOf
  have : r.len ≤ r.cap := hr.1 ▸ hr.2.1
  simp only [this, if_true]
  rw [hr.1, iterRestR_ok hr s l.length 0 (by omega)]
  simp

end Micromap.Refine
