/-
The simulation step: one lemma per dictionary operation, then `sim_step`.
-/
import Micromap.Proofs.Refine
import Micromap.Proofs.Benign

namespace Micromap.Refine
open SetAlg Dict RefineList
variable {K V Q : Type} (E : Env K V Q)

/-- what `sim_step` promises for one operation. -/
def StepOK (op : DOp K V Q) (s : St K V Q) (d : List (K × V)) : Prop :=
  match srun E op d s.r.cap with
  | .ok out d' => ∃ out' s', mrun E op s = .ok out' s' ∧ OutRel out' out ∧ Sim E s'.r d' ∧
      s'.r.cap = s.r.cap ∧ Benign s'.w
  | .overflow => ∃ c s', mrun E op s = .panic c s' ∧ OverflowPanic s c ∧ s'.r = s.r ∧ Benign s'.w
  | .noentry => ∃ s', mrun E op s = .panic .noentry s' ∧ s'.r = s.r ∧ Benign s'.w

variable {E}

theorem StepOK.ok_eq {op : DOp K V Q} {s : St K V Q} {d d' : List (K × V)} {out : DOut K V}
    (h : StepOK E op s d) (hsr : srun E op d s.r.cap = .ok out d') (hl : ∀ l, out ≠ .list l) :
    ∃ s', mrun E op s = .ok out s' ∧ Sim E s'.r d' ∧ s'.r.cap = s.r.cap ∧ Benign s'.w := by
  unfold StepOK at h
  rw [hsr] at h
  obtain ⟨out', s', hm, ho, rest⟩ := h
  exact ⟨s', ho.eq_of hl ▸ hm, rest⟩

theorem hitKey_refl (hE : E.Lawful) (k : K) : E.hitP (.key k : Probe K Q) k = true := hE.refl k

section
variable (hE : E.Lawful) {r r' : Raw K V} {l d : List (K × V)} (hn : NodupKeys E.keq l) (hperm : l.Perm d)
include hE hn hperm

omit hE in
theorem Sim.of_eq (hr : Rep r l) (h : r' = r) : Sim E r' d := ⟨l, h ▸ hr, hn, hperm⟩

theorem Sim.of_set {pr : Probe K Q} {i} (hi : i < l.length) (hh : E.hitP pr l[i].1 = true)
    (f : K × V → K × V) (hk : E.keq l[i].1 (f l[i]).1 = true) (hrep : Rep r' (l.set i (f l[i]))) :
    Sim E r' (d.map fun q => if E.hitP pr q.1 then f q else q) :=
  ⟨_, hrep, nodupKeys_set hE.equivB hn hi _ _ hk, set_perm_map hE.equivB (hE.probeOK _) hn hperm hi hh f⟩

theorem Sim.of_append {k : K} (hnl : ∀ p, p ∈ l → E.hitP (.key k : Probe K Q) p.1 = false) (v : V)
    (hrep : Rep r' (l ++ [(k, v)])) : Sim E r' (d ++ [(k, v)]) :=
  ⟨_, hrep, nodupKeys_append hE.equivB hn k v hnl, hperm.append_right _⟩

theorem Sim.of_swapRemove {pr : Probe K Q} {i} (hi : i < l.length) (hh : E.hitP pr l[i].1 = true)
    (hrep : Rep r' (swapRemove l i)) : Sim E r' (RefDict.erase (E.hitP pr) d) :=
  ⟨_, hrep, nodupKeys_swapRemove hE.equivB hn hi,
    swapRemove_perm_erase hE.equivB (hE.probeOK _) hn hperm hi hh⟩

end

section
variable (hE : E.Lawful) {s : St K V Q} {d l : List (K × V)} (hr : Rep s.r l) (hn : NodupKeys E.keq l)
  (hperm : l.Perm d) (hb : Benign s.w)
include hE hr hn hperm hb

theorem sim_insert (k : K) (v : V) : StepOK E (.insert k v) s d := by
  unfold StepOK srun
  have hlen : d.length = l.length := hperm.length_eq.symm
  have h := insert_benign E hE.toPure hr hb k v
  rcases find_cases hE hn hperm (.key k) with ⟨i, hi, hf, hh, hfind⟩ | ⟨hf, hnl, hnd, hfind⟩ <;>
    simp only [hfind] <;> rw [hf] at h
  · obtain ⟨_, s', hm, hrep, hc, hw⟩ := h
    exact ⟨.optV (some l[i].2), s', by simp [mrun, hm], by rfl,
      Sim.of_set hE hn hperm hi hh (fun q => (q.1, v)) (hE.refl _) hrep, hc, hw.benign hb⟩
  · rcases h with ⟨hroom, s', hm, hrep, hc, hw⟩ | ⟨hfull, c, s', hm, hs, ho, hw⟩
    · rw [if_pos (by omega)]
      exact ⟨.optV none, s', by simp [mrun, hm], by rfl, Sim.of_append hE hn hperm hnl v hrep, hc,
        hw.benign hb⟩
    · rw [if_neg (by omega)]
      exact ⟨c, s', by simp [mrun, hm], ho, hs, hw.benign hb⟩

theorem sim_insert_key_value (k : K) (v : V) : StepOK E (.insert_key_value k v) s d := by
  unfold StepOK srun
  have hlen : d.length = l.length := hperm.length_eq.symm
  have h := insert_key_value_benign E hE.toPure hr hb k v
  rcases find_cases hE hn hperm (.key k) with ⟨i, hi, hf, hh, hfind⟩ | ⟨hf, hnl, hnd, hfind⟩ <;>
    simp only [hfind] <;> rw [hf] at h
  · obtain ⟨_, s', hm, hrep, hc, hw⟩ := h
    exact ⟨.optKV (some l[i]), s', by simp [mrun, hm], by rfl,
      Sim.of_set hE hn hperm hi hh (fun _ => (k, v)) hh hrep, hc, hw.benign hb⟩
  · rcases h with ⟨hroom, s', hm, hrep, hc, hw⟩ | ⟨hfull, c, s', hm, hs, ho, hw⟩
    · rw [if_pos (by omega)]
      exact ⟨.optKV none, s', by simp [mrun, hm], by rfl, Sim.of_append hE hn hperm hnl v hrep, hc,
        hw.benign hb⟩
    · rw [if_neg (by omega)]
      exact ⟨c, s', by simp [mrun, hm], ho, hs, hw.benign hb⟩

theorem sim_checked_insert (k : K) (v : V) : StepOK E (.checked_insert k v) s d := by
  unfold StepOK srun
  have hlen : d.length = l.length := hperm.length_eq.symm
  have h := checked_insert_benign E hE.toPure hr hb k v
  rcases find_cases hE hn hperm (.key k) with ⟨i, hi, hf, hh, hfind⟩ | ⟨hf, hnl, hnd, hfind⟩ <;>
    simp only [hfind] <;> rw [hf] at h
  · obtain ⟨_, s', hm, hrep, hc, hw⟩ := h
    exact ⟨.optOptV (some (some l[i].2)), s', by simp [mrun, hm], by rfl,
      Sim.of_set hE hn hperm hi hh (fun q => (q.1, v)) (hE.refl _) hrep, hc, hw.benign hb⟩
  · rcases h with ⟨hroom, s', hm, hrep, hc, hw⟩ | ⟨hfull, s', hm, hs, hw⟩
    · rw [if_pos (by omega)]
      exact ⟨.optOptV (some none), s', by simp [mrun, hm], by rfl, Sim.of_append hE hn hperm hnl v hrep,
        hc, hw.benign hb⟩
    · rw [if_neg (by omega)]
      exact ⟨.optOptV none, s', by simp [mrun, hm], by rfl, Sim.of_eq hn hperm hr hs, by rw [hs],
        hw.benign hb⟩

theorem sim_get (pr : Probe K Q) : StepOK E (.get pr) s d := by
  unfold StepOK srun
  have h := get_benign E hE.toPure hr hb pr
  rcases find_cases hE hn hperm pr with ⟨i, hi, hf, hh, hfind⟩ | ⟨hf, hnl, hnd, hfind⟩ <;>
    simp only [hfind] <;> rw [hf] at h
  · obtain ⟨_, s', hm, hs, hw⟩ := h
    exact ⟨.optKV (some l[i]), s', by simp [mrun, hm], by rfl, Sim.of_eq hn hperm hr hs, by rw [hs],
      hw.benign hb⟩
  · obtain ⟨s', hm, hs, hw⟩ := h
    exact ⟨.optKV none, s', by simp [mrun, hm], by rfl, Sim.of_eq hn hperm hr hs, by rw [hs],
      hw.benign hb⟩

theorem sim_get_mut (pr : Probe K Q) (g : V → V) : StepOK E (.get_mut pr g) s d := by
  unfold StepOK srun
  have h := get_mut_benign E hE.toPure hr hb pr g
  rcases find_cases hE hn hperm pr with ⟨i, hi, hf, hh, hfind⟩ | ⟨hf, hnl, hnd, hfind⟩ <;>
    simp only [hfind] <;> rw [hf] at h
  · obtain ⟨_, s', hm, hrep, hc, hw⟩ := h
    exact ⟨.optKV (some (l[i].1, g l[i].2)), s', by simp [mrun, hm], by rfl,
      Sim.of_set hE hn hperm hi hh (fun q => (q.1, g q.2)) (hE.refl _) hrep, hc, hw.benign hb⟩
  · obtain ⟨s', hm, hs, hw⟩ := h
    refine ⟨.optKV none, s', by simp [mrun, hm], by rfl, ?_, by rw [hs], hw.benign hb⟩
    unfold RefDict.modVal
    rw [map_none hnd]; exact Sim.of_eq hn hperm hr hs

theorem sim_contains_key (pr : Probe K Q) : StepOK E (.contains_key pr) s d := by
  unfold StepOK srun
  obtain ⟨s', hm, hs, hw⟩ := contains_key_benign E hE.toPure hr hb pr
  refine ⟨.bool (findKey E l pr).isSome, s', by simp [mrun, hm], ?_, Sim.of_eq hn hperm hr hs, by rw [hs],
    hw.benign hb⟩
  rcases find_cases hE hn hperm pr with ⟨i, hi, hf, hh, hfind⟩ | ⟨hf, hnl, hnd, hfind⟩ <;> rw [hf, hfind] <;> rfl

theorem sim_index (pr : Probe K Q) : StepOK E (.index pr) s d := by
  unfold StepOK srun
  have h := index_benign E hE.toPure hr hb pr
  rcases find_cases hE hn hperm pr with ⟨i, hi, hf, hh, hfind⟩ | ⟨hf, hnl, hnd, hfind⟩ <;>
    simp only [hfind] <;> rw [hf] at h
  · obtain ⟨_, s', hm, hs, hw⟩ := h
    exact ⟨.kv l[i], s', by simp [mrun, hm], by rfl, Sim.of_eq hn hperm hr hs, by rw [hs], hw.benign hb⟩
  · obtain ⟨s', hm, hs, hw⟩ := h
    exact ⟨s', by simp [mrun, hm], hs, hw.benign hb⟩

theorem sim_index_mut (pr : Probe K Q) (g : V → V) : StepOK E (.index_mut pr g) s d := by
  unfold StepOK srun
  have h := get_mut_benign E hE.toPure hr hb pr g
  rcases find_cases hE hn hperm pr with ⟨i, hi, hf, hh, hfind⟩ | ⟨hf, hnl, hnd, hfind⟩ <;>
    simp only [hfind] <;> rw [hf] at h
  · obtain ⟨_, s', hm, hrep, hc, hw⟩ := h
    exact ⟨.kv (l[i].1, g l[i].2), s', by simp [mrun, index_mut, hm], by rfl,
      Sim.of_set hE hn hperm hi hh (fun q => (q.1, g q.2)) (hE.refl _) hrep, hc, hw.benign hb⟩
  · obtain ⟨s', hm, hs, hw⟩ := h
    exact ⟨s', by simp [mrun, index_mut, hm, throwP], hs, hw.benign hb⟩

theorem sim_remove (pr : Probe K Q) : StepOK E (.remove pr) s d := by
  unfold StepOK srun
  have h := remove_benign E hE.toPure hr hb pr
  rcases find_cases hE hn hperm pr with ⟨i, hi, hf, hh, hfind⟩ | ⟨hf, hnl, hnd, hfind⟩ <;>
    simp only [hfind] <;> rw [hf] at h
  · obtain ⟨_, s', hm, hrep, hc, hw⟩ := h
    exact ⟨.optV (some l[i].2), s', by simp [mrun, hm], by rfl, Sim.of_swapRemove hE hn hperm hi hh hrep,
      hc, hw.benign hb⟩
  · obtain ⟨s', hm, hs, hw⟩ := h
    refine ⟨.optV none, s', by simp [mrun, hm], by rfl, ?_, by rw [hs], hw.benign hb⟩
    rw [erase_none hnd]; exact Sim.of_eq hn hperm hr hs

theorem sim_remove_entry (pr : Probe K Q) : StepOK E (.remove_entry pr) s d := by
  unfold StepOK srun
  have h := remove_entry_benign E hE.toPure hr hb pr
  rcases find_cases hE hn hperm pr with ⟨i, hi, hf, hh, hfind⟩ | ⟨hf, hnl, hnd, hfind⟩ <;>
    simp only [hfind] <;> rw [hf] at h
  · obtain ⟨_, s', hm, hrep, hc, hw⟩ := h
    exact ⟨.optKV (some l[i]), s', by simp [mrun, hm], by rfl, Sim.of_swapRemove hE hn hperm hi hh hrep,
      hc, hw.benign hb⟩
  · obtain ⟨s', hm, hs, hw⟩ := h
    refine ⟨.optKV none, s', by simp [mrun, hm], by rfl, ?_, by rw [hs], hw.benign hb⟩
    rw [erase_none hnd]; exact Sim.of_eq hn hperm hr hs

theorem sim_retain (f : K → V → Bool × V) : StepOK E (.retain f) s d := by
  unfold StepOK srun
  obtain ⟨s', hm, hrep, hc, tr, hw⟩ := retain_benign E (fun _ k v => f k v) f (fun _ _ _ => rfl) hr hb
  exact ⟨.unit, s', by simp [mrun, hm], rfl,
    ⟨_, hrep, nodupKeys_retainL hE.equivB f hn, (retainL_perm f l).trans (hperm.filterMap _)⟩, hc,
    hw.benign hb⟩

omit hE hn hperm in
theorem sim_clear : StepOK E (.clear : DOp K V Q) s d := by
  unfold StepOK srun
  obtain ⟨s', hm, hrep, hc, hw⟩ := clear_benign E hr hb
  exact ⟨.unit, s', by simp [mrun, hm], rfl, ⟨[], hrep, List.Pairwise.nil, List.Perm.nil⟩, hc, hw.benign hb⟩

end

/-- **L0 ⊑ L2, one step.**  For a lawful key type (`Eq` an equivalence, `Borrow` consistent with it) in a
    world without injected faults, every dictionary operation run on the slot machine from a state
    that simulates the reference dictionary `d` returns exactly what the reference returns
    (iteration order aside), panics exactly when the reference says `overflow` / `noentry` — in both
    build profiles — and again simulates the reference's next state; the capacity never changes. -/
theorem sim_step (hE : E.Lawful) (op : DOp K V Q) {s : St K V Q} {d : List (K × V)}
    (hs : Sim E s.r d) (hb : Benign s.w) : StepOK E op s d := by
  obtain ⟨l, hr, hn, hperm⟩ := hs
  cases op with
  | insert k v => exact sim_insert hE hr hn hperm hb k v
  | insert_key_value k v => exact sim_insert_key_value hE hr hn hperm hb k v
  | checked_insert k v => exact sim_checked_insert hE hr hn hperm hb k v
  | get pr => exact sim_get hE hr hn hperm hb pr
  | get_mut pr g => exact sim_get_mut hE hr hn hperm hb pr g
  | contains_key pr => exact sim_contains_key hE hr hn hperm hb pr
  | index pr => exact sim_index hE hr hn hperm hb pr
  | index_mut pr g => exact sim_index_mut hE hr hn hperm hb pr g
  | remove pr => exact sim_remove hE hr hn hperm hb pr
  | remove_entry pr => exact sim_remove_entry hE hr hn hperm hb pr
  | retain f => exact sim_retain hE hr hn hperm hb f
  | clear => exact sim_clear hr hb
  | len =>
    refine ⟨.nat s.r.len, s, rfl, ?_, ⟨l, hr, hn, hperm⟩, rfl, hb⟩
    show DOut.nat _ = DOut.nat _
    rw [hr.1, hperm.length_eq]
  | is_empty =>
    refine ⟨.bool (s.r.len == 0), s, rfl, ?_, ⟨l, hr, hn, hperm⟩, rfl, hb⟩
    show DOut.bool _ = DOut.bool _
    rw [hr.1, hperm.length_eq]
  | iter =>
    refine ⟨.list l, s, ?_, hperm, ⟨l, hr, hn, hperm⟩, rfl, hb⟩
    simp [mrun, getS, entriesOf_ok hr]

end Micromap.Refine
