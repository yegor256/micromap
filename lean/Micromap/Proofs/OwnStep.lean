/-
Ownership triples (`Own.Cons`) of the composite operations of `Model/Step.lean` (forget, drop,
drain, the consuming iterators; the borrowing iterators with their scripts, `fmt`, `readSlots`, for any
weighting of results that gives nothing to what is lent: `Lent`) and of the entry API
(`Model/Entry.lean`).
-/
import Micromap.Proofs.OwnMap

set_option linter.unusedSectionVars false

namespace Micromap.Own
open Micromap Ledger
variable {K V Q : Type} {P : Event K V Q → Prop} [EvP P] {w : Obj K V → Nat} (E : Env K V Q)

theorem forgetMap_cons {pown : Option Nat} : Cons P w (forgetMap : SM K V Q Unit) 0 (fun _ => 0) pown := by
  intro s
  unfold ConsAt forgetMap
  refine ⟨[], liveObjs s.r s.r.cap, ⟨rfl, rfl, id, by simp, rfl, by simp⟩, ?_⟩
  have h0 : live w (Raw.new s.r.cap : Raw K V) = 0 := live_new w _
  simp only [createdOf, droppedOf, wsum_nil, h0]
  simp [live]

theorem dropAndRenew_cons {pown : Option Nat} (hv : HV E w) : Cons P w (dropAndRenew E) 0 (fun _ => 0) pown := by
  intro s
  unfold dropAndRenew
  refine ConsAt.unwindWith_inj ?_
  refine ConsAt.bind0_inj (dropMap_cons E hv s) (fun _ s1 _ => ?_)
  exact forgetMap_cons s1

theorem iterRestR_cons {pown : Option Nat} (r : Raw K V) : ∀ n i,
    Cons P w (iterRestR r n i : SM K V Q (List (K × V))) 0 (fun _ => 0) pown
  | 0, _ => fun _ => ConsAt.pure rfl
  | n + 1, i => by
    intro s
    unfold iterRestR
    refine ConsAt.bind0_inj (itemRefR_cons r i s) (fun p s1 _ => ?_)
    refine ConsAt.bind0_inj (iterRestR_cons r n (i + 1) s1) (fun rest s2 _ => ?_)
    exact ConsAt.pure rfl

theorem entriesOf_cons (r : Raw K V) : Cons P w (entriesOf r : SM K V Q (List (K × V))) 0 (fun _ => 0) (some 0) := by
  intro s
  unfold entriesOf
  split
  · exact (iterRestR_cons r _ _ s)
  · exact ConsAt.throwP

theorem drainTake_cons {pown : Option Nat} : ∀ n lo hi,
    Cons P w (drainTake n lo hi : SM K V Q (List (K × V) × Nat)) 0 (fun r => wpairs w r.1) pown
  | 0, _, _ => fun _ => ConsAt.pure rfl
  | n + 1, lo, hi => by
    intro s
    unfold drainTake
    refine ConsAt.bind_all (drainNext_cons lo hi s) (fun o s1 _ => ?_)
    cases o with
    | none => exact ConsAt.pure (by simp)
    | some p =>
      simp only
      refine ConsAt.bind_inj (drainTake_cons n (lo + 1) hi s1) (Nat.zero_le _) (fun r s2 _ => ?_)
      obtain ⟨rest, lo'⟩ := r
      exact ConsAt.pure (by simp; omega)

/-- `drain()`, `take` calls of `next`, then the `Drain` dropped or forgotten: the items handed out
    are owned by the caller; a forgotten `Drain` leaves its un-yielded entries in the slots (live,
    unreachable: beyond `len = 0`). -/
theorem drainOp_cons (hv : HV E w) (take : Nat) (forget : Bool) :
    Cons P w (drainOp E take forget) 0 (fun r => wpairs w r.1) (some 0) := by
  intro s
  unfold drainOp
  refine ConsAt.bind0 (drainStart_cons s) (fun hi s1 _ => ?_)
  refine ConsAt.bind_all (drainTake_cons take 0 hi s1) (fun r s2 _ => ?_)
  obtain ⟨items, lo⟩ := r
  dsimp only
  refine ConsAt.getS_bind ?_
  refine ConsAt.bind_inj (iterRestR_cons s2.r _ _ s2) (Nat.zero_le _) (fun rest s3 _ => ?_)
  split
  · exact ConsAt.pure (by simp)
  · refine ConsAt.bind_inj (dropRange_cons E hv _ _ s3) (Nat.zero_le _) (fun _ s4 _ => ?_)
    exact ConsAt.pure (by simp)

/-- what the caller gets of a pair a consuming iterator yields. -/
def wkind (w : Obj K V → Nat) (kind : IntoKind) (p : K × V) : Nat :=
  match kind with
  | .pairs => w (.k p.1) + w (.v p.2)
  | .keys => w (.k p.1)
  | .values => w (.v p.2)

def wkinds (w : Obj K V → Nat) (kind : IntoKind) (l : List (K × V)) : Nat := (l.map (wkind w kind)).sum

theorem intoIterNextK_inj (hv : HV E w) (kind : IntoKind) :
    Cons P w (intoIterNextK E kind) 0 (fun o => (o.map (wkind w kind)).getD 0) none := by
  intro s
  unfold intoIterNextK
  refine ConsAt.bind_all (intoIterNext_cons s) (fun o s1 _ => ?_)
  cases o with
  | none => exact ConsAt.pure (by simp)
  | some p =>
    cases kind with
    | pairs => exact ConsAt.pure (by simp [wkind])
    | keys =>
      simp only
      refine ConsAt.bind_inj (ConsAt.unwindWith_inj (dropV_cons E hv p.2 s1)) (by simp) (fun _ s2 _ => ?_)
      exact ConsAt.pure (by simp [wkind])
    | values =>
      simp only
      refine ConsAt.bind_inj (ConsAt.unwindWith_inj (dropK_cons p.1 s1)) (by simp) (fun _ s2 _ => ?_)
      exact ConsAt.pure (by simp [wkind])

theorem intoIterTake_inj {pown : Option Nat} (hv : HV E w) (kind : IntoKind) : ∀ n,
    Cons P w (intoIterTake E kind n) 0 (fun items => wkinds w kind items) pown
  | 0 => fun _ => ConsAt.pure rfl
  | n + 1 => by
    intro s
    unfold intoIterTake
    refine ConsAt.bind_all (intoIterNextK_inj E hv kind s).of_inj (fun o s1 _ => ?_)
    cases o with
    | none => exact ConsAt.pure (by simp [wkinds])
    | some p =>
      simp only
      refine ConsAt.bind_inj (intoIterTake_inj hv kind n s1) (Nat.zero_le _) (fun rest s2 _ => ?_)
      exact ConsAt.pure (by simp [wkinds]; omega)

/-- `into_iter()` / `into_keys()` / `into_values()`, `take` calls of `next`, then the iterator
    dropped or forgotten, on a well-formed container: the caller owns the halves handed out, the
    other halves are dropped, the rest of the map is dropped or (forgotten) leaked; it unwinds only
    by an injected panic. -/
theorem intoIterOp_cons (hv : HV E w) (kind : IntoKind) (take : Nat) (forget : Bool) {s : St K V Q}
    {l : List (K × V)} (hr : Rep s.r l) :
    ConsAt P w (intoIterOp E kind take forget) s 0 (fun r => wkinds w kind r.1) none := by
  unfold intoIterOp
  refine ConsAt.bind_all (ConsAt.unwindWith_inj (pown := none) (intoIterTake_inj E hv kind take s)) (fun items s1 h1 => ?_)
  obtain ⟨_, hr1, _, _⟩ := Sat.ok_of (Iters.intoIterTake_sat E kind take s l hr) (unwindWith_ok h1)
  refine ConsAt.bind_inj (getLen_cons s1) (Nat.zero_le _) (fun remaining s2 h2 => ?_)
  have e2 : s2 = s1 := by
    have : (getLen : SM K V Q Nat) s1 = .ok s1.r.len s1 := rfl
    rw [this] at h2; injection h2 with _ h; exact h.symm
  subst e2
  refine ConsAt.getS_bind ?_
  have hent : ConsAt P w (entriesOf s2.r : SM K V Q _) s2 0 (fun _ => 0) none := by
    unfold entriesOf
    have : s2.r.len ≤ s2.r.cap := hr1.1 ▸ hr1.2.1
    simp only [this, if_true]
    exact iterRestR_cons s2.r _ _ s2
  refine ConsAt.bind_inj hent (Nat.zero_le _) (fun rest s3 _ => ?_)
  dsimp only
  split
  · refine ConsAt.bind_inj (forgetMap_cons s3) (Nat.zero_le _) (fun _ s4 _ => ?_)
    exact ConsAt.pure (by simp)
  · refine ConsAt.bind_inj (dropAndRenew_cons E hv s3) (Nat.zero_le _) (fun _ s4 _ => ?_)
    exact ConsAt.pure (by simp)

/-! ### borrowing iterators (they own nothing; `iter_mut` / `values_mut` write in place) -/

theorem iterNextR_inv {r : Raw K V} {it it' : SliceIt} {slot : Nat} {p : K × V} {s s' : St K V Q}
    (h : iterNextR r it s = .ok (some (slot, p), it') s') : s' = s ∧ slot < r.cap ∧ r.slots slot = some p := by
  unfold iterNextR at h
  by_cases hlt : it.lo < it.hi
  · simp only [hlt, if_true, bind_apply] at h
    unfold itemRefR at h
    by_cases hc : it.lo < r.cap
    · cases hs : r.slots it.lo with
      | none => simp [hc, hs] at h
      | some p' =>
        simp only [hc, hs, if_true, pure_apply] at h
        injection h with h1 h2
        injection h1 with h3 _
        injection h3 with h4
        injection h4 with h5 h6
        subst h5; subst h6
        exact ⟨h2.symm, hc, hs⟩
    · simp [hc] at h
  · simp only [hlt, if_false, pure_apply] at h
    injection h with h1 _
    injection h1 with h3 _
    cases h3

theorem iterNextR_cons {pown : Option Nat} (r : Raw K V) (it : SliceIt) :
    Cons P w (iterNextR r it : SM K V Q _) 0 (fun _ => 0) pown := by
  intro s
  unfold iterNextR
  split
  · refine ConsAt.bind0_inj (itemRefR_cons r it.lo s) (fun p s1 _ => ?_)
    exact ConsAt.pure rfl
  · exact ConsAt.pure rfl

/-- a weighting of result values that gives nothing to what is only lent: references into the
    container, and the plain data of a report.  (`fun x => wsum w (RV.owned x)` is such a weighting,
    and so is `fun _ => 0`.) -/
structure Lent (ow : RV K V → Nat) : Prop where
  ref : ∀ i x, ow (.ref i x) = 0
  none : ow .none = 0
  nat : ∀ n, ow (.nat n) = 0
  hint : ∀ a b, ow (.hint a b) = 0
  str : ∀ t, ow (.str t) = 0
  some : ∀ x, ow (.some x) = ow x
  list : ∀ l, ow (.list l) = (l.map ow).sum

theorem sum_map_zero {α : Type} {f : α → Nat} : ∀ {l : List α}, (∀ a ∈ l, f a = 0) → (l.map f).sum = 0
  | [], _ => rfl
  | a :: l, hf => by
    rw [List.map_cons, List.sum_cons, hf a (List.mem_cons_self ..), Nat.zero_add]
    exact sum_map_zero fun b hb => hf b (List.mem_cons_of_mem _ hb)

section lent
variable {ow : RV K V → Nat} (h : Lent ow)
include h

theorem Lent.projItem (kind : IterKind) (slot : Nat) (p : K × V) : ow (projItem kind slot p) = 0 := by
  cases kind <;> exact h.ref _ _

theorem iterRunOut_cons {pown : Option Nat} (kind : IterKind) (f : SliceIt) :
    Cons P w (iterRunOut kind f : SM K V Q (List (RV K V))) 0 (fun l => (l.map ow).sum) pown := by
  intro s
  unfold iterRunOut
  refine ConsAt.getS_bind ?_
  refine ConsAt.bind0_inj (iterRestR_cons s.r _ _ s) (fun l s1 _ => ?_)
  refine ConsAt.pure (sum_map_zero fun x hx => ?_).symm
  obtain ⟨q, _, rfl⟩ := List.mem_map.mp hx
  exact h.projItem _ _ _

theorem iterRunForks_cons {pown : Option Nat} (kind : IterKind) (forks : List SliceIt) :
    Cons P w (iterRunForks kind forks : SM K V Q (List (RV K V))) 0 (fun l => (l.map ow).sum) pown := by
  induction forks generalizing pown with
  | nil => exact fun _ => ConsAt.pure rfl
  | cons f fs ih =>
    intro s
    unfold iterRunForks
    refine ConsAt.bind_all (iterRunOut_cons h kind f s) (fun x s1 _ => ?_)
    refine ConsAt.bind_inj (ih s1) (Nat.zero_le _) (fun rest s2 _ => ?_)
    exact ConsAt.pure (by simp [h.list]; omega)

/-- any script over a borrowing iterator; the `*_mut` kinds write `g v` through the references
    they hand out: the weighting must not tell `g v` from `v`.  The report owns nothing. -/
theorem iterScript_cons {pown : Option Nat} (R : Render K V) (kind : IterKind) (g : V → V)
    (hg : (kind = .iter_mut ∨ kind = .values_mut) → ∀ v, w (.v (g v)) = w (.v v)) :
    ∀ (cs : List IterCmd) (it : SliceIt) (forks : List SliceIt),
    Cons P w (iterScript R kind g cs it forks : SM K V Q (List (RV K V))) 0 (fun l => (l.map ow).sum) pown
  | [], it, forks => by
    intro s
    unfold iterScript
    exact iterRunForks_cons h kind forks s
  | c :: cs, it, forks => by
    intro s
    have tail : ∀ {x : RV K V} (cs' it' forks' s'), ow x = 0 → cs'.length ≤ cs.length →
        ConsAt P w (do pure (x :: (← iterScript R kind g cs' it' forks')) : SM K V Q (List (RV K V))) s' 0
          (fun l => (l.map ow).sum) pown := fun cs' it' forks' s' hx _ =>
      ConsAt.bind_all (iterScript_cons R kind g hg cs' it' forks' s') (fun rest _ _ => ConsAt.pure (by simp [hx]))
    cases c with
    | next =>
      unfold iterScript
      simp only
      refine ConsAt.getS_bind ?_
      refine ConsAt.bind0_inj (iterNextR_cons s.r it s) (fun x s1 hx => ?_)
      obtain ⟨o, it'⟩ := x
      cases o with
      | none => exact tail cs it' forks s1 h.none (Nat.le_refl _)
      | some sp =>
        obtain ⟨slot, p⟩ := sp
        obtain ⟨rfl, hc, hs⟩ := iterNextR_inv hx
        simp only
        refine ConsAt.bind0_inj ?_ (fun p' s2 _ => tail cs it' forks s2 ((h.some _).trans (h.projItem _ _ _)) (Nat.le_refl _))
        split
        · rename_i hm
          exact (modify_cons hc hs (hg hm _)).map (fun _ => rfl)
        · exact ConsAt.pure rfl
    | len => unfold iterScript; exact tail cs it forks s (h.nat _) (Nat.le_refl _)
    | hint => unfold iterScript; exact tail cs it forks s (h.hint _ _) (Nat.le_refl _)
    | debug | debugAlt =>
      unfold iterScript
      simp only
      refine ConsAt.getS_bind ?_
      refine ConsAt.bind0_inj (iterRestR_cons s.r _ _ s) (fun l s1 _ => ?_)
      exact tail cs it forks s1 (h.str _) (Nat.le_refl _)
    | clone =>
      unfold iterScript
      simp only
      split
      · exact iterScript_cons R kind g hg cs it forks s
      · exact iterScript_cons R kind g hg cs it _ s
    | count | fold => unfold iterScript; exact tail [] it forks s (h.nat _) (Nat.zero_le _)
termination_by cs => cs.length + 1
decreasing_by all_goals simp_wf <;> omega

theorem iterOp_cons (R : Render K V) (kind : IterKind) (g : V → V)
    (hg : (kind = .iter_mut ∨ kind = .values_mut) → ∀ v, w (.v (g v)) = w (.v v)) (script : List IterCmd) :
    Cons P w (iterOp R kind g script : SM K V Q (List (RV K V))) 0 (fun l => (l.map ow).sum) (some 0) := by
  intro s
  unfold iterOp
  refine ConsAt.getS_bind ?_
  refine ConsAt.bind0 ?_ (fun it s1 _ => ?_)
  · unfold iterStartR
    split
    · exact ConsAt.pure rfl
    · exact ConsAt.throwP
  · exact (iterScript_cons h R kind g hg script it [] s1)

theorem readSlots_cons {pown : Option Nat} (r : Raw K V) (slots : List (Option Nat)) :
    Cons P w (readSlots r slots : SM K V Q (List (RV K V))) 0 (fun l => (l.map ow).sum) pown := by
  induction slots with
  | nil => exact fun _ => ConsAt.pure rfl
  | cons o rest ih =>
    intro s
    unfold readSlots
    cases o with
    | none => exact ConsAt.bind_all (ih s) (fun _ _ _ => ConsAt.pure (by simp [h.none]))
    | some i =>
      refine ConsAt.bind0_inj (itemRefR_cons r i s) (fun p s1 _ => ?_)
      exact ConsAt.bind_all (ih s1) (fun _ _ _ => ConsAt.pure (by simp [h.some, h.ref]))

end lent

theorem Lent.zero : Lent (fun _ : RV K V => 0) :=
  ⟨fun _ _ => rfl, rfl, fun _ => rfl, fun _ _ => rfl, fun _ => rfl, fun _ => rfl, fun _ => (sum_map_zero fun _ _ => rfl).symm⟩

theorem fmtMap_cons (R : Render K V) (kind : FmtKind) :
    Cons P w (fmtMap R kind : SM K V Q String) 0 (fun _ => 0) (some 0) := by
  intro s
  unfold fmtMap
  refine ConsAt.getS_bind ?_
  refine ConsAt.bind0 (entriesOf_cons s.r s) (fun l s1 _ => ?_)
  cases kind <;> exact ConsAt.pure rfl

/-- weight of the key an entry owns. -/
def we (w : Obj K V → Nat) : EntryS K → Nat
  | .occ _ => 0
  | .vac key => w (.k key)

@[simp] theorem we_occ (i : Nat) : we w (.occ i : EntryS K) = 0 := rfl
@[simp] theorem we_vac (key : K) : we w (.vac key : EntryS K) = w (.k key) := rfl

theorem entry_cons (k : K) : Cons P w (entry E k) (w (.k k)) (fun e => we w e) (some 0) := by
  intro s
  unfold entry
  refine ConsAt.bind_all (o1 := fun _ => w (.k k)) ?_
    (fun o s1 _ => ?_)
  · exact ConsAt.guard
      ((scan_cons E (.key k) s).framed (w (.k k)) (by omega) (fun _ => by omega) (by omega)) (dropK_cons (pown := none) k)
  · cases o with
    | some i =>
      simp only
      refine ConsAt.bind_all (dropK_cons k s1) (fun _ s2 _ => ?_)
      exact ConsAt.pure (by simp)
    | none => exact ConsAt.pure (by simp)

theorem entry_inj (k : K) {s : St K V Q} (h : s.r.len ≤ s.r.cap) :
    ConsAt P w (entry E k) s (w (.k k)) (fun e => we w e) none := by
  unfold entry
  refine ConsAt.bind0_inj (ConsAt.unwindWith_inj (scan_inj E (.key k) h)) (fun o s1 _ => ?_)
  cases o with
  | some i =>
    simp only
    refine ConsAt.bind_all (dropK_cons k s1) (fun _ s2 _ => ?_)
    exact ConsAt.pure rfl
  | none => exact ConsAt.pure rfl

theorem dropEntry_cons (e : EntryS K) : Cons P w (dropEntry e : SM K V Q Unit) (we w e) (fun _ => 0) (some 0) := by
  intro s
  cases e with
  | occ i => exact ConsAt.pure rfl
  | vac key => exact dropK_cons key s

theorem entry_key_cons {pown : Option Nat} (e : EntryS K) : Cons P w (entry_key e : SM K V Q K) 0 (fun _ => 0) pown := by
  intro s
  cases e with
  | occ i =>
    unfold entry_key
    refine ConsAt.bind0_inj (itemRef_cons i s) (fun p s1 _ => ?_)
    exact ConsAt.pure rfl
  | vac key => exact ConsAt.pure rfl

theorem and_modify_cons {pown : Option Nat} (g : V → V) (hg : ∀ v, w (.v (g v)) = w (.v v)) (e : EntryS K) :
    Cons P w (and_modify g e : SM K V Q (EntryS K)) (we w e) (fun e' => we w e') pown := by
  intro s
  cases e with
  | vac key => exact ConsAt.pure rfl
  | occ i =>
    unfold and_modify
    refine ConsAt.bind0_inj (itemRef_cons i s) (fun p s1 hp => ?_)
    obtain ⟨rfl, hc, hs⟩ := itemRef_inv hp
    refine ConsAt.bind0_inj (callF_cons 1 s1) (fun _ s2 h2 => ?_)
    have hr2 : s2.r = s1.r := callF_r h2
    refine ConsAt.bind0_inj (modify_cons (by rw [hr2]; exact hc) (by rw [hr2]; exact hs) (hg _))
      (fun _ s3 _ => ?_)
    exact ConsAt.pure rfl

theorem entryMods_cons {pown : Option Nat} : ∀ (mods : List (V → V)), (∀ g ∈ mods, ∀ v, w (.v (g v)) = w (.v v)) → ∀ e : EntryS K,
    Cons P w (entryMods mods e : SM K V Q (EntryS K)) (we w e) (fun e' => we w e') pown
  | [], _, _ => fun _ => ConsAt.pure rfl
  | g :: gs, hm, e => by
    intro s
    unfold entryMods
    refine ConsAt.bind_all (and_modify_cons g (hm g (List.mem_cons_self ..)) e s)
      (fun e' s1 _ => ?_)
    exact (entryMods_cons gs (fun g' h' => hm g' (List.mem_cons_of_mem _ h')) e' s1).congr_in (by omega)

theorem dropOptPair_cons (hv : HV E w) (o : Option (K × V)) :
    Cons P w (dropOptPair E o) (wo w o) (fun _ => 0) (some 0) := by
  intro s
  cases o with
  | none => exact ConsAt.pure rfl
  | some p => exact dropPair_cons E hv p s

theorem vacant_insert_cons (hv : HV E w) (key : K) (value : V) :
    Cons P w (vacant_insert E key value) (w (.k key) + w (.v value)) (fun _ => 0) (some 0) := by
  intro s
  unfold vacant_insert
  refine ConsAt.bind_all (insert_ii_cons E hv key value false s) (fun r s1 _ => ?_)
  obtain ⟨index, ex⟩ := r
  dsimp only
  refine ConsAt.bind_some (dropOptPair_cons E hv ex s1) (by omega) (by omega) (fun _ s2 _ => ?_)
  refine ConsAt.bind0_inj (itemRef_cons index s2) (fun _ s3 _ => ?_)
  exact ConsAt.pure (by omega)

theorem or_insert_cons (hv : HV E w) (d : V) (e : EntryS K) :
    Cons P w (or_insert E d e) (w (.v d) + we w e) (fun _ => 0) (some 0) := by
  intro s
  cases e with
  | occ i =>
    unfold or_insert
    simp only [we_occ, Nat.add_zero]
    refine ConsAt.bind0_inj (ConsAt.unwindWith_inj (itemRef_cons i s)) (fun _ s1 _ => ?_)
    refine ConsAt.bind_all (dropV_cons E hv d s1) (fun _ s2 _ => ?_)
    exact ConsAt.pure rfl
  | vac key =>
    exact (vacant_insert_cons E hv key d s).congr_in (by simp; omega)

/-- the value a not-run closure would have made stays with the caller. -/
def wmk (w : Obj K V → Nat) (mk : V) : EntryS K → Nat
  | .occ _ => w (.v mk)
  | .vac _ => 0

theorem or_insert_with_cons (hv : HV E w) (tag : Nat) (mk : V) (e : EntryS K) :
    Cons P w (or_insert_with E tag mk e) (w (.v mk) + we w e) (fun _ => wmk w mk e) (some 0) := by
  intro s
  cases e with
  | occ i =>
    unfold or_insert_with
    refine ConsAt.bind0_inj (itemRef_cons i s) (fun _ s1 _ => ?_)
    exact ConsAt.pure (by simp [wmk])
  | vac key =>
    unfold or_insert_with
    refine ConsAt.bind_inj (i1 := 0) (o1 := fun _ => 0) ?_ (Nat.zero_le _) (fun _ s1 _ => ?_)
    · exact ConsAt.unwindWith_inj (callF_cons tag s)
    · exact (vacant_insert_cons E hv key mk s1).congr (by simp; omega) (fun _ => by simp [wmk]) (fun _ h => h)

theorem occ_get_mut_cons {pown : Option Nat} (i : Nat) (g : V → V) (hg : ∀ v, w (.v (g v)) = w (.v v)) :
    Cons P w (occ_get_mut i g : SM K V Q (K × V)) 0 (fun _ => 0) pown := by
  intro s
  unfold occ_get_mut
  refine ConsAt.bind0_inj (itemRef_cons i s) (fun p s1 hp => ?_)
  obtain ⟨rfl, hc, hs⟩ := itemRef_inv hp
  refine ConsAt.bind0_inj (modify_cons hc hs (hg _)) (fun _ s3 _ => ?_)
  exact ConsAt.pure rfl

theorem occ_insert_cons {pown : Option Nat} (i : Nat) (value : V) :
    Cons P w (occ_insert E i value) (w (.v value)) (fun old => w (.v old)) pown := by
  intro s
  unfold occ_insert
  refine ConsAt.bind0_inj (ConsAt.unwindWith_inj (itemRef_cons i s)) (fun _ s1 _ => ?_)
  exact valueReplace_cons i value s1

theorem occ_remove_cons (i : Nat) : Cons P w (occ_remove i : SM K V Q V) 0 (fun v => w (.v v)) (some 0) := by
  intro s
  unfold occ_remove
  refine ConsAt.bind_all (remove_index_read_cons i s) (fun p s2 _ => ?_)
  refine ConsAt.bind_inj (ConsAt.unwindWith_inj (dropK_cons p.1 s2)) (Nat.le_add_right _ _) (fun _ s3 _ => ?_)
  exact ConsAt.pure (by simp)

theorem refVal_cons {pown : Option Nat} (slot : Nat) : Cons P w (refVal slot : SM K V Q (RV K V)) 0 (fun _ => 0) pown := by
  intro s
  unfold refVal
  refine ConsAt.bind0_inj (itemRef_cons slot s) (fun p s1 _ => ?_)
  exact ConsAt.pure rfl

/-- the objects a terminal of an entry chain carries. -/
def finIn : EntryEnd V → List (Obj K V)
  | .or_insert v => [.v v]
  | .or_insert_with v => [.v v]
  | .or_insert_with_key v => [.v v]
  | .or_default v => [.v v]
  | .occ_insert v => [.v v]
  | .vac_insert v => [.v v]
  | _ => []

/-- what the caller owns after the terminal: the old value (`occ_insert`), the removed value or
    pair, the key of a vacant entry (`into_key`); and the value it passed in when the terminal did
    not consume it (a terminal that does not apply to this kind of entry; `or_insert_with` on an
    occupied entry, whose closure is not run). -/
def finBack (fin : EntryEnd V) (e : EntryS K) (r : RV K V) : List (Obj K V) :=
  match fin, e, r with
  | .or_insert_with v, .occ _, _ => [.v v]
  | .or_insert_with_key v, .occ _, _ => [.v v]
  | .or_default v, .occ _, _ => [.v v]
  | .occ_insert _, .occ _, .val old => [.v old]
  | .occ_insert v, .vac _, _ => [.v v]
  | .occ_remove, .occ _, .val v => [.v v]
  | .occ_remove_entry, .occ _, .pair k v => [.k k, .v v]
  | .vac_into_key, .vac _, .key k => [.k k]
  | .vac_insert v, .occ _, _ => [.v v]
  | _, _, _ => []

/-- the terminal writes through `&mut V` only what the weighting cannot tell from the old value. -/
def finWOk (w : Obj K V → Nat) : EntryEnd V → Prop
  | .occ_get_mut g => ∀ v, w (.v (g v)) = w (.v v)
  | _ => True

theorem entryFinish_cons (hv : HV E w) (fin : EntryEnd V) (hfin : finWOk w fin) (e : EntryS K) :
    Cons P w (entryFinish E fin e) (wsum w (finIn fin) + we w e) (fun r => wsum w (finBack fin e r)) (some 0) := by
  intro s
  cases e with
  | occ i =>
    cases fin <;> simp only [finIn, finBack, wsum_nil, wsum_cons, we_occ, Nat.add_zero]
    case or_insert v =>
      exact ConsAt.bind_all (or_insert_cons E hv v (.occ i) s) (fun x s1 _ => (refVal_cons x s1))
    case or_insert_with v | or_insert_with_key v | or_default v =>
      refine ConsAt.bind_all (or_insert_with_cons E hv _ v (.occ i) s) (fun x s1 _ => ?_)
      exact (refVal_cons x s1).framed_inj (w (.v v)) (Nat.zero_add _).symm (fun _ => (Nat.zero_add _).symm)
    case key =>
      refine ConsAt.bind0_inj (entry_key_cons (.occ i) s) (fun k s1 _ => ?_)
      exact (dropEntry_cons (.occ i) s1).map (fun _ => rfl)
    case drop => exact (dropEntry_cons (.occ i) s).map (fun _ => rfl)
    case occ_key | occ_get => exact (itemRef_cons i s).map (fun _ => rfl)
    case occ_get_mut g => exact (occ_get_mut_cons i g hfin s).map (fun _ => rfl)
    case occ_insert v => exact (occ_insert_cons E i v s).map (fun _ => (Nat.add_zero _).symm)
    case occ_remove => exact (occ_remove_cons i s).map (fun _ => (Nat.add_zero _).symm)
    case occ_remove_entry =>
      exact (remove_index_read_cons i s).map (fun _ => by simp only [wsum_cons, wsum_nil, Nat.add_zero])
    case occ_into_mut => exact (refVal_cons i s)
    -- a terminal of a vacant entry: what it carried stays with the caller
    all_goals exact ConsAt.pure rfl
  | vac key =>
    -- a terminal that does not apply to a vacant entry drops the key; what it carried stays with the caller
    have other : ∀ x, ConsAt P w (dropK key >>= fun _ => pure (.tag "vacant") : SM K V Q (RV K V)) s
        (x + w (.k key)) (fun _ => x) (some 0) := fun x =>
      ConsAt.bind_inj (dropK_cons key s) (Nat.le_add_left _ _) (fun _ _ _ => ConsAt.pure (by omega))
    cases fin <;> simp only [finIn, finBack, wsum_nil, wsum_cons, we_vac, Nat.add_zero, Nat.zero_add]
    case or_insert v =>
      exact ConsAt.bind_all (or_insert_cons E hv v (.vac key) s) (fun x s1 _ => (refVal_cons x s1))
    case or_insert_with v | or_insert_with_key v | or_default v =>
      exact ConsAt.bind_all (or_insert_with_cons E hv _ v (.vac key) s) (fun x s1 _ => (refVal_cons x s1))
    case key =>
      refine ConsAt.bind0_inj (entry_key_cons (.vac key) s) (fun k s1 _ => ?_)
      exact (dropEntry_cons (.vac key) s1).map (fun _ => rfl)
    case drop => exact (dropEntry_cons (.vac key) s).map (fun _ => rfl)
    case vac_key => exact (dropK_cons key s).map (fun _ => rfl)
    case vac_into_key => exact ConsAt.pure (Nat.add_zero _).symm
    case vac_insert v =>
      refine ConsAt.bind_all ((vacant_insert_cons E hv key v s).congr_in (Nat.add_comm _ _)) (fun x s1 _ => ?_)
      exact (refVal_cons x s1)
    case occ_insert v => exact other _
    all_goals exact (other 0).congr_in (Nat.zero_add _)

end Micromap.Own
