/-
The ownership logic at the system level: the four registers of `Model/Sys.lean`, the worlds of the
set registers (`World.toUnit` / `mergeUnit`), the scratch registers of `clone` / `from_iter` /
`&a - &b` / `Deserialize` (`assignMap` / `assignSet`), and the model's transition function `step` /
`run` over the whole safe operation language.

`SBal` (live: the four registers, `sysLive`) and `PBal` (live: the two registers of `extend_from`) are
`Own.WBal` as `Own.Bal` is with the live slots of one register; all three unfold to it, so the `WBal.*`
rules apply to them as they stand.  `SCons`, `PCons`, `BuildOk` say of an outcome what `Own.ConsAt` says:
a balance when the run returns; when it unwinds, either the panic is an injected one and a fault was
armed (then nothing is claimed: the user's callback unwound in the middle of the container's code, and
what it held is the user's business) or a balance with nothing handed out.
-/
import Micromap.Proofs.OwnGarb
import Micromap.Proofs.Ledger2

set_option linter.unusedSectionVars false

namespace Micromap.OwnSys
open Micromap Ledger Own
variable {K V Q : Type}

/-- the weighting of the objects of a set register (`Obj K Unit`): a key weighs what it weighs,
    the unit values carry no object. -/
def wU (w : Obj K V → Nat) : Obj K Unit → Nat
  | .k x => w (.k x)
  | .v _ => 0

@[simp] theorem wU_k (w : Obj K V → Nat) (x : K) : wU w (.k x) = w (.k x) := rfl
@[simp] theorem wU_v (w : Obj K V → Nat) (u : Unit) : wU w (.v u) = 0 := rfl

theorem hv_unit (E : Env K V Q) (w : Obj K V → Nat) : HV E.toUnit (wU w) := Or.inr (fun _ => rfl)

theorem wsum_fromUnit (w : Obj K V → Nat) : ∀ l : List (Obj K Unit),
    wsum w (l.filterMap objFromUnit) = wsum (wU w) l
  | [] => rfl
  | o :: l => by
    cases o with
    | k x => simp [objFromUnit, wsum_fromUnit w l]
    | v u => simp [objFromUnit, List.filterMap_cons, wsum_fromUnit w l]

theorem created_fromUnit (w : Obj K V → Nat) : ∀ ev : List (Event K Unit Q),
    wsum w (createdOf (ev.filterMap evFromUnit : List (Event K V Q))) = wsum (wU w) (createdOf ev)
  | [] => rfl
  | e :: ev => by
    cases e <;> simp [evFromUnit, List.filterMap_cons, createdOf, created_fromUnit w ev]

theorem dropped_fromUnit (w : Obj K V → Nat) : ∀ ev : List (Event K Unit Q),
    wsum w (droppedOf (ev.filterMap evFromUnit : List (Event K V Q))) = wsum (wU w) (droppedOf ev)
  | [] => rfl
  | e :: ev => by
    cases e <;> simp [evFromUnit, List.filterMap_cons, droppedOf, dropped_fromUnit w ev]

section wbal
variable {P : Event K V Q → Prop} {w : Obj K V → Nat} {w0 w1 w2 : World K V Q} {l0 l1 i o : Nat}

/-- a run in the world of the set registers, seen from the system's world. -/
theorem _root_.Micromap.Own.WBal.fromUnit {PU : Event K Unit Q → Prop} {u : World K Unit Q}
    (h : WBal PU (wU w) w0.toUnit u l0 l1 i o) : WBal (fun _ => True) w w0 (w0.mergeUnit u) l0 l1 i o := by
  obtain ⟨ev, lk, hx, heq⟩ := h
  refine ⟨ev.filterMap evFromUnit, lk.filterMap objFromUnit,
    ⟨hx.profile, hx.unw, fun hi => hx.inj hi, ?_, ?_, fun _ _ => trivial⟩, ?_⟩
  · show w0.events ++ u.events.filterMap evFromUnit = _
    rw [hx.events]; rfl
  · show w0.leaked ++ u.leaked.filterMap objFromUnit = _
    rw [hx.leaked]; rfl
  · rw [created_fromUnit, dropped_fromUnit, wsum_fromUnit]
    exact heq

end wbal

/-- weight of all ghost-live slots of the four registers (`maps 0/1`, `sets 0/1`; the set
    registers hold only keys). -/
def sysLive (w : Obj K V → Nat) (sys : Sys K V Q) : Nat :=
  live w (sys.maps 0) + live w (sys.maps 1) + live (wU w) (sys.sets 0) + live (wU w) (sys.sets 1)

theorem lt_nRegs {i : Nat} (h : i < nRegs) : i = 0 ∨ i = 1 := by unfold nRegs at h; omega

theorem sysLive_updMap (w : Obj K V → Nat) (sys : Sys K V Q) {i : Nat} (hi : i < nRegs) (x : Raw K V)
    (w' : World K V Q) :
    sysLive w { sys with maps := updReg sys.maps i x, w := w' } + live w (sys.maps i) = sysLive w sys + live w x := by
  rcases lt_nRegs hi with rfl | rfl <;> simp [sysLive, updReg] <;> omega

theorem sysLive_updSet (w : Obj K V → Nat) (sys : Sys K V Q) {i : Nat} (hi : i < nRegs) (x : Raw K Unit)
    (w' : World K V Q) :
    sysLive w { sys with sets := updReg sys.sets i x, w := w' } + live (wU w) (sys.sets i) =
      sysLive w sys + live (wU w) x := by
  rcases lt_nRegs hi with rfl | rfl <;> simp [sysLive, updReg] <;> omega

def SBal (w : Obj K V → Nat) (sys sys' : Sys K V Q) (inn out : Nat) : Prop :=
  ∃ ev lk, WExt (fun _ : Event K V Q => True) sys.w sys'.w ev lk ∧
    sysLive w sys + inn + wsum w (createdOf ev) = sysLive w sys' + out + wsum w (droppedOf ev) + wsum w lk

/-- a system-level run conserves objects: it receives `inn`, its result owns `own a`; if it unwinds
    it hands nothing back and either the panic is an injected one or the balance is exact. -/
def SCons (w : Obj K V → Nat) {α : Type} (r : Res (Sys K V Q) α) (sys : Sys K V Q) (inn : Nat) (own : α → Nat) : Prop :=
  match r with
  | .ok a sys' => SBal w sys sys' inn (own a)
  | .panic c sys' => (c = .inject ∧ sys.w.inject ≠ none) ∨ SBal w sys sys' inn 0
  | .ub => True

variable {w : Obj K V → Nat}

theorem SBal.armed {s s' : Sys K V Q} {i o : Nat} (h : SBal w s s' i o) (ha : s'.w.inject ≠ none) :
    s.w.inject ≠ none :=
  WBal.armed h ha

theorem SCons.map {α β : Type} {r : Res (Sys K V Q) α} {sys : Sys K V Q} {inn inn' : Nat} {own : α → Nat}
    {own' : β → Nat} (h : SCons w r sys inn own) (f : α → β) (hi : inn = inn') (ho : ∀ a, own' (f a) = own a) :
    SCons w (r.mapVal f) sys inn' own' := by
  subst hi
  cases r with
  | ok a s => exact WBal.of_eq h (by rw [ho a])
  | panic c s => exact h
  | ub => trivial

variable {P : Event K V Q → Prop}

theorem Bal.toW {r : Raw K V} {w0 : World K V Q} {s' : St K V Q} {a b : Nat} (h : Bal P w ⟨r, w0⟩ s' a b) :
    WBal P w w0 s'.w (live w r) (live w s'.r) a b := h

theorem Bal.toSysMap {sys : Sys K V Q} {i : Nat} (hi : i < nRegs) {s' : St K V Q} {a b : Nat}
    (h : Bal P w ⟨sys.maps i, sys.w⟩ s' a b) :
    SBal w sys { sys with maps := updReg sys.maps i s'.r, w := s'.w } a b :=
  (Bal.toW h).toTrue.of_eq (by have := sysLive_updMap w sys hi s'.r s'.w; omega)

theorem Bal.toSysSet {PU : Event K Unit Q → Prop} {sys : Sys K V Q} {i : Nat} (hi : i < nRegs)
    {s' : St K Unit Q} {a b : Nat} (h : Bal PU (wU w) ⟨sys.sets i, sys.w.toUnit⟩ s' a b) :
    SBal w sys { sys with sets := updReg sys.sets i s'.r, w := sys.w.mergeUnit s'.w } a b :=
  (Bal.toW h).fromUnit.of_eq (by have := sysLive_updSet w sys hi s'.r (sys.w.mergeUnit s'.w); omega)

theorem runOnMap_scons {α : Type} {m : SM K V Q α} {sys : Sys K V Q} {i : Nat} {inn : Nat} {own : α → Nat}
    (hi : i < nRegs) (h : ConsAt P w m ⟨sys.maps i, sys.w⟩ inn own (some 0)) :
    SCons w (runOnMap sys i m) sys inn own := by
  unfold runOnMap
  cases hm : m ⟨sys.maps i, sys.w⟩ with
  | ub => trivial
  | ok a s => exact Bal.toSysMap hi (h.ok_of hm)
  | panic c s => exact (h.panic_of hm).imp_right (Bal.toSysMap hi)

theorem runOnSet_scons {PU : Event K Unit Q → Prop} {α : Type} {m : SM K Unit Q α} {sys : Sys K V Q} {i : Nat}
    {inn : Nat} {own : α → Nat} (hi : i < nRegs)
    (h : ConsAt PU (wU w) m ⟨sys.sets i, sys.w.toUnit⟩ inn own (some 0)) :
    SCons w (runOnSet sys i m) sys inn own := by
  unfold runOnSet
  cases hm : m ⟨sys.sets i, sys.w.toUnit⟩ with
  | ub => trivial
  | ok a s => exact Bal.toSysSet hi (h.ok_of hm)
  | panic c s => exact (h.panic_of hm).imp_right (Bal.toSysSet hi)

/-- the operations that `stepCore` handles itself (they involve a scratch or a second register);
    on them `stepMapOp` is a no-op.  The same predicate as `MapOp.atSys` (`MapOp.atSys_eq`), which the
    theorems use; `Op.inObjs` is written with this one. -/
def _root_.Micromap.MapOp.sysLevel : MapOp K V Q → Bool
  | .clone_to _ => true
  | .from_iter _ _ => true
  | .serde _ => true
  | _ => false

theorem MapOp.atSys_eq (op : MapOp K V Q) : op.sysLevel = op.atSys := by cases op <;> rfl

/-- every key and value object the text of a map operation carries. -/
def _root_.Micromap.MapOp.inObjs : MapOp K V Q → List (Obj K V)
  | .insert k v => [.k k, .v v]
  | .insert_key_value k v => [.k k, .v v]
  | .checked_insert k v => [.k k, .v v]
  | .insert_unchecked k v => [.k k, .v v]
  | .from_iter _ xs => pairObjs xs
  | .entry k _ fin => .k k :: finIn fin
  | _ => []

/-- the weighting does not tell the values the user closures of the operation write through `&mut V`
    from the values they found there (`Ledger2.L2Op.WOk`, on the model's own operation type). -/
def _root_.Micromap.MapOp.WOk (w : Obj K V → Nat) : MapOp K V Q → Prop
  | .retain f => ∀ n k v, w (.v (f n k v).2) = w (.v v)
  | .get_mut _ g => ∀ v, w (.v (g v)) = w (.v v)
  | .index_mut _ g => ∀ v, w (.v (g v)) = w (.v v)
  | .entry _ mods fin => (∀ g ∈ mods, ∀ v, w (.v (g v)) = w (.v v)) ∧ finWOk w fin
  | .iter kind g _ => (kind = .iter_mut ∨ kind = .values_mut) → ∀ v, w (.v (g v)) = w (.v v)
  | .get_disjoint_mut _ g _ => ∀ v, w (.v (g v)) = w (.v v)
  | _ => True

/-- the kind of entry the tag in the result of `entryOp` stands for. -/
def tagEntry (k : K) (t : String) : EntryS K := if t = "occ" then .occ 0 else .vac k

/-- what the caller owns after an entry chain, read off the result `[tag "occ"/"vac", r]` of
    `entryOp`: `Own.finBack` (NOT `RV.owned r`: the terminals `key`, `OccupiedEntry::key`,
    `VacantEntry::key` render the key they return BY REFERENCE as a bare `.key k` — for a vacant
    entry there is no slot to refer to — and a value passed to a terminal that does not consume it
    stays with the caller). -/
def entryOwned (k : K) (fin : EntryEnd V) : RV K V → List (Obj K V)
  | .list [.tag t, r] => finBack fin (tagEntry k t) r
  | _ => []

/-- what the caller owns of the result of a map operation. -/
def _root_.Micromap.MapOp.owned : MapOp K V Q → RV K V → List (Obj K V)
  | .entry k _ fin, r => entryOwned k fin r
  | _, r => RV.owned r

/-- `finBack` looks at the kind of the entry only, not at its slot or key (`tagEntry` puts in a dummy). -/
theorem finBack_occ (fin : EntryEnd V) (i j : Nat) (r : RV K V) :
    finBack fin (.occ i : EntryS K) r = finBack fin (.occ j) r := by
  cases fin <;> first | rfl | (cases r <;> rfl)

theorem finBack_vac (fin : EntryEnd V) (k k' : K) (r : RV K V) :
    finBack fin (.vac k : EntryS K) r = finBack fin (.vac k') r := by
  cases fin <;> first | rfl | (cases r <;> rfl)

theorem and_modify_ok {g : V → V} {e e' : EntryS K} {s s' : St K V Q} (h : and_modify g e s = .ok e' s') :
    e' = e := by
  cases e with
  | vac key => cases h; rfl
  | occ i =>
    obtain ⟨p, s1, _, h⟩ := bind_eq_ok h
    obtain ⟨_, s2, _, h⟩ := bind_eq_ok h
    obtain ⟨_, s3, _, h⟩ := bind_eq_ok h
    cases h; rfl

theorem entryMods_ok : ∀ {mods : List (V → V)} {e e' : EntryS K} {s s' : St K V Q},
    entryMods mods e s = .ok e' s' → e' = e
  | [], e, e', s, s', h => by cases h; rfl
  | g :: gs, e, e', s, s', h => by
    obtain ⟨e1, s1, h1, h⟩ := bind_eq_ok h
    exact (entryMods_ok h).trans (and_modify_ok h1)

theorem wsum_owned_pairs (w : Obj K V → Nat) (l : List (K × V)) :
    wsum w (RV.owned.ownedL (l.map fun p => RV.pair p.1 p.2)) = wpairs w l := by
  induction l with
  | nil => simp
  | cons p l ih => simp [ih]; omega

theorem wsum_owned_kpairs (w : Obj K V → Nat) (l : List (K × V)) :
    wsum w (RV.owned.ownedL (l.map fun p => RV.pair p.1 p.2)) = wkinds w .pairs l := by
  induction l with
  | nil => simp [wkinds]
  | cons p l ih => simp [wkinds, wkind] at ih ⊢; omega

theorem wsum_owned_keys (w : Obj K V → Nat) (l : List (K × V)) :
    wsum w (RV.owned.ownedL (l.map fun p => (RV.key p.1 : RV K V))) = wkinds w .keys l := by
  induction l with
  | nil => simp [wkinds]
  | cons p l ih => simp [wkinds, wkind] at ih ⊢; omega

theorem wsum_owned_vals (w : Obj K V → Nat) (l : List (K × V)) :
    wsum w (RV.owned.ownedL (l.map fun p => (RV.val p.2 : RV K V))) = wkinds w .values l := by
  induction l with
  | nil => simp [wkinds]
  | cons p l ih => simp [wkinds, wkind] at ih ⊢; omega

variable (E : Env K V Q) [EvP P]

/-- an entry chain, for any reading `own` of its result `[tag, r]` that weighs what `finBack` hands back. -/
theorem entryOp_cons (hv : HV E w) (k : K) {mods : List (V → V)} {fin : EntryEnd V}
    (hmods : ∀ g ∈ mods, ∀ v, w (.v (g v)) = w (.v v)) (hfin : finWOk w fin) {s : St K V Q}
    (hle : s.r.len ≤ s.r.cap) {own : RV K V → Nat}
    (ho : ∀ e r s1 s2, entryFinish E fin e s1 = .ok r s2 →
      wsum w (finBack fin e r) = own (.list [match e with | .occ _ => .tag "occ" | .vac _ => .tag "vac", r])) :
    ConsAt P w (entryOp E k mods fin) s (w (.k k) + wsum w (finIn fin)) own (some 0) := by
  simp only [entryOp]
  refine ConsAt.bind_inj (entry_inj E k hle) (Nat.le_add_right _ _) (fun e s1 _ => ?_)
  refine ConsAt.bind_inj (entryMods_cons mods hmods e s1) (by omega) (fun e' s2 he' => ?_)
  cases entryMods_ok he'
  refine ConsAt.bind_some (entryFinish_cons E hv fin hfin e s2) (by omega) (by omega) (fun r s3 hr => ?_)
  exact ConsAt.pure (Eq.trans (by omega) (ho e r s2 s3 hr))

/-- **every operation of one register** (`stepMapOp`, the model's own function), in any world, for
    any user equality: the objects the operation text carries are received, the result owns
    `MapOp.owned`. -/
theorem stepMapOp_cons (hv : HV E w) (R : Render K V) (other : Nat → Raw K V) (op : MapOp K V Q)
    (hsafe : op.safeApi = true) (hsys : op.atSys = false) (hop : op.WOk w) {s : St K V Q} (hs : Inv E s.r) :
    ConsAt P w (stepMapOp E R other op) s (wsum w op.inObjs) (fun r => wsum w (op.owned r)) (some 0) := by
  cases op with
  | insert k v =>
    refine ConsAt.bind_all ((insert_cons E hv k v s).congr_in (by simp [MapOp.inObjs])) (fun o s1 _ => ?_)
    cases o <;> exact ConsAt.pure (by simp [MapOp.owned])
  | insert_key_value k v =>
    refine ConsAt.bind_all ((insert_key_value_cons E hv k v s).congr_in (by simp [MapOp.inObjs])) (fun o s1 _ => ?_)
    cases o <;> exact ConsAt.pure (by simp [MapOp.owned])
  | checked_insert k v =>
    refine ConsAt.bind_all ((checked_insert_cons E hv k v s).congr_in (by simp [MapOp.inObjs])) (fun o s1 _ => ?_)
    cases o with
    | none => exact ConsAt.pure (by simp [wovv, MapOp.owned])
    | some o' => cases o' <;> exact ConsAt.pure (by simp [wovv, MapOp.owned])
  | insert_unchecked k v => cases hsafe
  | get pr => exact (get_cons E pr s).map (fun o => by cases o <;> rfl)
  | get_key_value pr => exact (get_cons E pr s).map (fun o => by cases o <;> rfl)
  | get_mut pr g => exact (get_mut_cons E pr g hop s).map (fun o => by cases o <;> rfl)
  | contains_key pr => exact (contains_key_cons E pr s).map (fun _ => rfl)
  | index pr => exact ConsAt.bind0 (index_cons E pr s) (fun _ _ _ => ConsAt.pure rfl)
  | index_mut pr g => exact ConsAt.bind0 (index_mut_cons E pr g hop s) (fun _ _ _ => ConsAt.pure rfl)
  | remove pr =>
    refine ConsAt.bind_all (remove_cons E pr s) (fun o s1 _ => ?_)
    cases o <;> exact ConsAt.pure (by simp [MapOp.owned])
  | remove_entry pr =>
    refine ConsAt.bind_all (remove_entry_cons E pr s) (fun o s1 _ => ?_)
    cases o <;> exact ConsAt.pure (by simp [MapOp.owned])
  | retain f => exact (retain_cons E hv f hop s).map (fun _ => rfl)
  | clear => exact (clear_cons E hv s).map (fun _ => rfl)
  | len => exact (getLen_cons s).of_inj.map (fun _ => rfl)
  | is_empty => exact (is_empty_cons s).of_inj.map (fun _ => rfl)
  | capacity => exact (getCap_cons s).of_inj.map (fun _ => rfl)
  | drain take forget =>
    refine ConsAt.bind_all (drainOp_cons E hv take forget s) (fun r s1 _ => ?_)
    exact ConsAt.pure (by simp [MapOp.owned, wsum_owned_pairs])
  | into_iter kind take forget =>
    obtain ⟨l, hr, _⟩ := hs
    refine ConsAt.bind_all (intoIterOp_cons E hv kind take forget hr).of_inj (fun r s1 _ => ?_)
    refine ConsAt.pure ?_
    cases kind <;> simp [MapOp.owned, wsum_owned_kpairs, wsum_owned_keys, wsum_owned_vals]
  | iter kind g script => exact (iterOp_own R kind g hop script s).map (fun _ => rfl)
  | clone_to dst => cases hsys
  | eq o => exact ConsAt.getS_bind ((mapEq_cons E s.r (other o) s).map (fun _ => rfl))
  | from_iter pulls xs => cases hsys
  | entry k mods fin =>
    have hle : s.r.len ≤ s.r.cap := by obtain ⟨l, hr, _⟩ := hs; exact hr.1 ▸ hr.2.1
    refine (entryOp_cons E hv k hop.1 hop.2 hle (fun e r _ _ _ => ?_)).congr_in (by simp [MapOp.inObjs])
    cases e with
    | occ i =>
      simp only [MapOp.owned, entryOwned, tagEntry, if_true]
      rw [finBack_occ fin 0 i]
    | vac key =>
      have : ("vac" = "occ") = False := by decide
      simp only [MapOp.owned, entryOwned, tagEntry, this, if_false]
      rw [finBack_vac fin k key]
  | get_disjoint_mut u g ks =>
    cases u with
    | true => cases hsafe
    | false =>
      refine ConsAt.bind0 (get_disjoint_mut_cons E ks s) (fun slots s1 _ => ?_)
      refine ConsAt.bind0_inj (writeSlots_cons g hop slots s1) (fun _ s2 _ => ?_)
      exact ConsAt.getS_bind ((readSlots_own s2.r slots s2).of_inj.map (fun _ => rfl))
  | fmt kind => exact (fmtMap_cons R kind s).map (fun _ => rfl)
  | drop => exact (dropAndRenew_cons E hv s).map (fun _ => rfl)
  | forget => exact (forgetMap_cons s).of_inj.map (fun _ => rfl)
  | with_capacity c =>
    refine ConsAt.bind0_inj (getCap_cons s) (fun cap s1 _ => ?_)
    exact (assertP_cons _ _ s1).map (fun _ => rfl)
  | serde dst => cases hsys

/-- the keys the text of a set operation carries. -/
def _root_.Micromap.SetOp.inKeys : SetOp K Q → List K
  | .insert k => [k]
  | .replace k => [k]
  | .from_iter _ xs => xs
  | .extend _ xs => xs
  | _ => []

section setops
variable {K Q : Type} {PU : Event K Unit Q → Prop} [EvP PU] {wu : Obj K Unit → Nat} (F : Env K Unit Q)

theorem wpairs_unit_keys (hw0 : ∀ u, wu (.v u) = 0) (xs : List K) :
    wpairs wu (xs.map fun k => (k, ())) = wsum wu (xs.map Obj.k) := by
  induction xs with
  | nil => rfl
  | cons k xs ih => simp [ih, hw0]

theorem wkinds_keys_unit (hw0 : ∀ u, wu (.v u) = 0) (l : List (K × Unit)) :
    wkinds wu .keys l = wpairs wu l := by
  induction l with
  | nil => rfl
  | cons p l ih =>
    simp only [wkinds, List.map_cons, List.sum_cons, wpairs_cons] at ih ⊢
    simp only [wkind, hw0]
    omega

theorem fmtSet_cons (R : Render K Unit) (kind : FmtKind) :
    Cons PU wu (fmtSet R kind : SM K Unit Q String) 0 (fun _ => 0) (some 0) := by
  intro s
  unfold fmtSet
  refine ConsAt.getS_bind ?_
  refine ConsAt.bind0 (entriesOf_cons s.r s) (fun l s1 _ => ?_)
  cases kind <;> exact ConsAt.pure rfl

/-- **every operation of a set register** (`stepSetOp`), in any world, for any user equality. -/
theorem stepSetOp_cons (hw0 : ∀ u, wu (.v u) = 0) (R : Render K Unit) (other : Nat → Raw K Unit) (op : SetOp K Q)
    (hsys : op.atSys = false) {s : St K Unit Q} (hs : Inv F s.r) :
    ConsAt PU wu (stepSetOp F R other op) s (wsum wu (op.inKeys.map Obj.k)) (fun r => wsum wu (RV.owned r)) (some 0) := by
  have hv : HV F wu := Or.inr hw0
  cases op with
  | insert k =>
    refine ((insert_cons F hv k () s).congr_in (by simp [SetOp.inKeys, hw0])).map (fun o => ?_)
    cases o <;> simp [hw0]
  | replace k =>
    refine ConsAt.bind_all ((insert_ii_cons F hv k () true s).congr_in (by simp [SetOp.inKeys, hw0])) (fun r s1 _ => ?_)
    obtain ⟨j, ex⟩ := r
    cases ex <;> exact ConsAt.pure (by simp [hw0])
  | contains pr => exact (contains_key_cons F pr s).map (fun _ => rfl)
  | get pr => exact (get_cons F pr s).map (fun o => by cases o <;> rfl)
  | remove pr => exact (remove_cons F pr s).map (fun o => by cases o <;> simp [hw0])
  | take pr =>
    refine ConsAt.bind_all (remove_entry_cons F pr s) (fun o s1 _ => ?_)
    cases o <;> exact ConsAt.pure (by simp [hw0])
  | retain f => exact (retain_cons F hv _ (fun _ _ _ => rfl) s).map (fun _ => rfl)
  | clear => exact (clear_cons F hv s).map (fun _ => rfl)
  | len => exact (getLen_cons s).of_inj.map (fun _ => rfl)
  | is_empty => exact (is_empty_cons s).of_inj.map (fun _ => rfl)
  | capacity => exact (getCap_cons s).of_inj.map (fun _ => rfl)
  | drain take forget =>
    refine ConsAt.bind_all (drainOp_cons F hv take forget s) (fun r s1 _ => ?_)
    exact ConsAt.pure (by simp [wsum_owned_keys, wkinds_keys_unit hw0])
  | into_iter take forget =>
    obtain ⟨l, hr, _⟩ := hs
    refine ConsAt.bind_all (intoIterOp_cons F hv .keys take forget hr).of_inj (fun r s1 _ => ?_)
    exact ConsAt.pure (by simp [wsum_owned_keys])
  | iter script => exact (iterOp_own R .keys id (fun _ _ => rfl) script s).map (fun _ => rfl)
  | clone_to dst => cases hsys
  | eq o => exact ConsAt.getS_bind ((mapEq_cons F s.r (other o) s).map (fun _ => rfl))
  | from_iter pulls xs => cases hsys
  | extend pulls xs =>
    exact ((extendLoop_cons F hv pulls _ s).congr_in (wpairs_unit_keys hw0 xs)).map (fun _ => rfl)
  | alg kind o script =>
    exact ConsAt.getS_bind ((algOp_cons F R.dbgK kind s.r (other o) script s).map (fun _ => rfl))
  | is_subset o => exact ConsAt.getS_bind ((is_subset_cons F s.r (other o) s).map (fun _ => rfl))
  | is_superset o => exact ConsAt.getS_bind ((is_superset_cons F s.r (other o) s).map (fun _ => rfl))
  | is_disjoint o => exact ConsAt.getS_bind ((is_disjoint_cons F s.r (other o) s).map (fun _ => rfl))
  | sub o dst => cases hsys
  | fmt kind => exact (fmtSet_cons R kind s).map (fun _ => rfl)
  | drop => exact (dropAndRenew_cons F hv s).map (fun _ => rfl)
  | forget => exact (forgetMap_cons s).of_inj.map (fun _ => rfl)
  | serde dst => cases hsys
  | extend_from o => cases hsys

end setops

/-- what the ledger needs of a construction in a scratch register: a balance when it returns; when
    it unwinds, an injected panic or a balance AND a scratch register without live slots (the local
    is gone: it must not take objects with it). -/
def BuildOk (P : Event K V Q → Prop) (w : Obj K V → Nat) (s0 : St K V Q) (inn : Nat) : Res (St K V Q) Unit → Prop
  | .ok _ s' => Bal P w s0 s' inn 0
  | .panic c s' => (c = .inject ∧ s0.w.inject ≠ none) ∨ (Bal P w s0 s' inn 0 ∧ live w s'.r = 0)
  | .ub => True

theorem BuildOk.of_cons {build : SM K V Q Unit} {s0 : St K V Q} {inn : Nat}
    (h : ConsAt P w build s0 inn (fun _ => 0) (some 0))
    (hdead : ∀ c s', build s0 = .panic c s' → live w s'.r = 0) : BuildOk P w s0 inn (build s0) := by
  cases hm : build s0 with
  | ub => trivial
  | ok a s' => exact h.ok_of hm
  | panic c s' => exact (h.panic_of hm).imp_right (fun hb => ⟨hb, hdead c s' hm⟩)

/-- `*dst = built`, seen from the register: the construction `s0 ⟶ s` started in a scratch register without
    live slots; then the old content `old` of the register is dropped, in the world the construction ended in
    (a drop unwinds only by an injected panic).  The balance is that of the register going from `old` to
    what was built. -/
theorem dropOld_bal (hv : HV E w) {old : Raw K V} {l} (hrep : Rep old l) {s0 s : St K V Q} {inn : Nat}
    (hb : Bal P w s0 s inn 0) (h0 : live w s0.r = 0) :
    match dropAndRenew E ⟨old, s.w⟩ with
    | .ok _ s' => WBal P w s0.w s'.w (live w old) (live w s.r) inn 0
    | .panic c _ => c = .inject ∧ s0.w.inject ≠ none
    | .ub => True := by
  have hd := dropAndRenew_cons (P := P) (w := w) (pown := none) E hv ⟨old, s.w⟩
  cases hdr : dropAndRenew E ⟨old, s.w⟩ with
  | ub => trivial
  | ok u s' =>
    have hnew : live w s'.r = 0 := by rw [Sat.ok_of (dropAndRenew_sat E (s := ⟨old, s.w⟩) hrep) hdr, live_new]
    exact (WBal.append hb (Bal.toW (hd.ok_of hdr))).of_eq (by simp only [hnew, h0]; omega)
  | panic c s' =>
    exact (hd.inj_of hdr).imp_right hb.armed

theorem assignMap_scons (hv : HV E w) {sys : Sys K V Q} (hs : SysInv E sys) {dst cap : Nat} (hdst : dst < nRegs)
    {build : SM K V Q Unit} {inn : Nat} (hb : BuildOk P w ⟨Raw.new cap, sys.w⟩ inn (build ⟨Raw.new cap, sys.w⟩)) :
    SCons w (assignMap E sys dst cap build) sys inn (fun _ => 0) := by
  unfold assignMap
  have h0 : live w (Raw.new cap : Raw K V) = 0 := live_new w cap
  generalize build ⟨Raw.new cap, sys.w⟩ = r at hb ⊢
  cases r with
  | ub => trivial
  | panic c s =>
    refine hb.imp_right (fun ⟨hb, hdead⟩ => (Bal.toW hb).toTrue.of_eq ?_)
    show sysLive w sys + inn + _ + 0 = _ + inn + sysLive w sys + 0
    omega
  | ok u s =>
    obtain ⟨l, hrep, _⟩ := hs.1 dst
    have hd := dropOld_bal E hv hrep hb h0
    simp only
    generalize dropAndRenew E ⟨sys.maps dst, s.w⟩ = r' at hd ⊢
    cases r' with
    | ub => trivial
    | panic c s' => exact Or.inl hd
    | ok u' s' =>
      show SBal w sys _ inn 0
      exact (WBal.toTrue hd).of_eq (by have := sysLive_updMap w sys hdst s.r s'.w; omega)

theorem assignSet_scons {PU : Event K Unit Q → Prop} [EvP PU] {sys : Sys K V Q} (hs : SysInv E sys) {dst cap : Nat}
    (hdst : dst < nRegs) {build : SM K Unit Q Unit} {inn : Nat}
    (hb : BuildOk PU (wU w) ⟨Raw.new cap, sys.w.toUnit⟩ inn (build ⟨Raw.new cap, sys.w.toUnit⟩)) :
    SCons w (assignSet E sys dst cap build) sys inn (fun _ => 0) := by
  unfold assignSet
  have h0 : live (wU w) (Raw.new cap : Raw K Unit) = 0 := live_new _ cap
  generalize build ⟨Raw.new cap, sys.w.toUnit⟩ = r at hb ⊢
  cases r with
  | ub => trivial
  | panic c s =>
    refine hb.imp_right (fun ⟨hb, hdead⟩ => (Bal.toW hb).fromUnit.of_eq ?_)
    show sysLive w sys + inn + _ + 0 = _ + inn + sysLive w sys + 0
    omega
  | ok u s =>
    obtain ⟨l, hrep, _⟩ := hs.2 dst
    have hd := dropOld_bal E.toUnit (hv_unit E w) hrep hb h0
    simp only
    generalize dropAndRenew E.toUnit ⟨sys.sets dst, s.w⟩ = r' at hd ⊢
    cases r' with
    | ub => trivial
    | panic c s' => exact Or.inl hd
    | ok u' s' =>
      show SBal w sys _ inn 0
      exact (WBal.fromUnit hd).of_eq (by have := sysLive_updSet w sys hdst s.r (sys.w.mergeUnit s'.w); omega)

section extendFrom
variable {K Q : Type} {PU : Event K Unit Q → Prop} [EvP PU] {wu : Obj K Unit → Nat} (F : Env K Unit Q)

/-- the balance between two states of the pair (source register, destination register with the
    world): nothing is passed in, nothing is handed out — every key of the source ends up stored in
    the destination, dropped (a duplicate, or the rest of the source when the loop unwinds) or, if a
    `Drop` unwinds, leaked. -/
def PBal (PU : Event K Unit Q → Prop) (wu : Obj K Unit → Nat) (rs : Raw K Unit) (sd : St K Unit Q)
    (x : Raw K Unit × St K Unit Q) : Prop :=
  WBal PU wu sd.w x.2.w (live wu rs + live wu sd.r) (live wu x.1 + live wu x.2.r) 0 0

/-- the loop conserves: exactly when it returns or unwinds by the container's own panic (overflow);
    nothing is claimed after an injected panic in an armed world (as in `ConsAt`). -/
def PCons (PU : Event K Unit Q → Prop) (wu : Obj K Unit → Nat) (r : Res (Raw K Unit × St K Unit Q) Unit)
    (rs : Raw K Unit) (sd : St K Unit Q) : Prop :=
  match r with
  | .ok _ x => PBal PU wu rs sd x
  | .panic c x => (c = .inject ∧ sd.w.inject ≠ none) ∨ PBal PU wu rs sd x
  | .ub => True

theorem wov_unit (hw0 : ∀ u, wu (.v u) = 0) (a : Option Unit) : wov wu a = 0 := by
  cases a <;> simp [hw0]

theorem extendFromLoop_pcons (hw0 : ∀ u, wu (.v u) = 0) (n : Nat) (rs : Raw K Unit) (sd : St K Unit Q) :
    PCons PU wu (extendFromLoop F n rs sd) rs sd := by
  have hv : HV F wu := Or.inr hw0
  induction n generalizing rs sd with
  | zero => exact WBal.refl _ _ _
  | succ n ih =>
    have h1 := intoIterNextK_inj (P := PU) (w := wu) F hv .keys ⟨rs, sd.w⟩
    unfold extendFromLoop
    cases hm : intoIterNextK F .keys ⟨rs, sd.w⟩ with
    | ub => trivial
    | panic c s1 => exact Or.inl (h1.inj_of hm)
    | ok o s1 =>
      have b1 := Bal.toW (h1.ok_of hm)
      cases o with
      | none => exact b1.of_eq (by simp only [Option.map_none, Option.getD_none]; omega)
      | some p =>
        simp only [Option.map_some, Option.getD_some, wkind] at b1
        have h2 := insert_cons (P := PU) (w := wu) F hv p.1 () ⟨sd.r, s1.w⟩
        simp only [hw0 ()] at h2
        simp only
        cases hi : insert F p.1 () ⟨sd.r, s1.w⟩ with
        | ub => trivial
        | ok a s2 =>
          have b2 := Bal.toW (h2.ok_of hi)
          rw [wov_unit hw0 a] at b2
          have b12 : PBal PU wu rs sd (s1.r, s2) := (b1.append b2).of_eq (by dsimp only; omega)
          have ih := ih s1.r s2
          show PCons PU wu (extendFromLoop F n s1.r s2) rs sd
          generalize extendFromLoop F n s1.r s2 = r at ih
          cases r with
          | ub => trivial
          | ok u x => exact WBal.trans b12 ih
          | panic c x =>
            exact ih.imp (And.imp_right (WBal.armed b12)) (WBal.trans b12)
        | panic c s2 =>
          simp only
          have h3 := dropAndRenew_cons (pown := none) (P := PU) (w := wu) F hv ((⟨s1.r, s2.w⟩ : St K Unit Q).setUnw true)
          cases hd : dropAndRenew F ((⟨s1.r, s2.w⟩ : St K Unit Q).setUnw true) with
          | ub => trivial
          | panic c' s3 => trivial
          | ok u s3 =>
            rcases h2.panic_of hi with ⟨hc, ha⟩ | b2
            · exact Or.inl ⟨hc, b1.armed ha⟩
            · have b3 := WBal.through_unw (s' := ⟨s1.r, s2.w⟩) (Bal.toW (h3.ok_of hd))
              exact Or.inr (((b1.append (Bal.toW b2)).append b3).of_eq (by dsimp only; omega))

end extendFrom

theorem sysLive_extendFin (w : Obj K V → Nat) (sys : Sys K V Q) {i j : Nat} (hi : i < nRegs) (hj : j < nRegs)
    (hij : j ≠ i) (rs rd : Raw K Unit) (u : World K Unit Q) :
    sysLive w (extendFin sys i j rs rd u) + live (wU w) (sys.sets i) + live (wU w) (sys.sets j) =
      sysLive w sys + live (wU w) rs + live (wU w) rd := by
  rcases lt_nRegs hi with rfl | rfl <;> rcases lt_nRegs hj with rfl | rfl <;>
    first | exact absurd rfl hij | (simp [sysLive, extendFin, updReg]; omega)

/-- **`sets[i].extend(sets[j])` conserves objects** at the system level: nothing comes in (the
    objects are those of the source register, which is one of the registers of `sysLive`), nothing
    is handed out; every key of the source is stored in the destination, dropped, or leaked by an
    unwinding `Drop` — in any world, for any user equality, whether the call returns or the
    destination overflows in the middle. -/
theorem extendFrom_scons {sys : Sys K V Q} {i j : Nat} (hi : i < nRegs) (hj : j < nRegs) (hij : j ≠ i) :
    SCons w (extendFrom E sys i j) sys 0 (fun _ => 0) := by
  have hl := extendFromLoop_pcons (PU := fun _ => True) (wu := wU w) E.toUnit (fun _ => rfl)
    ((sys.sets j).len + 1) (sys.sets j) ⟨sys.sets i, sys.w.toUnit⟩
  have hfin : ∀ {rs rd : Raw K Unit} {u : World K Unit Q},
      WBal (fun _ => True) (wU w) sys.w.toUnit u (live (wU w) (sys.sets j) + live (wU w) (sys.sets i))
        (live (wU w) rs + live (wU w) rd) 0 0 →
      SBal w sys (extendFin sys i j rs rd u) 0 0 :=
    fun {rs rd u} h => h.fromUnit.of_eq (by have := sysLive_extendFin w sys hi hj hij rs rd u; omega)
  have hd := fun s => dropAndRenew_cons (pown := none) (P := fun _ => True) (w := wU w) E.toUnit (hv_unit E w) s
  unfold extendFrom
  generalize extendFromLoop E.toUnit ((sys.sets j).len + 1) (sys.sets j) ⟨sys.sets i, sys.w.toUnit⟩ = r at hl ⊢
  cases r with
  | ub => trivial
  | panic c x => exact hl.imp_right hfin
  | ok u x =>
    simp only
    cases hdr : dropAndRenew E.toUnit ⟨x.1, x.2.w⟩ with
    | ub => trivial
    | ok u' s4 => exact hfin ((WBal.append hl (Bal.toW ((hd _).ok_of hdr))).of_eq (by dsimp only; omega))
    | panic c s4 =>
      obtain ⟨hc, ha⟩ := (hd _).inj_of hdr
      exact Or.inl ⟨hc, fun hn => ha (WBal.inj_none hl hn)⟩

/-- every register the operation reads or writes (the model's `touched`) is one of the `nRegs`
    registers of each kind that exist for the ledger (and that `endCase` drops). -/
def _root_.Micromap.Op.regsOk (op : Op K V Q) : Bool :=
  (touched op).1.all (· < nRegs) && (touched op).2.all (· < nRegs)

/-- every key and value object the operation text carries: the arguments of the inserts, the lists
    of `from_iter` / `extend`, the key of an entry chain and the value of its terminal.  A set
    operation carries keys only; a `Map<K, (), N>` operation on a set register (`umap`) carries its
    keys (the unit values are no objects), and the three `umap` operations that the model does not
    execute (`clone_to`, `from_iter`, `serde`: no-ops of `stepCore`) carry nothing. -/
def _root_.Micromap.Op.inObjs : Op K V Q → List (Obj K V)
  | .map _ op => op.inObjs
  | .set _ op => op.inKeys.map Obj.k
  | .umap _ op => if op.sysLevel then [] else op.inObjs.filterMap objFromUnit
  | .inject _ => []
  | .endCase => []

/-- the weighting is admissible for the in-place writes of the operation (`MapOp.WOk`; on a set
    register there is nothing to write: the values are `()`). -/
def _root_.Micromap.Op.WOk (w : Obj K V → Nat) : Op K V Q → Prop
  | .map _ op => op.WOk w
  | _ => True

/-- `entryOwned` for an entry chain on a `Map<K, (), N>` register, read off the result after the cast
    to the common result type (`RV.castU`: `pair k () ↦ key k`, `val () ↦ unit`): the key of a removed
    entry (`remove_entry`) and the key of a vacant entry (`into_key`). -/
def uEntryOwned (fin : EntryEnd Unit) : RV K V → List (Obj K V)
  | .list [.tag t, .key k] =>
    match fin with
    | .occ_remove_entry => if t = "occ" then [.k k] else []
    | .vac_into_key => if t = "occ" then [] else [.k k]
    | _ => []
  | _ => []

/-- what the caller owns of the value a step returns (`Out.ret`): the keys, values and pairs that
    are not under a reference (`RV.owned`), except for entry chains (`entryOwned`). -/
def _root_.Micromap.Op.owned : Op K V Q → RV K V → List (Obj K V)
  | .map _ op, r => op.owned r
  | .umap _ (.entry _ _ fin), r => uEntryOwned fin r
  | _, r => RV.owned r

theorem owned_castU (w : Obj K V → Nat) : ∀ x : RV K Unit,
    wsum w (RV.owned (RV.castU x : RV K V)) = wsum (wU w) (RV.owned x)
  | .some x => by simp [RV.castU, owned_castU w x]
  | .list l => by simp [RV.castU]; exact ownedL_castU w l
  | .unit | .none | .bool _ | .nat _ | .key _ | .val _ | .pair _ _ | .ref _ _ | .oref _ _ _ | .hint _ _ | .str _ | .tag _ => by
    simp [RV.castU]
where
  ownedL_castU (w : Obj K V → Nat) : ∀ l : List (RV K Unit),
      wsum w (RV.owned.ownedL (RV.castU.castUL l : List (RV K V))) = wsum (wU w) (RV.owned.ownedL l)
    | [] => by simp [RV.castU.castUL]
    | x :: xs => by simp [RV.castU.castUL, owned_castU w x, ownedL_castU w xs]

theorem uEntryOwned_other {fin : EntryEnd Unit} (h1 : fin ≠ .occ_remove_entry) (h2 : fin ≠ .vac_into_key)
    (x : RV K V) : uEntryOwned fin x = [] := by
  unfold uEntryOwned
  split
  · cases fin <;> first | rfl | exact absurd rfl h1 | exact absurd rfl h2
  · rfl

/-- `uEntryOwned` reads off the cast result what `finBack` hands back.  The cast makes the result of two
    terminals ambiguous (`pair k () ↦ key k`); what they return is read off the run. -/
theorem uEntryOwned_castU (w : Obj K V → Nat) {F : Env K Unit Q} {fin : EntryEnd Unit} {e : EntryS K} {r : RV K Unit}
    {s s' : St K Unit Q} (h : entryFinish F fin e s = .ok r s') :
    wsum w (uEntryOwned fin (RV.castU (.list [match e with | .occ _ => .tag "occ" | .vac _ => .tag "vac", r]) : RV K V)) =
      wsum (wU w) (finBack fin e r) := by
  have hne : ("vac" = "occ") = False := by decide
  by_cases f1 : fin = .occ_remove_entry
  · subst f1
    cases e with
    | occ i =>
      obtain ⟨p, s1, _, h⟩ := bind_eq_ok h
      cases h
      simp [RV.castU, RV.castU.castUL, uEntryOwned, finBack]
    | vac key => cases r <;> simp [RV.castU, RV.castU.castUL, uEntryOwned, finBack, hne]
  by_cases f2 : fin = .vac_into_key
  · subst f2
    cases e with
    | vac key => cases h; simp [RV.castU, RV.castU.castUL, uEntryOwned, finBack, hne]
    | occ i => cases r <;> simp [RV.castU, RV.castU.castUL, uEntryOwned, finBack]
  -- every other terminal hands back values only, and a unit value is no object
  rw [uEntryOwned_other f1 f2]
  cases fin <;> first | exact absurd rfl f1 | exact absurd rfl f2 | (cases e <;> first | rfl | (cases r <;> rfl))

theorem MapOp.WOk_unit (w : Obj K V → Nat) (op : MapOp K Unit Q) : op.WOk (wU w) := by
  cases op with
  | retain f => exact fun _ _ _ => rfl
  | get_mut pr g => exact fun _ => rfl
  | index_mut pr g => exact fun _ => rfl
  | iter kind g script => exact fun _ _ => rfl
  | get_disjoint_mut u g ks => exact fun _ => rfl
  | entry k mods fin =>
    refine ⟨fun _ _ _ => rfl, ?_⟩
    cases fin <;> first | exact trivial | exact fun _ => rfl
  | _ => exact trivial

/-- **every `Map<K, (), N>` operation on a set register** (`umap`), with the result cast to the
    common result type. -/
theorem stepMapOp_unit_cons {PU : Event K Unit Q → Prop} [EvP PU] (R : Render K Unit) (other : Nat → Raw K Unit)
    (reg : Nat) (op : MapOp K Unit Q) (hsafe : op.safeApi = true) (hsys : op.atSys = false)
    {s : St K Unit Q} (hs : Inv E.toUnit s.r) :
    ConsAt PU (wU w) (stepMapOp E.toUnit R other op) s (wsum w (op.inObjs.filterMap objFromUnit))
      (fun a => wsum w (Op.owned (.umap reg op : Op K V Q) (RV.castU a))) (some 0) := by
  rw [wsum_fromUnit]
  cases op with
  | entry k mods fin =>
    have hop := MapOp.WOk_unit w (.entry k mods fin : MapOp K Unit Q)
    have hle : s.r.len ≤ s.r.cap := by obtain ⟨l, hr, _⟩ := hs; exact hr.1 ▸ hr.2.1
    refine (entryOp_cons E.toUnit (hv_unit E w) k hop.1 hop.2 hle (fun e r s1 s2 hfin => ?_)).congr_in
      (by simp [MapOp.inObjs])
    cases e <;> exact (uEntryOwned_castU w hfin).symm
  | _ =>
    exact (stepMapOp_cons E.toUnit (hv_unit E w) R other _ hsafe hsys (MapOp.WOk_unit w _) hs).congr rfl
      (fun a => (owned_castU w a).symm) (fun _ h => h)

/-- the objects a step creates by DECODING (`serde`: `K::deserialize` / `V::deserialize` log no
    event): the decode results of a prefix of the serialized entries of the source register — of
    all of them when `full` (the step returned) —, with the identities the model gives them (the
    fresh-object counter stands at `sys.w.nextId` when the step starts).  Empty for every other
    operation. -/
def _root_.Micromap.Op.DecOf (E : Env K V Q) (sys : Sys K V Q) (op : Op K V Q) (full : Bool) (dec : List (Obj K V)) : Prop :=
  match op with
  | .map reg (.serde _) => OwnSys.DecOf E full sys.w.nextId (sys.maps reg).abs dec
  | .set reg (.serde _) => ∃ du, OwnSys.DecOf E.toUnit full sys.w.nextId (sys.sets reg).abs du ∧ dec = du.filterMap objFromUnit
  | _ => dec = []

def isOk {σ α : Type} : Res σ α → Bool
  | .ok _ _ => true
  | _ => false

theorem isOk_mapVal {σ α β : Type} (f : α → β) (r : Res σ α) : isOk (r.mapVal f) = isOk r := by cases r <;> rfl

theorem isOk_unit {r : Res (Sys K V Q) Unit} (x : RV K V) :
    isOk (match r with | .ok _ s => .ok x s | .panic c s => .panic c s | .ub => (.ub : Res (Sys K V Q) (RV K V))) = isOk r := by
  cases r <;> rfl

theorem isOk_assignMap {sys : Sys K V Q} {dst cap : Nat} {build : SM K V Q Unit} (h : isOk (assignMap E sys dst cap build) = true) :
    isOk (build ⟨Raw.new cap, sys.w⟩) = true := by
  unfold assignMap at h
  generalize build ⟨Raw.new cap, sys.w⟩ = r at h ⊢
  cases r with
  | ok a s => rfl
  | panic c s => cases h
  | ub => cases h

theorem isOk_assignSet {sys : Sys K V Q} {dst cap : Nat} {build : SM K Unit Q Unit} (h : isOk (assignSet E sys dst cap build) = true) :
    isOk (build ⟨Raw.new cap, sys.w.toUnit⟩) = true := by
  unfold assignSet at h
  generalize build ⟨Raw.new cap, sys.w.toUnit⟩ = r at h ⊢
  cases r with
  | ok a s => rfl
  | panic c s => cases h
  | ub => cases h

theorem cloneInto_build (E : Env K V Q) {w : Obj K V → Nat} (hv : HV E w) {src : Raw K V} {l} (hrep : Rep src l)
    (w0 : World K V Q) :
    BuildOk (fun _ => True) w ⟨Raw.new src.cap, w0⟩ 0 (cloneInto E src ⟨Raw.new src.cap, w0⟩) :=
  BuildOk.of_cons (cloneInto_cons E (fun _ => trivial) hv src _) (fun _ _ h =>
    live_dead w (Sat.panic_of (EqClone.cloneInto_sat E hrep (s := ⟨Raw.new src.cap, w0⟩) (EqClone.Fresh.new _) rfl) h).2.2.1)

theorem from_iter_build (E : Env K V Q) {w : Obj K V → Nat} (hv : HV E w) (pulls : Bool) (xs : List (K × V)) (cap : Nat)
    (w0 : World K V Q) :
    BuildOk (fun _ => True) w ⟨Raw.new cap, w0⟩ (wpairs w xs) (from_iter E pulls xs ⟨Raw.new cap, w0⟩) :=
  BuildOk.of_cons (from_iter_cons E hv pulls xs _) (fun _ _ h =>
    live_dead w (scratch_dead E (opInv_extendLoop E pulls xs) (opG_extendLoop E pulls xs) (Inv.new E _) (NoGarb.new _) h))

theorem subInto_build {K Q : Type} (F : Env K Unit Q) {wu : Obj K Unit → Nat} (hw0 : ∀ u, wu (.v u) = 0)
    {a b : Raw K Unit} {la lb : List (K × Unit)} (hra : Rep a la) (hrb : Rep b lb) (w0 : World K Unit Q) :
    BuildOk (fun _ => True) wu ⟨Raw.new a.cap, w0⟩ 0 (subInto F a b ⟨Raw.new a.cap, w0⟩) := by
  have hG : OpG (do
      let it ← iterStartR a
      subLoop F a b (it.len + 1) it : SM K Unit Q Unit) :=
    OpG.bind (OpG.of_frame (frame_iterStartR _)) (fun it => opG_subLoop F _ _ _ it)
  exact BuildOk.of_cons (subInto_cons F (fun _ => trivial) hw0 _ _ _) (fun _ _ h =>
    live_dead _ (scratch_dead F (opInv_subBody F hra hrb) hG (Inv.new _ _) (NoGarb.new _) h))

theorem deserialize_build (E : Env K V Q) {P : Event K V Q → Prop} [EvP P] {w : Obj K V → Nat} (hv : HV E w)
    (n : Option Nat) (l : List (K × V)) (cap : Nat) (w0 : World K V Q) :
    let toks : List (Tok K V) := .start n :: l.map (fun p => Tok.entry p.1 p.2) ++ [.fin]
    ∃ dec, DecOf E (isOk (deserializeInto E toks ⟨Raw.new cap, w0⟩)) w0.nextId l dec ∧
      BuildOk P w ⟨Raw.new cap, w0⟩ (wsum w dec) (deserializeInto E toks ⟨Raw.new cap, w0⟩) := by
  intro toks
  have hbal := deserializeInto_bal (P := P) E hv toks ⟨Raw.new cap, w0⟩
  rw [desEntries_serialized] at hbal
  cases hm : deserializeInto E toks ⟨Raw.new cap, w0⟩ with
  | ub => exact ⟨[], .stop _ _, trivial⟩
  | ok u s' => rw [hm] at hbal; exact hbal
  | panic c s' =>
    rw [hm] at hbal
    rcases hbal with hl | ⟨dec, hd, hb⟩
    · exact ⟨[], .stop _ _, Or.inl hl⟩
    · exact ⟨dec, hd, Or.inr ⟨hb, live_dead w
        (scratch_dead E (opInv_visitLoop E _) (opG_visitLoop E _) (Inv.new E cap) (NoGarb.new cap) hm)⟩⟩

theorem regsOk_mem {op : Op K V Q} (h : op.regsOk = true) :
    (∀ i ∈ (touched op).1, i < nRegs) ∧ (∀ i ∈ (touched op).2, i < nRegs) := by
  simpa only [Op.regsOk, Bool.and_eq_true, List.all_eq_true, decide_eq_true_eq] using h

theorem wsum_keys_unit (w : Obj K V → Nat) (ks : List K) :
    wsum (wU w) (ks.map Obj.k) = wsum w (ks.map Obj.k) := by
  induction ks with
  | nil => rfl
  | cons k ks ih => simp [ih]

theorem Op.owned_unit (w : Obj K V → Nat) (op : Op K V Q) : wsum w (op.owned .unit) = 0 := by
  cases op with
  | map reg mop => cases mop <;> rfl
  | umap reg uop => cases uop <;> rfl
  | _ => rfl

/-- **`stepCore` conserves**: for every safe operation on the registers that exist, in any world,
    for any user equality. -/
theorem stepCore_scons (hv : HV E w) (R : Render K V) {sys : Sys K V Q} (hs : SysInv E sys) (op : Op K V Q)
    (hsafe : op.safeApi = true) (hreg : op.regsOk = true) (hop : op.WOk w) :
    ∃ dec, op.DecOf E sys (isOk (stepCore E R sys op)) dec ∧
      SCons w (stepCore E R sys op) sys (wsum w op.inObjs + wsum w dec) (fun r => wsum w (op.owned r)) := by
  cases op with
  | inject j => exact ⟨[], rfl, WBal.refl _ _ 0⟩
  | endCase => exact ⟨[], rfl, WBal.refl _ _ 0⟩
  | map reg mop =>
    have hr : reg < nRegs := (regsOk_mem hreg).1 reg (by cases mop <;> exact List.mem_cons_self ..)
    by_cases hsl : mop.atSys = false
    · refine ⟨[], (by cases mop <;> first | rfl | cases hsl), ?_⟩
      rw [stepCore_map E R sys reg hsl]
      exact runOnMap_scons hr (stepMapOp_cons (P := fun _ => True) E hv R sys.maps mop hsafe hsl hop (hs.1 reg))
    · cases mop with
      | clone_to dst =>
        have hd : dst < nRegs := (regsOk_mem hreg).1 dst (by simp [touched])
        refine ⟨[], rfl, ?_⟩
        obtain ⟨l, hrep, _⟩ := hs.1 reg
        rw [stepCore_map_clone_to]
        exact (assignMap_scons E hv hs hd (cloneInto_build E hv hrep _)).map _ rfl (fun _ => Op.owned_unit w _)
      | from_iter pulls xs =>
        refine ⟨[], rfl, ?_⟩
        rw [stepCore_map_from_iter]
        exact (assignMap_scons E hv hs hr (from_iter_build E hv pulls xs _ _)).map _ (by simp [Op.inObjs, MapOp.inObjs, Ledger2.wsum_pairObjs]) (fun _ => by simp [Op.owned, MapOp.owned])
      | serde dst =>
        have hd : dst < nRegs := (regsOk_mem hreg).1 dst (by simp [touched])
        obtain ⟨hrep, _⟩ := (hs.1 reg).abs
        rw [stepCore_map_serde E R sys reg dst (serializeR_ok hrep _), isOk_mapVal]
        obtain ⟨dec, hdec, hb⟩ := deserialize_build E (P := fun _ => True) hv (some (sys.maps reg).abs.length)
          (sys.maps reg).abs (sys.maps dst).cap sys.w
        refine ⟨dec, hdec.of_imp (isOk_assignMap E), ?_⟩
        refine (assignMap_scons E hv hs hd hb).map _ (by simp [Op.inObjs, MapOp.inObjs]) (fun _ => ?_)
        simp [Op.owned, MapOp.owned, tokSummary]
      | _ => exact absurd rfl hsl
  | set reg sop =>
    have hr : reg < nRegs := (regsOk_mem hreg).2 reg (by cases sop <;> exact List.mem_cons_self ..)
    by_cases hsl : sop.atSys = false
    · refine ⟨[], (by cases sop <;> first | rfl | cases hsl), ?_⟩
      rw [stepCore_set E R sys reg hsl]
      have h1 := runOnSet_scons hr (stepSetOp_cons (PU := fun _ => True) E.toUnit (fun _ => rfl) R.toUnit sys.sets sop hsl (hs.2 reg)) (w := w)
      have e1 : wsum (wU w) (sop.inKeys.map Obj.k) = wsum w (Op.set reg sop : Op K V Q).inObjs + wsum w [] := by
        simp [Op.inObjs, wsum_keys_unit]
      exact h1.map RV.castU e1 (fun a => owned_castU w a)
    · cases sop with
      | clone_to dst =>
        have hd : dst < nRegs := (regsOk_mem hreg).2 dst (by simp [touched])
        refine ⟨[], rfl, ?_⟩
        obtain ⟨l, hrep, _⟩ := hs.2 reg
        rw [stepCore_set_clone_to]
        exact (assignSet_scons E hs hd (cloneInto_build E.toUnit (hv_unit E w) hrep _)).map _ rfl (fun _ => Op.owned_unit w _)
      | from_iter pulls xs =>
        refine ⟨[], rfl, ?_⟩
        rw [stepCore_set_from_iter]
        exact (assignSet_scons E hs hr (from_iter_build E.toUnit (hv_unit E w) pulls _ _ _)).map _ (by rw [wpairs_unit_keys (fun _ => rfl)]; simp [Op.inObjs, SetOp.inKeys, wsum_keys_unit]) (fun _ => by simp [Op.owned])
      | sub o dst =>
        have hd : dst < nRegs := (regsOk_mem hreg).2 dst (by simp [touched])
        refine ⟨[], rfl, ?_⟩
        obtain ⟨la, hra, _⟩ := hs.2 reg
        obtain ⟨lb, hrb, _⟩ := hs.2 o
        rw [stepCore_set_sub]
        exact (assignSet_scons E hs hd (subInto_build E.toUnit (fun _ => rfl) hra hrb _)).map _ rfl (fun _ => Op.owned_unit w _)
      | extend_from o =>
        have ho : o < nRegs := (regsOk_mem hreg).2 o (by simp [touched])
        refine ⟨[], rfl, ?_⟩
        by_cases hne : o = reg
        · subst hne
          rw [stepCore_set_extend_from_self]
          exact (WBal.refl _ (sysLive w sys) 0).of_eq (by simp [Op.inObjs, SetOp.inKeys, Op.owned])
        · rw [stepCore_set_extend_from E R sys reg hne]
          exact (extendFrom_scons E (w := w) (sys := sys) hr ho hne).map _ rfl (fun _ => Op.owned_unit w _)
      | serde dst =>
        have hd : dst < nRegs := (regsOk_mem hreg).2 dst (by simp [touched])
        obtain ⟨hrep, _⟩ := (hs.2 reg).abs
        rw [stepCore_set_serde E R sys reg dst (serializeR_ok hrep _), isOk_mapVal]
        obtain ⟨du, hdec, hb⟩ := deserialize_build E.toUnit (P := fun _ => True) (hv_unit E w)
          (some (sys.sets reg).abs.length) (sys.sets reg).abs (sys.sets dst).cap sys.w.toUnit
        have hmerge : sys.w.mergeUnit sys.w.toUnit = sys.w := by
          cases hw : sys.w; simp [World.mergeUnit, World.toUnit]
        rw [hmerge]
        refine ⟨du.filterMap objFromUnit, ⟨du, hdec.of_imp (isOk_assignSet E), rfl⟩, ?_⟩
        rw [wsum_fromUnit]
        refine (assignSet_scons E hs hd hb).map _ (by simp [Op.inObjs, SetOp.inKeys]) (fun _ => ?_)
        simp [Op.owned, tokSummary, RV.castU, RV.castU.castUL]
      | _ => exact absurd rfl hsl
  | umap reg uop =>
    have hr : reg < nRegs := (regsOk_mem hreg).2 reg (by cases uop <;> exact List.mem_cons_self ..)
    refine ⟨[], rfl, ?_⟩
    by_cases hsl : uop.atSys = false
    · rw [stepCore_umap E R sys reg hsl]
      have h1 := runOnSet_scons hr (stepMapOp_unit_cons (PU := fun _ => True) E R.toUnit sys.sets reg uop hsafe hsl (hs.2 reg) (w := w))
      exact h1.map RV.castU (by simp [Op.inObjs, MapOp.atSys_eq, hsl]) (fun a => rfl)
    · have hsl' : uop.atSys = true := by simpa using hsl
      rw [stepCore_umap_atSys E R sys reg hsl']
      exact (WBal.refl _ (sysLive w sys) 0).of_eq (by simp [Op.inObjs, MapOp.atSys_eq, hsl', Op.owned_unit])

/-- the state `step` hands to `stepCore`: the event log is per step. -/
def sys0 (sys : Sys K V Q) : Sys K V Q := { sys with w := { sys.w with events := [] } }

theorem step_generic (R : Render K V) (sys : Sys K V Q) (op : Op K V Q) (h1 : ∀ j, op ≠ .inject j) (h2 : op ≠ .endCase) :
    match stepCore E R (sys0 sys) op with
    | .ok r s => (step E R sys op).1 = { s with w := { s.w with inject := none } } ∧
        (step E R sys op).2.outcome = .ok ∧ (step E R sys op).2.ret = r ∧ (step E R sys op).2.events = s.w.events
    | .panic c s => (step E R sys op).1 = { s with w := { s.w with inject := none } } ∧
        (step E R sys op).2.outcome = .panic c ∧ (step E R sys op).2.ret = .unit ∧
        (step E R sys op).2.events = s.w.events
    | .ub => (step E R sys op).2.outcome = .ub := by
  unfold sys0
  rw [step_eq_stepOut E R sys h1 h2]
  cases stepCore E R _ op with
  | ok r s => exact ⟨rfl, rfl, rfl, rfl⟩
  | panic c s => exact ⟨rfl, rfl, rfl, rfl⟩
  | ub => rfl

theorem Op.decOf_sys0 {sys : Sys K V Q} {op : Op K V Q} {full dec} (h : op.DecOf E (sys0 sys) full dec) :
    op.DecOf E sys full dec := h

/-- the ledger equation of one step. -/
def StepEq (w : Obj K V → Nat) (sys : Sys K V Q) (op : Op K V Q) (sys' : Sys K V Q) (out : Out K V Q)
    (dec lk : List (Obj K V)) : Prop :=
  sysLive w sys + wsum w op.inObjs + wsum w (createdOf out.events) + wsum w dec =
    sysLive w sys' + wsum w (op.owned out.ret) + wsum w (droppedOf out.events) + wsum w lk

/-- with no fault armed the drop returns: it unwinds only by an injected panic. -/
theorem dropMapReg (hv : HV E w) {sys : Sys K V Q} (hs : SysInv E sys) (hinj : sys.w.inject = none) {i : Nat}
    (hi : i < nRegs) :
    ∃ s1, runOnMap sys i (dropAndRenew E) = .ok () s1 ∧ SBal w sys s1 0 0 ∧ SysInv E s1 ∧ s1.sets = sys.sets ∧
      s1.maps = updReg sys.maps i (Raw.new (sys.maps i).cap) := by
  have hd := dropAndRenew_cons (P := fun _ => True) (w := w) (pown := none) E hv ⟨sys.maps i, sys.w⟩
  have hinv := runOnMap_inv E (opInv_drop E) hs i
  obtain ⟨l, hrep, _⟩ := hs.1 i
  unfold runOnMap at hinv ⊢
  cases hm : dropAndRenew E ⟨sys.maps i, sys.w⟩ with
  | ub => rw [hm] at hinv; exact hinv.elim
  | panic c s => exact absurd hinj (hd.inj_of hm).2
  | ok a s =>
    rw [hm] at hinv
    have hr : s.r = Raw.new (sys.maps i).cap := Sat.ok_of (dropAndRenew_sat E (s := ⟨sys.maps i, sys.w⟩) hrep) hm
    exact ⟨_, rfl, Bal.toSysMap hi (hd.ok_of hm), hinv, rfl, by simp only [hr]⟩

theorem dropSetReg {sys : Sys K V Q} (hs : SysInv E sys) (hinj : sys.w.inject = none) {i : Nat} (hi : i < nRegs) :
    ∃ s1, runOnSet sys i (dropAndRenew E.toUnit) = .ok () s1 ∧ SBal w sys s1 0 0 ∧ SysInv E s1 ∧ s1.maps = sys.maps ∧
      s1.sets = updReg sys.sets i (Raw.new (sys.sets i).cap) := by
  have hd := dropAndRenew_cons (P := fun _ => True) (w := wU w) (pown := none) E.toUnit (hv_unit E w)
    ⟨sys.sets i, sys.w.toUnit⟩
  have hinv := runOnSet_inv E (opInv_drop E.toUnit) hs i
  obtain ⟨l, hrep, _⟩ := hs.2 i
  unfold runOnSet at hinv ⊢
  cases hm : dropAndRenew E.toUnit ⟨sys.sets i, sys.w.toUnit⟩ with
  | ub => rw [hm] at hinv; exact hinv.elim
  | panic c s => exact absurd hinj (hd.inj_of hm).2
  | ok a s =>
    rw [hm] at hinv
    have hr : s.r = Raw.new (sys.sets i).cap :=
      Sat.ok_of (dropAndRenew_sat E.toUnit (s := ⟨sys.sets i, sys.w.toUnit⟩) hrep) hm
    exact ⟨_, rfl, Bal.toSysSet hi (hd.ok_of hm), hinv, rfl, by simp only [hr]⟩

/-- **`endCase`**: with no fault armed, dropping all registers returns; the balance is exact, and
    afterwards every register is a fresh `new()`: no slot is live and nothing is unreachable. -/
theorem dropAllRegs_bal (hv : HV E w) {sys : Sys K V Q} (hs : SysInv E sys) (hinj : sys.w.inject = none) :
    ∃ s', dropAllRegs E sys = .ok () s' ∧ SBal w sys s' 0 0 ∧ sysLive w s' = 0 ∧ allGarbage s' = [] := by
  obtain ⟨s1, r1, b1, i1, hs1, hm1⟩ := dropMapReg E hv hs hinj (i := 0) (by decide)
  obtain ⟨s2, r2, b2, i2, hs2, hm2⟩ := dropMapReg E hv i1 (WBal.inj_none b1 hinj) (i := 1) (by decide)
  have b12 := WBal.trans b1 b2
  obtain ⟨s3, r3, b3, i3, hm3, hs3⟩ := dropSetReg (w := w) E i2 (WBal.inj_none b12 hinj) (i := 0) (by decide)
  have b13 := WBal.trans b12 b3
  obtain ⟨s4, r4, b4, _, hm4, hs4⟩ := dropSetReg (w := w) E i3 (WBal.inj_none b13 hinj) (i := 1) (by decide)
  refine ⟨s4, ?_, WBal.trans b13 b4, ?_, ?_⟩
  · simp only [dropAllRegs, nRegs, dropAllRegs.goM, dropAllRegs.goS, r1, r2, r3, r4]
  · simp [sysLive, hm4, hm3, hm2, hm1, hs4, hs3, updReg]
  · simp [allGarbage, hm4, hm3, hm2, hm1, hs4, hs3, updReg, (NoGarb.new _).garbage]

/-- the state `endCase` starts its drops from: per-step event log, no fault armed. -/
def sysE (sys : Sys K V Q) : Sys K V Q := { sys with w := { sys.w with events := [], inject := none } }

/-- **`endCase`**: the step returns, every register is empty afterwards, and `Out.leaks` is exactly
    `World.leaked` (nothing is unreachable in a fresh register). -/
theorem step_endCase (hv : HV E w) (R : Render K V) {sys : Sys K V Q} (hs : SysInv E sys) :
    (step E R sys .endCase).2.outcome = .ok ∧ (step E R sys .endCase).2.ret = .unit ∧
    sysLive w (step E R sys .endCase).1 = 0 ∧
    (step E R sys .endCase).2.leaks = (step E R sys .endCase).1.w.leaked ∧
    SBal w (sysE sys) (step E R sys .endCase).1 0 0 ∧
    (step E R sys .endCase).2.events = (step E R sys .endCase).1.w.events := by
  obtain ⟨s', h, hb, hl, hg⟩ := dropAllRegs_bal (w := w) E hv (sys := sysE sys) hs rfl
  unfold sysE at h
  simp only [step, h]
  exact ⟨trivial, trivial, hl, by simp [hg], hb, trivial⟩

/-- the ledger equation of a step, from the balance of what the step runs on the per-step state `sys1`
    (`sys0` / `sysE`) and ends in `s`, the step itself ending in `s'` (`s` with the fault disarmed). -/
theorem StepEq.of_sbal {sys sys1 s s' : Sys K V Q} {op : Op K V Q} {out : Out K V Q} {dec : List (Obj K V)} {o : Nat}
    (hb : SBal w sys1 s (wsum w op.inObjs + wsum w dec) o)
    (h1 : sysLive w sys1 = sysLive w sys) (hl1 : sys1.w.leaked = sys.w.leaked) (he1 : sys1.w.events = [])
    (ho : wsum w (op.owned out.ret) = o) (hev : out.events = s.w.events)
    (hs : sysLive w s' = sysLive w s) (hl : s'.w.leaked = s.w.leaked) :
    ∃ lk, s'.w.leaked = sys.w.leaked ++ lk ∧ StepEq w sys op s' out dec lk := by
  obtain ⟨ev, lk, hx, heq⟩ := hb
  refine ⟨lk, by rw [hl, hx.leaked, hl1], ?_⟩
  unfold StepEq
  rw [hev, hx.events, he1, List.nil_append, ho, hs]
  omega

/-- **One step of the system conserves objects** — `Micromap.step`, the model's transition function, on
    any safe operation over the registers that exist, in any world, for any user equality: the step
    does not reach `ub`, keeps the invariant, and EITHER it unwound from an injected panic (a fault
    was armed) OR the ledger equation `StepEq` holds exactly, with `lk` the suffix `World.leaked`
    grew by and `dec` the decode results of the step. -/
theorem step_scons (hv : HV E w) (R : Render K V) {sys : Sys K V Q} (hs : SysInv E sys) (op : Op K V Q)
    (hsafe : op.safeApi = true) (hreg : op.regsOk = true) (hop : op.WOk w) :
    (step E R sys op).2.outcome ≠ .ub ∧ SysInv E (step E R sys op).1 ∧
    (((step E R sys op).2.outcome = .panic .inject ∧ sys.w.inject ≠ none) ∨
      ∃ lk dec, (step E R sys op).1.w.leaked = sys.w.leaked ++ lk ∧
        op.DecOf E sys ((step E R sys op).2.outcome == .ok) dec ∧
        StepEq w sys op (step E R sys op).1 (step E R sys op).2 dec lk) := by
  have hinv := step_inv E R hs op hsafe
  refine ⟨hinv.1, hinv.2, ?_⟩
  by_cases hj : ∃ j, op = .inject j
  · obtain ⟨j, rfl⟩ := hj
    refine Or.inr ⟨[], [], by simp [step], rfl, ?_⟩
    simp [StepEq, step, Op.inObjs, Op.owned, createdOf, droppedOf, sysLive]
  by_cases he : op = .endCase
  · subst he
    obtain ⟨_, h2, _, _, hb, h6⟩ := step_endCase (w := w) E hv R hs
    obtain ⟨lk, hl, he⟩ := StepEq.of_sbal (sys := sys) (op := .endCase) (out := (step E R sys .endCase).2) (dec := [])
      hb rfl rfl rfl (by rw [h2]; rfl) h6 rfl rfl
    exact Or.inr ⟨lk, [], hl, rfl, he⟩
  · have hgen := step_generic E R sys op (fun j h => hj ⟨j, h⟩) he
    obtain ⟨dec, hdec, hsc⟩ := stepCore_scons (w := w) E hv R (sys := sys0 sys) hs op hsafe hreg hop
    generalize stepCore E R (sys0 sys) op = res at hgen hsc hdec
    cases res with
    | ub => exact absurd hgen hinv.1
    | ok r s =>
      obtain ⟨g1, g2, g3, g4⟩ := hgen
      obtain ⟨lk, hl, he⟩ := StepEq.of_sbal (s' := (step E R sys op).1) (out := (step E R sys op).2) hsc rfl rfl rfl (by rw [g3]) g4 (by rw [g1]; rfl) (by rw [g1])
      exact Or.inr ⟨lk, dec, hl, by rw [g2]; exact hdec, he⟩
    | panic c s =>
      obtain ⟨g1, g2, g3, g4⟩ := hgen
      rcases hsc with ⟨hc, ha⟩ | hb
      · exact Or.inl ⟨by rw [g2, hc], ha⟩
      · obtain ⟨lk, hl, he⟩ := StepEq.of_sbal (s' := (step E R sys op).1) (out := (step E R sys op).2) hb rfl rfl rfl
          (by rw [g3, Op.owned_unit]) g4 (by rw [g1]; rfl) (by rw [g1])
        exact Or.inr ⟨lk, dec, hl, by rw [g2]; exact hdec, he⟩

theorem step_world (R : Render K V) {sys : Sys K V Q} (hs : SysInv E sys) (op : Op K V Q)
    (hsafe : op.safeApi = true) (hne : ∀ j, op ≠ .inject j) : (step E R sys op).1.w.inject = none := by
  by_cases he : op = .endCase
  · subst he
    -- only the world part of the balance is used: any weighting serves
    exact WBal.inj_none (step_endCase (w := fun _ => 0) E (Or.inr fun _ => rfl) R hs).2.2.2.2.1 rfl
  · have hgen := step_generic E R sys op hne he
    have hub := (step_inv E R hs op hsafe).1
    generalize stepCore E R (sys0 sys) op = res at hgen
    cases res with
    | ub => exact absurd hgen hub
    | ok r s => rw [hgen.1]
    | panic c s => rw [hgen.1]

theorem run_cons_fst (R : Render K V) (sys : Sys K V Q) (op : Op K V Q) (ops : List (Op K V Q)) :
    (run E R sys (op :: ops)).1 = (run E R (step E R sys op).1 ops).1 := rfl

theorem run_cons_snd (R : Render K V) (sys : Sys K V Q) (op : Op K V Q) (ops : List (Op K V Q)) :
    (run E R sys (op :: ops)).2 = (step E R sys op).2 :: (run E R (step E R sys op).1 ops).2 := rfl

/-- everything the operation texts of a history carry. -/
def runIn (ops : List (Op K V Q)) : List (Obj K V) := ops.flatMap Op.inObjs

/-- the clone results of all steps. -/
def runCreated (outs : List (Out K V Q)) : List (Obj K V) := outs.flatMap fun o => createdOf o.events

/-- the drop log of all steps. -/
def runDropped (outs : List (Out K V Q)) : List (Obj K V) := outs.flatMap fun o => droppedOf o.events

/-- what the caller owns of the results of all steps. -/
def runOwned (ops : List (Op K V Q)) (outs : List (Out K V Q)) : List (Obj K V) :=
  (ops.zip outs).flatMap fun p => p.1.owned p.2.ret

/-- the decode results of all steps of a history (`Op.DecOf` at every step, on the state the step
    starts from). -/
def DecRun (E : Env K V Q) (R : Render K V) : Sys K V Q → List (Op K V Q) → List (Obj K V) → Prop
  | _, [], dec => dec = []
  | sys, op :: ops, dec => ∃ d1 d2, dec = d1 ++ d2 ∧
      op.DecOf E sys ((step E R sys op).2.outcome == .ok) d1 ∧ DecRun E R (step E R sys op).1 ops d2

/-- some step of the history unwound from an injected panic (a fault was armed when it started). -/
def InjectedRun (E : Env K V Q) (R : Render K V) : Sys K V Q → List (Op K V Q) → Prop
  | _, [] => False
  | sys, op :: ops => ((step E R sys op).2.outcome = .panic .inject ∧ sys.w.inject ≠ none) ∨
      InjectedRun E R (step E R sys op).1 ops

/-- the ledger equation of a history. -/
def RunEq (w : Obj K V → Nat) (sys : Sys K V Q) (ops : List (Op K V Q)) (sysF : Sys K V Q) (outs : List (Out K V Q))
    (dec lk : List (Obj K V)) : Prop :=
  sysLive w sys + wsum w (runIn ops) + wsum w (runCreated outs) + wsum w dec =
    sysLive w sysF + wsum w (runOwned ops outs) + wsum w (runDropped outs) + wsum w lk

/-- **Every history**, any world: either some step unwound from an injected panic, or the ledger
    equation holds for the whole history. -/
theorem run_bal (hv : HV E w) (R : Render K V) (ops : List (Op K V Q)) (sys : Sys K V Q) (hs : SysInv E sys)
    (hops : ∀ op ∈ ops, op.safeApi = true ∧ op.regsOk = true ∧ op.WOk w) :
    InjectedRun E R sys ops ∨
      ∃ lk dec, (run E R sys ops).1.w.leaked = sys.w.leaked ++ lk ∧ DecRun E R sys ops dec ∧
        RunEq w sys ops (run E R sys ops).1 (run E R sys ops).2 dec lk := by
  induction ops generalizing sys with
  | nil => exact Or.inr ⟨[], [], by simp [run], rfl, by simp [RunEq, run, runIn, runCreated, runOwned, runDropped]⟩
  | cons op ops ih =>
    obtain ⟨h1, h2, h3⟩ := hops op (List.mem_cons_self ..)
    obtain ⟨_, hs1, hstep⟩ := step_scons (w := w) E hv R hs op h1 h2 h3
    rcases hstep with hinj | ⟨lk1, d1, hl1, hd1, he1⟩
    · exact Or.inl (Or.inl hinj)
    · rcases ih (step E R sys op).1 hs1 (fun o ho => hops o (List.mem_cons_of_mem _ ho)) with
        hinj | ⟨lk2, d2, hl2, hd2, he2⟩
      · exact Or.inl (Or.inr hinj)
      · refine Or.inr ⟨lk1 ++ lk2, d1 ++ d2, ?_, ⟨d1, d2, rfl, hd1, hd2⟩, ?_⟩
        · rw [run_cons_fst, hl2, hl1, List.append_assoc]
        · unfold RunEq StepEq at *
          rw [run_cons_fst, run_cons_snd]
          simp only [runIn, runCreated, runDropped, runOwned, List.flatMap_cons, List.zip_cons_cons, wsum_append] at he1 he2 ⊢
          omega

theorem not_injectedRun (R : Render K V) : ∀ (ops : List (Op K V Q)) (sys : Sys K V Q), SysInv E sys →
    sys.w.inject = none → (∀ op ∈ ops, op.safeApi = true ∧ ∀ j, op ≠ .inject j) → ¬ InjectedRun E R sys ops
  | [], _, _, _, _ => fun h => h
  | op :: ops, sys, hs, hinj, hops => by
    obtain ⟨h1, h2⟩ := hops op (List.mem_cons_self ..)
    intro h
    rcases h with ⟨_, ha⟩ | h
    · exact ha hinj
    · exact not_injectedRun R ops _ (step_inv E R hs op h1).2 (step_world E R hs op h1 h2)
        (fun o ho => hops o (List.mem_cons_of_mem _ ho)) h

theorem injectedRun_out (R : Render K V) : ∀ (ops : List (Op K V Q)) (sys : Sys K V Q), InjectedRun E R sys ops →
    ∃ o ∈ (run E R sys ops).2, o.outcome = .panic .inject
  | [], _, h => h.elim
  | op :: ops, sys, h => by
    rw [run_cons_snd]
    rcases h with ⟨h, _⟩ | h
    · exact ⟨_, List.mem_cons_self .., h⟩
    · obtain ⟨o, ho, h'⟩ := injectedRun_out R ops _ h
      exact ⟨o, List.mem_cons_of_mem _ ho, h'⟩

theorem run_append (R : Render K V) : ∀ (a b : List (Op K V Q)) (sys : Sys K V Q),
    (run E R sys (a ++ b)).1 = (run E R (run E R sys a).1 b).1 ∧
    (run E R sys (a ++ b)).2 = (run E R sys a).2 ++ (run E R (run E R sys a).1 b).2
  | [], b, sys => ⟨rfl, rfl⟩
  | op :: a, b, sys => by
    have ih := run_append R a b (step E R sys op).1
    simp only [List.cons_append, run_cons_fst, run_cons_snd, ih.1, ih.2, List.cons_append]
    exact ⟨trivial, trivial⟩

theorem run_endCase (hv : HV E w) (R : Render K V) {sys : Sys K V Q} (hs : SysInv E sys) (ops : List (Op K V Q))
    (hops : ∀ op ∈ ops, op.safeApi = true) :
    let last := step E R (run E R sys ops).1 .endCase
    (run E R sys (ops ++ [.endCase])).1 = last.1 ∧ (run E R sys (ops ++ [.endCase])).2.getLast? = some last.2 ∧
      last.2.outcome = .ok ∧ sysLive w last.1 = 0 ∧ last.2.leaks = last.1.w.leaked := by
  obtain ⟨e1, e2⟩ := run_append E R ops [.endCase] sys
  obtain ⟨g1, _, g3, g4, _, _⟩ := step_endCase (w := w) E hv R (run_inv E R ops _ hs hops).2
  refine ⟨e1, ?_, g1, g3, g4⟩
  rw [e2]
  exact List.getLast?_concat ..

theorem step_ret_panic (R : Render K V) (sys : Sys K V Q) (op : Op K V Q) {c : PanicClass}
    (h : (step E R sys op).2.outcome = .panic c) : (step E R sys op).2.ret = .unit := by
  by_cases hj : ∃ j, op = .inject j
  · obtain ⟨j, rfl⟩ := hj
    simp [step] at h
  by_cases he : op = .endCase
  · subst he
    simp only [step] at h ⊢
    cases dropAllRegs E _ <;> rfl
  · have hgen := step_generic E R sys op (fun j h => hj ⟨j, h⟩) he
    generalize stepCore E R (sys0 sys) op = res at hgen
    cases res with
    | ub => rw [hgen] at h; cases h
    | ok r s => rw [hgen.2.1] at h; cases h
    | panic c' s => exact hgen.2.2.1

theorem sysLive_init (w : Obj K V → Nat) (capM capS : Nat → Nat) (w0 : World K V Q) :
    sysLive w (Sys.init capM capS w0) = 0 := by
  simp [sysLive, Sys.init]

/-- `run_bal` from `Sys.init`, where nothing is live, with the equation written out. -/
theorem run_bal_init (hv : HV E w) (R : Render K V) (capM capS : Nat → Nat) (w0 : World K V Q) (ops : List (Op K V Q))
    (hops : ∀ op ∈ ops, op.safeApi = true ∧ op.regsOk = true ∧ op.WOk w) :
    InjectedRun E R (Sys.init capM capS w0) ops ∨
    ∃ lk dec, (run E R (Sys.init capM capS w0) ops).1.w.leaked = w0.leaked ++ lk ∧
      DecRun E R (Sys.init capM capS w0) ops dec ∧
      wsum w (runIn ops) + wsum w (runCreated (run E R (Sys.init capM capS w0) ops).2) + wsum w dec =
        sysLive w (run E R (Sys.init capM capS w0) ops).1 +
          wsum w (runOwned ops (run E R (Sys.init capM capS w0) ops).2) +
          wsum w (runDropped (run E R (Sys.init capM capS w0) ops).2) + wsum w lk := by
  rcases run_bal (w := w) E hv R ops _ (SysInv.init E capM capS w0) hops with hinj | ⟨lk, dec, hl, hd, he⟩
  · exact Or.inl hinj
  · refine Or.inr ⟨lk, dec, hl, hd, ?_⟩
    unfold RunEq at he
    rw [sysLive_init, Nat.zero_add] at he
    exact he

/-- the user closures of the operation leave the values they are shown as they are. -/
def _root_.Micromap.MapOp.NoWrite : MapOp K V Q → Prop
  | .retain f => ∀ n k v, (f n k v).2 = v
  | .get_mut _ g => ∀ v, g v = v
  | .index_mut _ g => ∀ v, g v = v
  | .entry _ mods fin => (∀ g ∈ mods, ∀ v, g v = v) ∧
      (match fin with | .occ_get_mut g => ∀ v, g v = v | _ => True)
  | .iter kind g _ => (kind = .iter_mut ∨ kind = .values_mut) → ∀ v, g v = v
  | .get_disjoint_mut _ g _ => ∀ v, g v = v
  | _ => True

def _root_.Micromap.Op.NoWrite : Op K V Q → Prop
  | .map _ op => op.NoWrite
  | _ => True

theorem Op.WOk_of_noWrite (w : Obj K V → Nat) (op : Op K V Q) (h : op.NoWrite) : op.WOk w := by
  cases op with
  | map reg mop =>
    cases mop with
    | retain f => exact fun n k v => by rw [h n k v]
    | get_mut pr g => exact fun v => by rw [h v]
    | index_mut pr g => exact fun v => by rw [h v]
    | iter kind g script => exact fun hk v => by rw [h hk v]
    | get_disjoint_mut u g ks => exact fun v => by rw [h v]
    | entry k mods fin =>
      refine ⟨fun g hg v => by rw [h.1 g hg v], ?_⟩
      cases fin with
      | occ_get_mut g => exact fun v => by rw [h.2 v]
      | _ => exact trivial
    | _ => exact trivial
  | _ => exact trivial

end Micromap.OwnSys
