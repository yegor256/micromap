/-
`Deserialize` of an ARBITRARY token stream (entries in any order, repeated keys allowed — a
stream no `Serialize` of the crate writes, but any other producer may): the visitor loop
`while let Some((k, v)) = access.next_entry()? { m.insert(k, v); }` holds exactly the fold of
single inserts (`FromIter.foldInsert`) of the decoded copies of the entries, in stream order;
when the distinct keys do not fit it panics with the overflow class at the first surplus entry.
-/
import Micromap.Proofs.Serde
import Micromap.Proofs.FromIter
import Micromap.Proofs.OwnAlg

namespace Micromap.Serde
open SetAlg EqClone FromIter
variable {K V Q : Type} (E : Env K V Q)

/-- how far one entry advances the fresh-object counter: the key always, the value only when
    `V` is not `()` (`decodeV`). -/
def decStep : Nat := if E.vGlue then 2 else 1

/-- `V::deserialize` at counter `n`: a fresh copy, or the value itself for `V = ()`. -/
def decV (n : Nat) (v : V) : V := if E.vGlue then E.clV n v else v

/-- the decoded copies of the entries `xs`, the fresh-object counter standing at `n` when the
    first entry is decoded: key at `n`, value (if any) at `n + 1`, next entry at `n + decStep`. -/
def decodedFrom : Nat → List (K × V) → List (K × V)
  | _, [] => []
  | n, (k, v) :: rest => (E.clK n k, decV E (n + 1) v) :: decodedFrom (n + decStep E) rest

/-- the state after `decodeK` and `decodeV` of one entry: only the counter moved. -/
def afterDec (s : St K V Q) : St K V Q :=
  ⟨s.r, { s.w with nextId := s.w.nextId + decStep E }⟩

theorem decodedFrom_length (n : Nat) (xs : List (K × V)) : (decodedFrom E n xs).length = xs.length := by
  fun_induction decodedFrom E n xs with
  | case1 => rfl
  | case2 n k v rest ih => simp [ih]

theorem decodedFrom_getElem : ∀ (xs : List (K × V)) (n i : Nat) (hi : i < xs.length),
    (decodedFrom E n xs)[i]'(by rw [decodedFrom_length]; exact hi) =
      (E.clK (n + i * decStep E) xs[i].1, decV E (n + i * decStep E + 1) xs[i].2)
  | (k, v) :: rest, n, 0, _ => by simp [decodedFrom]
  | (k, v) :: rest, n, i + 1, hi => by
    have := decodedFrom_getElem rest (n + decStep E) i (by simpa using hi)
    simp only [decodedFrom, List.getElem_cons_succ, this]
    rw [Nat.succ_mul, Nat.add_assoc, Nat.add_comm (decStep E)]

theorem decode_pair {α : Type} (k : K) (v : V) (f : K → V → SM K V Q α) (s : St K V Q) :
    (decodeK E k >>= fun k' => decodeV E v >>= fun v' => f k' v') s =
      f (E.clK s.w.nextId k) (decV E (s.w.nextId + 1) v) (afterDec E s) := by
  simp only [bind_apply, decodeK_ok]
  unfold decodeV decV afterDec decStep
  cases E.vGlue <;> rfl

theorem afterDec_wrel (s : St K V Q) : WRel s.w (afterDec E s).w [] :=
  ⟨rfl, rfl, id, by simp [World.trace, afterDec]⟩

theorem visitLoop_entry (k : K) (v : V) (rest : List (Tok K V)) (s : St K V Q) :
    visitLoop E (.entry k v :: rest) s =
      (insert E (E.clK s.w.nextId k) (decV E (s.w.nextId + 1) v) >>= fun o =>
        match o with
          | some old => dropV E old >>= fun _ => visitLoop E rest
          | none => visitLoop E rest) (afterDec E s) := by
  rw [← decode_pair E k v (fun k' v' => insert E k' v' >>= fun o =>
        match o with
          | some old => dropV E old >>= fun _ => visitLoop E rest
          | none => visitLoop E rest) s]
  conv => lhs; unfold visitLoop
  rfl

theorem frameN_item (k : K) (v : V) :
    OwnSys.FrameN (insert E k v >>= fun o =>
      match o with
        | some old => dropV E old >>= fun _ => pure ()
        | none => pure ()) :=
  .bind (OwnSys.frameN_insert E k v) fun o => by
    cases o with
    | none => exact .pure _
    | some old => exact .bind (OwnSys.frameN_dropV E old) fun _ => .pure _

/-- **the visitor loop = inserting the decoded entries one by one.**  The effects are those of the
    single inserts (for a repeated key: drop of the decoded key, then of the displaced value).  At
    the first surplus decoded entry the loop unwinds with the overflow class: the container holds
    the fold of the decoded entries before it, and the surplus entry's value and key have been
    dropped. -/
theorem visitLoop_benign (hE : E.Pure) : ∀ (xs : List (K × V)) (s : St K V Q) (l0 : List (K × V)) (n : Nat),
    s.w.nextId = n → Rep s.r l0 → Benign s.w →
    match overflowAt E s.r.cap l0 (decodedFrom E n xs) with
    | none => ∃ s', visitLoop E (xs.map (fun p => Tok.entry p.1 p.2) ++ [.fin]) s = .ok () s' ∧
        Rep s'.r (foldInsert E l0 (decodedFrom E n xs)) ∧ s'.r.cap = s.r.cap ∧
        WRel s.w s'.w (itemsTrace E false l0 (decodedFrom E n xs)) ∧
        s'.w.nextId = n + xs.length * decStep E
    | some m => ∃ c s' k v, visitLoop E (xs.map (fun p => Tok.entry p.1 p.2) ++ [.fin]) s = .panic c s' ∧
        OverflowPanic s c ∧ (decodedFrom E n xs)[m]? = some (k, v) ∧
        Rep s'.r (foldInsert E l0 ((decodedFrom E n xs).take m)) ∧ s'.r.cap = s.r.cap ∧
        WRel s.w s'.w (itemsTrace E false l0 ((decodedFrom E n xs).take m) ++
          (dropVTr E v ++ [.dropK k]))
  | [], s, l0, n, hn, hr, _ => ⟨s, rfl, hr, rfl, WRel.refl _, by simpa using hn⟩
  | (k, v) :: rest, s, l0, n, hn, hr, hb => by
    subst hn
    have hr0 : Rep (afterDec E s).r l0 := hr
    have hb0 : Benign (afterDec E s).w := hb
    have hw0 := afterDec_wrel E s
    have hv := visitLoop_entry E k v (rest.map (fun p => Tok.entry p.1 p.2) ++ [.fin]) s
    simp only [decodedFrom, overflowAt, List.map_cons, List.cons_append]
    by_cases hov : findKey E l0 (.key (E.clK s.w.nextId k)) = none ∧ s.r.cap ≤ l0.length
    · rw [if_pos hov]
      obtain ⟨c, s2, hi, ho, hrr, hw⟩ := insert_surplus E hE hr0 hb0 _ (decV E (s.w.nextId + 1) v) hov
      exact ⟨c, s2, _, _, hv.trans (by rw [bind_apply, hi]), ho, rfl, hrr ▸ hr, by rw [hrr]; rfl,
        hw0.trans' hw rfl⟩
    · rw [if_neg hov]
      obtain ⟨s2, e2, hr2, hcap2, hw2⟩ := item_benign E (fun m => m) id hE hr0 hb0 _
        (decV E (s.w.nextId + 1) v) hov
      have hn2 : s2.w.nextId = s.w.nextId + decStep E := (frameN_item E _ _).of_ok (e2 (pure ()))
      have hcap2' : s2.r.cap = s.r.cap := hcap2
      have hw02 := hw0.trans hw2
      have ih := visitLoop_benign hE rest s2 _ (s.w.nextId + decStep E) hn2 hr2 (hw2.benign hb0)
      rw [hcap2'] at ih
      cases ho : overflowAt E s.r.cap (insertL E l0 (E.clK s.w.nextId k) (decV E (s.w.nextId + 1) v))
          (decodedFrom E (s.w.nextId + decStep E) rest) with
      | none =>
        rw [ho] at ih
        obtain ⟨s', h1, h2, h3, h4, h5⟩ := ih
        refine ⟨s', (hv.trans (e2 _)).trans h1, h2, h3, hw02.trans' h4 rfl, ?_⟩
        rw [h5, List.length_cons, Nat.succ_mul]; omega
      | some m' =>
        rw [ho] at ih
        obtain ⟨c, s', k1, v1, h1, h2, h3, h4, h5, h6⟩ := ih
        exact ⟨c, s', k1, v1, (hv.trans (e2 _)).trans h1, h2.after hw02, by simpa using h3, h4,
          h5, hw02.trans' h6 (by simp [itemsTrace, pullTr])⟩

/-- **deserialization of an arbitrary entry stream = inserting the decoded entries one by one
    into `new()`.**  `hfit` is stated as for `from_iter` (`C16.from_iter_eq_fold`): no decoded
    entry overflows. -/
theorem deserialize_eq_fold (hE : E.Pure) (a : Option Nat) (xs : List (K × V)) (cap : Nat)
    (w : World K V Q) (hb : Benign w)
    (hfit : overflowAt E cap [] (decodedFrom E w.nextId xs) = none) :
    ∃ s', deserializeInto E (.start a :: xs.map (fun p => Tok.entry p.1 p.2) ++ [.fin]) ⟨Raw.new cap, w⟩ =
        .ok () s' ∧
      Rep s'.r (foldInsert E [] (decodedFrom E w.nextId xs)) ∧ s'.r.cap = cap ∧
      WRel w s'.w (itemsTrace E false [] (decodedFrom E w.nextId xs)) ∧
      s'.w.nextId = w.nextId + xs.length * decStep E := by
  have h := visitLoop_benign E hE xs ⟨Raw.new cap, w⟩ [] w.nextId rfl (Rep.new cap) hb
  rw [show overflowAt E (⟨Raw.new cap, w⟩ : St K V Q).r.cap [] _ = none from hfit] at h
  obtain ⟨s', h1, h2, h3, h4, h5⟩ := h
  exact ⟨s', unwindWith_of_ok h1, h2, h3, h4, h5⟩

/-- **overflow.**  If decoded entry `m` is the first surplus one, deserialization unwinds with the
    overflow class, and the partially built local (the fold of the decoded entries before it) has
    been dropped — each of its entries exactly once, after the effects of the loop. -/
theorem deserialize_overflow' (hE : E.Pure) (a : Option Nat) (xs : List (K × V)) (cap : Nat)
    (w : World K V Q) (hb : Benign w) {m : Nat}
    (hov : overflowAt E cap [] (decodedFrom E w.nextId xs) = some m) :
    ∃ c s' k v, deserializeInto E (.start a :: xs.map (fun p => Tok.entry p.1 p.2) ++ [.fin]) ⟨Raw.new cap, w⟩ =
        .panic c s' ∧
      OverflowPanic (⟨Raw.new cap, w⟩ : St K V Q) c ∧ (decodedFrom E w.nextId xs)[m]? = some (k, v) ∧
      Dropped s'.r (foldInsert E [] ((decodedFrom E w.nextId xs).take m)) ∧ s'.r.cap = cap ∧
      WRel w s'.w ((itemsTrace E false [] ((decodedFrom E w.nextId xs).take m) ++
        (dropVTr E v ++ [.dropK k])) ++ dropTrace E (foldInsert E [] ((decodedFrom E w.nextId xs).take m))) := by
  have h := visitLoop_benign E hE xs ⟨Raw.new cap, w⟩ [] w.nextId rfl (Rep.new cap) hb
  rw [show overflowAt E (⟨Raw.new cap, w⟩ : St K V Q).r.cap [] _ = some m from hov] at h
  obtain ⟨c, s1, k, v, h1, h2, h3, h4, h5, h6⟩ := h
  obtain ⟨_, s2, hd, g1, g2, _, g4⟩ := (cleanup_dropMap E h4).must_return (fun _ _ h => h)
  exact ⟨c, _, k, v, unwindWith_of_panic h1 hd, h2, h3, g2, g1.trans h5, h6.trans g4⟩

theorem overflowAt_some_of_lt_fold (cap : Nat) (xs : List (K × V))
    (h : cap < (foldInsert E [] xs).length) : ∃ m, overflowAt E cap [] xs = some m :=
  Option.ne_none_iff_exists'.1 fun ho =>
    Nat.not_le_of_lt h ((overflowAt_none_iff_fold_le E cap xs).1 ho)

theorem clonesOf_decodedFrom (n : Nat) (l : List (K × V)) : ClonesOf E l (decodedFrom E n l) := by
  fun_induction decodedFrom E n l with
  | case1 => trivial
  | case2 n k v rest ih =>
    refine ⟨⟨⟨n, rfl⟩, ?_⟩, ih⟩
    show IsCloneV E v (decV E (n + 1) v)
    unfold IsCloneV decV
    split
    · exact ⟨_, rfl⟩
    · rfl

/-- **Round trip.**  Deserializing the serialization of a duplicate-free container into a local
    of capacity `cap ≥ len` returns a container holding the decoded copies of all entries: decoded
    keys equal their originals, so they are again pairwise different and every insert appends. -/
theorem deserialize_roundtrip (hE : E.Lawful) (hk : ∀ n k, E.keq (E.clK n k) k = true)
    {l : List (K × V)} (hn : NodupKeys E.keq l) (cap : Nat) (hcap : l.length ≤ cap)
    (w : World K V Q) (hb : Benign w) :
    ∃ s' l', deserializeInto E (tokens l) ⟨Raw.new cap, w⟩ = .ok () s' ∧ Rep s'.r l' ∧
      ClonesOf E l l' ∧ s'.r.cap = cap ∧ Benign s'.w := by
  have hc := clonesOf_decodedFrom E w.nextId l
  have hd : foldInsert E [] (decodedFrom E w.nextId l) = decodedFrom E w.nextId l := by
    rw [foldInsert_of_nodup E _ [] (hc.nodupKeys hE hk hn)]; rfl
  obtain ⟨s', h1, h2, h3, h4, _⟩ := deserialize_eq_fold E hE.toPure (some l.length) l cap w hb
    (overflowAt_none_of_fold_le E cap _ [] (by rw [hd, decodedFrom_length]; exact hcap))
  exact ⟨s', _, h1, hd ▸ h2, hc, h3, h4.benign hb⟩

theorem keq_decoded {E : Env K V Q} (hE : E.Lawful) (hk : ∀ n k, E.keq (E.clK n k) k = true)
    (n : Nat) (k q : K) : E.keq (E.clK n k) q = E.keq k q := by
  rw [hE.symm (E.clK n k) q, hE.symm k q]
  exact keq_congr_right hE.equivB (hk n k) q

/-- decoding does not change which key tests a key list answers. -/
theorem memB_decodedFrom {E : Env K V Q} (hE : E.Lawful) (hk : ∀ n k, E.keq (E.clK n k) k = true)
    (xs : List (K × V)) (n : Nat) (y : K) :
    memB E.keq y ((decodedFrom E n xs).map (·.1)) = memB E.keq y (xs.map (·.1)) := by
  fun_induction decodedFrom E n xs with
  | case1 => rfl
  | case2 n k v rest ih =>
    show (E.keq (E.clK n k) y || memB E.keq y _) = (E.keq k y || memB E.keq y _)
    rw [keq_decoded hE hk, ih]

theorem decoded_cover {E : Env K V Q} (hE : E.Lawful) (hk : ∀ n k, E.keq (E.clK n k) k = true)
    (xs : List (K × V)) (n : Nat) (d : List K)
    (hd : ∀ x, x ∈ xs.map (·.1) → memB E.keq x d = true) :
    ∀ x, x ∈ (decodedFrom E n xs).map (·.1) → memB E.keq x d = true := by
  intro x hx
  obtain ⟨k, h1, h2⟩ := memB_eq_true.1
    ((memB_decodedFrom hE hk xs n x).symm.trans (memB_eq_true.2 ⟨x, hx, hE.refl x⟩))
  rw [← memB_congr hE.equivB h2]; exact hd k h1

theorem find?_reverse_last {α : Type} (P : α → Bool) : ∀ (ys : List α) (i : Nat) (hi : i < ys.length),
    P ys[i] = true → (∀ j (hj : j < ys.length), i < j → P ys[j] = false) →
    ys.reverse.find? P = some ys[i]
  | y :: t, 0, _, hP, hlast => by
    have hnone : t.reverse.find? P = none := by
      rw [List.find?_eq_none]
      intro x hx
      obtain ⟨j, hj, rfl⟩ := List.mem_iff_getElem.1 (List.mem_reverse.1 hx)
      have := hlast (j + 1) (by simpa using hj) (Nat.succ_pos _)
      simpa using this
    have hP' : P y = true := hP
    simp [List.find?_append, hnone, hP']
  | y :: t, i + 1, hi, hP, hlast => by
    have ih := find?_reverse_last P t i (by simpa using hi) (by simpa using hP)
      (fun j hj hij => by
        have := hlast (j + 1) (by simpa using hj) (by omega)
        simp only [List.getElem_cons_succ] at this
        exact this)
    simp [List.find?_append, ih]

end Micromap.Serde
