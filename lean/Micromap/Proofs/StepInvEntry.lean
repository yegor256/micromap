/-
Invariant preservation for the entry API chains (`entryOp`) and for `get_disjoint_mut` followed
by writes through the returned references — the two composite operations of `stepMapOp` that
`StepInv.lean` leaves out.  Any user equality, any injection point.
-/
import Micromap.Proofs.StepInv
import Micromap.Proofs.EntryOps
import Micromap.Proofs.Disjoint

namespace Micromap
variable {K V Q : Type} (E : Env K V Q)

/-- an entry is usable on the container it borrows. -/
def EntryS.validIn (e : EntryS K) (r : Raw K V) : Prop :=
  match e with
  | .occ i => i < r.len
  | .vac _ => True

/-- postcondition shape of the entry-producing steps. -/
def InvE (s : St K V Q) (e : EntryS K) (s' : St K V Q) : Prop :=
  Inv E s'.r ∧ s'.r.cap = s.r.cap ∧ e.validIn s'.r

theorem entry_invE (k : K) {s : St K V Q} (hs : Inv E s.r) :
    Sat (entry E k) s (fun e s' => InvE E s e s') (fun _ => Keeps E s) := by
  obtain ⟨l, hr, hn⟩ := hs
  refine Sat.mono (EntryOps.entry_sat E hr k) ?_ ?_
  · intro e s' ⟨h1, h⟩
    refine ⟨⟨l, h1 ▸ hr, hn⟩, by rw [h1], ?_⟩
    rcases h with ⟨i, rfl, hi, _⟩ | ⟨rfl, _⟩
    · show i < s'.r.len; rw [h1, hr.1]; exact hi
    · trivial
  · exact fun _ _ h => Keeps.of_eq ⟨l, hr, hn⟩ h.1

theorem and_modify_invE (g : V → V) (e : EntryS K) {s : St K V Q} (hs : Inv E s.r) (he : e.validIn s.r) :
    Sat (and_modify (Q := Q) g e) s (fun e' s' => InvE E s e' s')
      (fun _ => Keeps E s) := by
  obtain ⟨l, hr, hn⟩ := hs
  cases e with
  | vac key => exact Sat.of_ok (EntryOps.and_modify_vac g key s) ⟨⟨l, hr, hn⟩, rfl, trivial⟩
  | occ i =>
    have hi : i < l.length := Nat.lt_of_lt_of_eq he hr.1
    refine Sat.mono (EntryOps.and_modify_occ_sat hr g hi) ?_ ?_
    · intro e' s' ⟨h1, h2, h3, _⟩
      subst h1
      refine ⟨⟨_, h3, InvL.set_val hn hi _⟩, h2, ?_⟩
      show i < s'.r.len; rw [h3.1]; simpa using hi
    · exact fun _ _ h => Keeps.of_eq ⟨l, hr, hn⟩ h.1

theorem entryMods_invE : ∀ (mods : List (V → V)) (e : EntryS K) {s : St K V Q}, Inv E s.r → e.validIn s.r →
    Sat (entryMods (Q := Q) mods e) s (fun e' s' => InvE E s e' s')
      (fun _ => Keeps E s)
  | [], e, s, hs, he => Sat.pure ⟨hs, rfl, he⟩
  | g :: gs, e, s, hs, he => by
    unfold entryMods
    refine Sat.bind (and_modify_invE E g e hs he) ?_
    intro e' s1 ⟨h1, h2, h3⟩
    refine Sat.mono (entryMods_invE gs e' h1 h3) ?_ ?_
    · intro e'' s2 ⟨g1, g2, g3⟩; exact ⟨g1, g2.trans h2, g3⟩
    · exact fun _ _ => Keeps.trans ⟨h1, h2⟩

theorem refVal_inv {s : St K V Q} (hs : Inv E s.r) {i} (hi : i < s.r.len) :
    OpInvAt E (refVal (Q := Q) i) s := by
  obtain ⟨l, hr, hn⟩ := hs
  have hi' : i < l.length := by rw [hr.1] at hi; exact hi
  have : refVal (Q := Q) i s = .ok (.ref i (.val l[i].2)) s := by
    unfold refVal
    simp [bind_apply, hr.itemRef_ok hi']
  exact Sat.of_ok this ⟨⟨l, hr, hn⟩, rfl⟩

theorem vacant_insert_invI (key : K) (v : V) {s : St K V Q} (hs : Inv E s.r) :
    Sat (vacant_insert E key v) s
      (fun i s' => Inv E s'.r ∧ s'.r.cap = s.r.cap ∧ i < s'.r.len)
      (fun _ => Keeps E s) := by
  obtain ⟨l, hr, hn⟩ := hs
  refine Sat.mono (EntryOps.vacant_insert_sat E hr key v) ?_ ?_
  · intro idx s1 ⟨hc, h⟩
    rcases h with ⟨hi, hrep, _⟩ | ⟨hidx, _, hrep, _, hf⟩
    · exact ⟨⟨_, hrep, InvL.set_val hn hi _⟩, hc, by rw [hrep.1]; simpa using hi⟩
    · exact ⟨⟨_, hrep, InvL.append hn hf v⟩, hc, by rw [hrep.1]; simp [hidx]⟩
  · intro c s' ⟨hc, h⟩
    refine ⟨?_, hc⟩
    rcases h with ⟨_, l', hrep, hl'⟩ | ⟨hs', _⟩
    · rcases hl' with rfl | ⟨i, hi, rfl⟩
      · exact ⟨_, hrep, hn⟩
      · exact ⟨_, hrep, InvL.set_val hn hi _⟩
    · exact ⟨l, hs' ▸ hr, hn⟩

theorem then_refVal {m : SM K V Q Nat} {s : St K V Q}
    (hm : Sat m s (fun i s' => Inv E s'.r ∧ s'.r.cap = s.r.cap ∧ i < s'.r.len)
      (fun _ => Keeps E s)) :
    OpInvAt E (m >>= fun i => refVal (Q := Q) i) s := by
  refine Sat.bind hm ?_
  intro i s1 ⟨h1, h2, h3⟩
  exact Sat.mono (refVal_inv E h1 h3) (fun _ _ => Keeps.trans ⟨h1, h2⟩) (fun _ _ => Keeps.trans ⟨h1, h2⟩)

theorem or_insert_invI (d : V) (e : EntryS K) {s : St K V Q} (hs : Inv E s.r) (he : e.validIn s.r) :
    Sat (or_insert E d e) s (fun i s' => Inv E s'.r ∧ s'.r.cap = s.r.cap ∧ i < s'.r.len)
      (fun _ => Keeps E s) := by
  cases e with
  | vac key => exact vacant_insert_invI E key d hs
  | occ i =>
    obtain ⟨l, hr, hn⟩ := hs
    have hi : i < l.length := Nat.lt_of_lt_of_eq he hr.1
    refine Sat.mono (EntryOps.or_insert_occ_sat E hr d hi) ?_ ?_
    · intro idx s' ⟨h1, h2, _⟩
      subst h1
      exact ⟨⟨l, h2 ▸ hr, hn⟩, by rw [h2], by rw [h2, hr.1]; exact hi⟩
    · exact fun _ _ h => Keeps.of_eq ⟨l, hr, hn⟩ h.1

theorem or_insert_with_invI (tag : Nat) (mk : V) (e : EntryS K) {s : St K V Q} (hs : Inv E s.r)
    (he : e.validIn s.r) :
    Sat (or_insert_with E tag mk e) s (fun i s' => Inv E s'.r ∧ s'.r.cap = s.r.cap ∧ i < s'.r.len)
      (fun _ => Keeps E s) := by
  cases e with
  | vac key =>
    unfold or_insert_with
    refine Sat.bind ((OpInv.unwindWith (E := E) (dropK_cb key) (OpInv.of_cb (callF_cb tag))) s hs) ?_
    intro _ s1 ⟨h1, h2⟩
    refine Sat.mono (vacant_insert_invI E key mk h1) ?_ ?_
    · intro i s2 ⟨g1, g2, g3⟩; exact ⟨g1, g2.trans h2, g3⟩
    · exact fun _ _ => Keeps.trans ⟨h1, h2⟩
  | occ i =>
    have hs0 := hs
    obtain ⟨l, hr, hn⟩ := hs
    have hi : i < l.length := Nat.lt_of_lt_of_eq he hr.1
    exact Sat.of_ok (EntryOps.or_insert_with_occ E hr tag mk hi) ⟨hs0, rfl, he⟩

theorem entryFinish_inv (fin : EntryEnd V) (e : EntryS K) {s : St K V Q} (hs : Inv E s.r)
    (he : e.validIn s.r) :
    OpInvAt E (entryFinish E fin e) s := by
  have hs0 := hs
  obtain ⟨l, hr, hn⟩ := hs
  have okk : ∀ {α : Type} {m : SM K V Q α} {a : α}, m s = .ok a s → OpInvAt E m s :=
    fun h => Sat.of_ok h ⟨hs0, rfl⟩
  cases e with
  | vac key =>
    -- on a vacant entry every `OccupiedEntry` method only drops the key the entry owns
    have dk (r : RV K V) :=
      (OpInv.bind (E := E) (OpInv.of_cb (dropK_cb key)) (fun _ => OpInv.pure r)) s hs0
    cases fin with
    | or_insert v => exact then_refVal E (or_insert_invI E v _ hs0 he)
    | or_insert_with v => exact then_refVal E (or_insert_with_invI E 2 v _ hs0 he)
    | or_insert_with_key v => exact then_refVal E (or_insert_with_invI E 3 v _ hs0 he)
    | or_default v => exact then_refVal E (or_insert_with_invI E 4 v _ hs0 he)
    | key =>
      exact (OpInv.bind (E := E) (OpInv.pure key) (fun k => OpInv.bind (OpInv.of_cb (dropK_cb key))
        (fun _ => OpInv.pure _))) s hs0
    | vac_into_key => exact Sat.pure ⟨hs0, rfl⟩
    | vac_insert v => exact then_refVal E (vacant_insert_invI E key v hs0)
    | drop | vac_key | occ_key | occ_get | occ_get_mut _ | occ_insert _ | occ_remove | occ_remove_entry
    | occ_into_mut => exact dk _
  | occ i =>
    have hi : i < l.length := Nat.lt_of_lt_of_eq he hr.1
    have hil : i < s.r.len := he
    cases fin with
    | or_insert v => exact then_refVal E (or_insert_invI E v _ hs0 he)
    | or_insert_with v => exact then_refVal E (or_insert_with_invI E 2 v _ hs0 he)
    | or_insert_with_key v => exact then_refVal E (or_insert_with_invI E 3 v _ hs0 he)
    | or_default v => exact then_refVal E (or_insert_with_invI E 4 v _ hs0 he)
    | key =>
      refine okk (a := RV.key l[i].1) ?_
      simp [entryFinish, bind_apply, EntryOps.entry_key_occ hr hi, dropEntry]
    | drop => exact okk (a := RV.unit) rfl
    | occ_key =>
      refine okk (a := RV.key l[i].1) ?_
      simp [entryFinish, bind_apply, EntryOps.occ_get_eq hr hi]
    | occ_get =>
      refine okk (a := RV.ref i (.val l[i].2)) ?_
      simp [entryFinish, bind_apply, EntryOps.occ_get_eq hr hi]
    | occ_get_mut g =>
      have h := EntryOps.occ_get_mut_eq hr hi g
      refine Sat.of_ok (a := RV.ref i (.val (g l[i].2)))
        (s' := { s with r := setSlot s.r i (some (l[i].1, g l[i].2)) }) ?_ ?_
      · simp [entryFinish, bind_apply, h]
      · exact ⟨⟨_, hr.set hi _, InvL.set_val hn hi _⟩, rfl⟩
    | occ_insert v =>
      have h := EntryOps.occ_insert_eq E hr hi v
      refine Sat.of_ok (a := RV.val l[i].2)
        (s' := { s with r := setSlot s.r i (some (l[i].1, v)) }) ?_ ?_
      · simp [entryFinish, bind_apply, h]
      · exact ⟨⟨_, hr.set hi _, InvL.set_val hn hi _⟩, rfl⟩
    | occ_remove =>
      refine Sat.bind (Q₁ := fun _ s' => Inv E s'.r ∧ s'.r.cap = s.r.cap)
        (Sat.mono (EntryOps.occ_remove_sat (Q := Q) hr hi) ?_ ?_) ?_
      · intro v s' ⟨_, h1, h2, _⟩
        exact ⟨⟨_, h1, InvL.swapRemove hn hi⟩, h2⟩
      · intro c s' ⟨h1, h2, _⟩
        exact ⟨⟨_, h1, InvL.swapRemove hn hi⟩, h2⟩
      · intro _ s1 h; exact Sat.pure h
    | occ_remove_entry =>
      refine Sat.bind (Q₁ := fun _ s' => Inv E s'.r ∧ s'.r.cap = s.r.cap)
        (Sat.mono (EntryOps.occ_remove_entry_sat hr hi
          (P := fun _ s' => Inv E s'.r ∧ s'.r.cap = s.r.cap)) ?_ (fun _ _ h => h)) ?_
      · intro p s' ⟨_, h1, h2, _⟩
        exact ⟨⟨_, h1, InvL.swapRemove hn hi⟩, h2⟩
      · intro _ s1 h; exact Sat.pure h
    | occ_into_mut => exact refVal_inv E hs0 hil
    | vac_key => exact okk (a := RV.tag "occupied") rfl
    | vac_into_key => exact okk (a := RV.tag "occupied") rfl
    | vac_insert v => exact okk (a := RV.tag "occupied") rfl

theorem opInv_entryOp (k : K) (mods : List (V → V)) (fin : EntryEnd V) : OpInv E (entryOp E k mods fin) := by
  intro s hs
  unfold entryOp
  refine Sat.bind (entry_invE E k hs) ?_
  intro e s1 ⟨h1, h2, h3⟩
  refine Sat.bind (Sat.mono (entryMods_invE E mods e h1 h3) (fun _ _ h => h)
    (fun _ _ => Keeps.trans ⟨h1, h2⟩)) ?_
  intro e' s2 ⟨g1, g2, g3⟩
  have k2 : Keeps E s s2 := ⟨g1, g2.trans h2⟩
  exact Sat.bind (Sat.mono (entryFinish_inv E fin e' g1 g3) (fun _ _ => k2.trans) (fun _ _ => k2.trans))
    (fun _ _ h => Sat.pure h)

theorem writeL_keys (g : V → V) : ∀ (res : List (Option Nat)) (l : List (K × V)),
    (Disjoint.writeL g res l).map (·.1) = l.map (·.1)
  | [], _ => rfl
  | none :: rest, l => writeL_keys g rest l
  | some i :: rest, l => by
    show (Disjoint.writeL g rest _).map (·.1) = _
    rw [writeL_keys g rest]
    cases h : l[i]? with
    | none => rfl
    | some p =>
      simp only
      apply List.ext_getElem?
      intro j
      simp only [List.getElem?_map, List.getElem?_set]
      split
      · rename_i hij; subst hij
        split
        · simp [h]
        · rename_i hlt; simp [List.getElem?_eq_none (Nat.le_of_not_lt hlt)]
      · rfl

theorem readSlots_ok {r : Raw K V} {l : List (K × V)} (hr : Rep r l) (s : St K V Q) :
    ∀ res : List (Option Nat), (∀ (t j : Nat), res[t]? = some (some j) → j < l.length) →
      ∃ out, readSlots r res s = .ok out s
  | [], _ => ⟨_, rfl⟩
  | none :: rest, hb => by
    obtain ⟨o, ho⟩ := readSlots_ok hr s rest (fun t j h => hb (t + 1) j (by simpa using h))
    exact ⟨RV.none :: o, by simp [readSlots, bind_apply, ho]⟩
  | some i :: rest, hb => by
    have hi : i < l.length := hb 0 i (by simp)
    obtain ⟨o, ho⟩ := readSlots_ok hr s rest (fun t j h => hb (t + 1) j (by simpa using h))
    exact ⟨RV.some (.ref i (.val l[i].2)) :: o, by simp [readSlots, bind_apply, hr.itemRefR_ok hi s, ho]⟩

/-- writes through the references a lookup of several slots returned, then reading them back.
    Only that the returned slots are live is used: `writeSlots` splits the slice back to front and
    writes every slot through one reference, whatever the request list was. -/
theorem opInv_slots (g : V → V) {m : SM K V Q (List (Option Nat))}
    (hm : ∀ s l, Rep s.r l → Sat m s
      (fun res s' => s'.r = s.r ∧ ∀ (t j : Nat), res[t]? = some (some j) → j < l.length)
      (fun _ s' => s'.r = s.r)) :
    OpInv E (do
      let slots ← m
      writeSlots g slots
      let s ← getS
      pure (RV.list (← readSlots s.r slots)) : SM K V Q (RV K V)) := by
  intro s ⟨l, hr, hn⟩
  refine Sat.bind (Sat.mono (hm s l hr) (fun _ _ h => h) (fun _ _ h => Keeps.of_eq ⟨l, hr, hn⟩ h)) ?_
  intro res s1 ⟨h1, h4⟩
  obtain ⟨s2, g1, g2, _, g4⟩ := Disjoint.writeSlots_eq (Q := Q) g res s1 l (h1 ▸ hr) h4
  refine Sat.bind (Sat.of_ok g1 (Q := fun _ s' => s' = s2) rfl) ?_
  rintro _ s3 rfl
  refine Sat.getS_bind ?_
  obtain ⟨o, ho⟩ := readSlots_ok g2 s3 res (fun t j h => by
    rw [Disjoint.writeL_length]; exact h4 t j h)
  exact Sat.of_ok (a := RV.list o) (s' := s3) (by simp [bind_apply, ho])
    ⟨⟨_, g2, InvL.of_keys_eq (writeL_keys g res l) hn⟩, by rw [g4, h1]⟩

theorem opInv_gdm (g : V → V) (ks : List (Probe K Q)) :
    OpInv E (do
      let slots ← get_disjoint_mut E ks
      writeSlots g slots
      let s ← getS
      pure (RV.list (← readSlots s.r slots)) : SM K V Q (RV K V)) :=
  opInv_slots E g fun _ _ hr =>
    Sat.mono (Disjoint.checked_sat E hr ks) (fun _ _ h => ⟨h.1, h.2.2.2.1⟩) (fun _ _ h => h.1)

/-- `get_disjoint_unchecked_mut` followed by writes through the returned references keeps the
    invariant for ANY request list — also one with repeated keys — any `==` and any injection
    point: the implementation pushes every slot at most once onto its index stack, so the
    returned references never alias whatever the caller passes. -/
theorem opInv_gdm_unchecked (g : V → V) (ks : List (Probe K Q)) :
    OpInv E (do
      let slots ← get_disjoint_unchecked_mut E ks
      writeSlots g slots
      let s ← getS
      pure (RV.list (← readSlots s.r slots)) : SM K V Q (RV K V)) :=
  opInv_slots E g fun _ _ hr =>
    Sat.mono (Disjoint.unchecked_sat E hr ks) (fun _ _ h => ⟨h.1, h.2.2.2.1⟩) (fun _ _ h => h.1)

end Micromap
