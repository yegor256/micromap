/-
The part of the system-level ownership logic (namespace `OwnSys`, as in `OwnGarb.lean` and `OwnSys.lean`) that
speaks of one register only: what a returned value tree owns (`RV.owned`), and the triples (`Own.Cons`) of the
functions that take a second container as an argument or build in a scratch register.  Then `Deserialize`,
whose decoding creates objects that no event records: runs that do not advance the fresh-object counter
(`FrameN`), the objects a decoding creates (`DecOf`), and the balance in which they are received (`DecRes`).
-/
import Micromap.Proofs.OwnStep
import Micromap.Model.Sys

set_option linter.unusedSectionVars false

namespace Micromap.OwnSys
open Micromap Ledger Own
variable {K V Q : Type}

/-- the objects a returned value tree OWNS: the keys, values and pairs that are not under a
    `ref` / `oref` constructor (a reference into a container is not ownership). -/
def _root_.Micromap.RV.owned : RV K V → List (Obj K V)
  | .unit => []
  | .none => []
  | .bool _ => []
  | .nat _ => []
  | .key k => [.k k]
  | .val v => [.v v]
  | .pair k v => [.k k, .v v]
  | .ref _ _ => []
  | .oref _ _ _ => []
  | .some x => RV.owned x
  | .list l => ownedL l
  | .hint _ _ => []
  | .str _ => []
  | .tag _ => []
where
  ownedL : List (RV K V) → List (Obj K V)
    | [] => []
    | x :: xs => RV.owned x ++ ownedL xs

attribute [simp] RV.owned RV.owned.ownedL

theorem ownedL_append (a b : List (RV K V)) :
    RV.owned.ownedL (a ++ b) = RV.owned.ownedL a ++ RV.owned.ownedL b := by
  induction a with
  | nil => simp
  | cons x xs ih => simp [ih]

theorem ownedL_nil_of {l : List (RV K V)} (h : ∀ x ∈ l, RV.owned x = []) : RV.owned.ownedL l = [] := by
  induction l with
  | nil => simp
  | cons x xs ih =>
    simp [h x (List.mem_cons_self ..), ih (fun y hy => h y (List.mem_cons_of_mem _ hy))]

theorem ownedL_map_nil {α : Type} (f : α → RV K V) (hf : ∀ a, RV.owned (f a) = []) (l : List α) :
    RV.owned.ownedL (l.map f) = [] :=
  ownedL_nil_of (fun x hx => by
    obtain ⟨a, _, rfl⟩ := List.mem_map.mp hx
    exact hf a)

variable {P : Event K V Q → Prop} [EvP P] {w : Obj K V → Nat} (E : Env K V Q)

theorem ConsAt.own_of_ok {α : Type} {m : SM K V Q α} {s : St K V Q} {inn : Nat} {own own' : α → Nat}
    {pown : Option Nat} (h : ConsAt P w m s inn own pown)
    (ho : ∀ a s', m s = .ok a s' → own a = own' a) : ConsAt P w m s inn own' pown := by
  unfold ConsAt at h ⊢
  cases hm : m s with
  | ok a s1 => rw [hm] at h; exact h.of_eq rfl (ho a s1 hm)
  | panic c s1 => rw [hm] at h; exact h
  | ub => trivial

theorem iterStartR_cons (r : Raw K V) : Cons P w (iterStartR r : SM K V Q SliceIt) 0 (fun _ => 0) (some 0) := by
  intro s
  unfold iterStartR
  split
  · exact ConsAt.pure rfl
  · exact ConsAt.throwP

theorem filtNextR_cons (a b : Raw K V) (want : Bool) : ∀ n lo,
    Cons P w (filtNextR E a b want n lo) 0 (fun _ => 0) (some 0)
  | 0, _ => fun _ => ConsAt.pure rfl
  | n + 1, lo => by
    intro s
    unfold filtNextR
    refine ConsAt.bind0_inj (itemRefR_cons a lo s) (fun p s1 _ => ?_)
    refine ConsAt.bind0 (scanR_cons E b (.key p.1) s1) (fun c s2 _ => ?_)
    split
    · exact ConsAt.pure rfl
    · exact filtNextR_cons a b want n (lo + 1) s2

theorem filtNext_cons (a b : Raw K V) (want : Bool) (it : SliceIt) :
    Cons P w (filtNext E a b want it) 0 (fun _ => 0) (some 0) := by
  intro s
  unfold filtNext
  refine ConsAt.bind0 (filtNextR_cons E a b want _ _ s) (fun r s1 _ => ?_)
  obtain ⟨o, lo'⟩ := r
  exact ConsAt.pure rfl

theorem filtFoldR_cons (a b : Raw K V) (want : Bool) : ∀ n lo,
    Cons P w (filtFoldR E a b want n lo) 0 (fun _ => 0) (some 0)
  | 0, _ => fun _ => ConsAt.pure rfl
  | n + 1, lo => by
    intro s
    unfold filtFoldR
    refine ConsAt.bind0_inj (itemRefR_cons a lo s) (fun p s1 _ => ?_)
    refine ConsAt.bind0 (scanR_cons E b (.key p.1) s1) (fun c s2 _ => ?_)
    refine ConsAt.bind0 (filtFoldR_cons a b want n (lo + 1) s2) (fun rest s3 _ => ?_)
    split <;> exact ConsAt.pure rfl

theorem algStart_cons (a b : Raw K V) (kind : AlgKind) :
    Cons P w (algStart a b kind : SM K V Q AlgIt) 0 (fun _ => 0) (some 0) := by
  intro s
  unfold algStart
  cases kind with
  | difference | intersection => exact ConsAt.bind0 (iterStartR_cons a s) (fun _ _ _ => ConsAt.pure rfl)
  | union | symmetric_difference =>
    refine ConsAt.bind0 (iterStartR_cons _ s) (fun _ s1 _ => ?_)
    exact ConsAt.bind0 (iterStartR_cons _ s1) (fun _ _ _ => ConsAt.pure rfl)

theorem algFstNext_cons (a b : Raw K V) (kind : AlgKind) (it : SliceIt) :
    Cons P w (algFstNext E a b kind it) 0 (fun _ => 0) (some 0) := by
  intro s
  unfold algFstNext
  cases kind with
  | union => exact ConsAt.bind0_inj (iterNextR_cons b it s) (fun ⟨_, _⟩ _ _ => ConsAt.pure rfl)
  | _ => exact ConsAt.bind0 (filtNext_cons E a b _ it s) (fun ⟨_, _⟩ _ _ => ConsAt.pure rfl)

theorem algSndNext_cons (a b : Raw K V) (kind : AlgKind) (it : SliceIt) :
    Cons P w (algSndNext E a b kind it) 0 (fun _ => 0) (some 0) := by
  intro s
  unfold algSndNext
  split <;> exact ConsAt.bind0 (filtNext_cons E _ _ false it s) (fun ⟨_, _⟩ _ _ => ConsAt.pure rfl)

theorem algNext_cons (a b : Raw K V) (it : AlgIt) :
    Cons P w (algNext E a b it) 0 (fun _ => 0) (some 0) := by
  intro s
  obtain ⟨kind, fst, snd⟩ := it
  unfold algNext
  cases kind with
  | difference | intersection =>
    cases fst with
    | none => exact ConsAt.pure rfl
    | some it => exact ConsAt.bind0 (algFstNext_cons E a b _ it s) (fun ⟨_, _⟩ _ _ => ConsAt.pure rfl)
  | union | symmetric_difference =>
    refine ConsAt.bind0 ?_ (fun r s1 _ => ?_)
    · cases fst with
      | none => exact ConsAt.pure rfl
      | some it =>
        refine ConsAt.bind0 (algFstNext_cons E a b _ it s) (fun r s1 _ => ?_)
        obtain ⟨o, it'⟩ := r
        cases o <;> exact ConsAt.pure rfl
    · obtain ⟨o, s'⟩ := r
      cases o with
      | some x => exact ConsAt.pure rfl
      | none =>
        simp only
        cases hsnd : s'.snd with
        | none => exact ConsAt.pure rfl
        | some it => exact ConsAt.bind0 (algSndNext_cons E a b s'.kind it s1) (fun ⟨_, _⟩ _ _ => ConsAt.pure rfl)

theorem algFstFold_cons (a b : Raw K V) (kind : AlgKind) (it : SliceIt) :
    Cons P w (algFstFold E a b kind it) 0 (fun _ => 0) (some 0) := by
  intro s
  unfold algFstFold
  cases kind with
  | union => exact ConsAt.bind0_inj (iterRestR_cons b _ _ s) (fun _ _ _ => ConsAt.pure rfl)
  | _ => exact ConsAt.bind0 (filtFoldR_cons E a b _ _ _ s) (fun _ _ _ => ConsAt.pure rfl)

theorem algSndFold_cons (a b : Raw K V) (kind : AlgKind) (it : SliceIt) :
    Cons P w (algSndFold E a b kind it) 0 (fun _ => 0) (some 0) := by
  intro s
  unfold algSndFold
  split <;> exact ConsAt.bind0 (filtFoldR_cons E _ _ false _ _ s) (fun _ _ _ => ConsAt.pure rfl)

theorem algFold_cons (a b : Raw K V) (it : AlgIt) :
    Cons P w (algFold E a b it) 0 (fun _ => 0) (some 0) := by
  intro s
  unfold algFold
  refine ConsAt.bind0 ?_ (fun xs s1 _ => ?_)
  · cases it.fst with
    | none => exact ConsAt.pure rfl
    | some x => exact algFstFold_cons E a b _ x s
  · refine ConsAt.bind0 ?_ (fun ys s2 _ => ?_)
    · cases it.snd with
      | none => exact ConsAt.pure rfl
      | some x => exact algSndFold_cons E a b _ x s1
    · exact ConsAt.pure rfl

theorem allContainR_cons (a b : Raw K V) (want : Bool) : ∀ n i,
    Cons P w (allContainR E a b want n i) 0 (fun _ => 0) (some 0)
  | 0, _ => fun _ => ConsAt.pure rfl
  | n + 1, i => by
    intro s
    unfold allContainR
    refine ConsAt.bind0_inj (itemRefR_cons a i s) (fun p s1 _ => ?_)
    refine ConsAt.bind0 (scanR_cons E b (.key p.1) s1) (fun c s2 _ => ?_)
    split
    · exact allContainR_cons a b want n (i + 1) s2
    · exact ConsAt.pure rfl

theorem allContain_cons (a b : Raw K V) (want : Bool) :
    Cons P w (allContain E a b want) 0 (fun _ => 0) (some 0) := by
  intro s
  unfold allContain
  split
  · exact allContainR_cons E a b want _ _ s
  · exact ConsAt.throwP

theorem is_disjoint_cons (a b : Raw K V) : Cons P w (is_disjoint E a b) 0 (fun _ => 0) (some 0) := by
  intro s
  unfold is_disjoint
  split <;> exact allContain_cons E _ _ _ s

theorem is_subset_cons (a b : Raw K V) : Cons P w (is_subset E a b) 0 (fun _ => 0) (some 0) := by
  intro s
  unfold is_subset
  split
  · exact allContain_cons E _ _ _ s
  · exact ConsAt.pure rfl

theorem is_superset_cons (a b : Raw K V) : Cons P w (is_superset E a b) 0 (fun _ => 0) (some 0) :=
  is_subset_cons E b a

theorem eqLoop_cons (a b : Raw K V) : ∀ n i, Cons P w (eqLoop E a b n i) 0 (fun _ => 0) (some 0)
  | 0, _ => fun _ => ConsAt.pure rfl
  | n + 1, i => by
    intro s
    unfold eqLoop
    refine ConsAt.bind0_inj (itemRefR_cons a i s) (fun p s1 _ => ?_)
    refine ConsAt.bind0 (scanR_cons E b (.key p.1) s1) (fun o s2 _ => ?_)
    cases o with
    | none => exact ConsAt.pure rfl
    | some j =>
      simp only
      refine ConsAt.bind0_inj (itemRefR_cons b j s2) (fun q s3 _ => ?_)
      refine ConsAt.bind0 (eqV_cons E q.2 p.2 s3) (fun e s4 _ => ?_)
      split
      · exact eqLoop_cons a b n (i + 1) s4
      · exact ConsAt.pure rfl

theorem mapEq_cons (a b : Raw K V) : Cons P w (mapEq E a b) 0 (fun _ => 0) (some 0) := by
  intro s
  unfold mapEq
  split
  · split
    · exact eqLoop_cons E a b _ _ s
    · exact ConsAt.throwP
  · exact ConsAt.pure rfl

theorem iterAllR_cons (r : Raw K V) : ∀ n i,
    Cons P w (iterAllR r n i : SM K V Q (List (K × V))) 0 (fun _ => 0) none
  | 0, _ => fun _ => ConsAt.pure rfl
  | n + 1, i => by
    intro s
    unfold iterAllR
    refine ConsAt.bind0_inj (itemRefR_cons r i s) (fun p s1 _ => ?_)
    refine ConsAt.bind0_inj (iterAllR_cons r n (i + 1) s1) (fun rest s2 _ => ?_)
    exact ConsAt.pure rfl

theorem serializeR_cons (r : Raw K V) :
    Cons P w (serializeR r : SM K V Q (List (Tok K V))) 0 (fun _ => 0) (some 0) := by
  intro s
  unfold serializeR
  refine ConsAt.bind0 ?_ (fun l s1 _ => ?_)
  · split
    · exact (iterAllR_cons r _ _ s).of_inj
    · exact ConsAt.throwP
  · exact ConsAt.pure rfl

section unit
variable {K Q : Type} {P : Event K Unit Q → Prop} [EvP P] {w : Obj K Unit → Nat} (F : Env K Unit Q)

theorem owned_algItemRV (x : AlgItem K) : RV.owned (algItemRV x) = [] := by simp [algItemRV]

theorem algRunOut_cons (a b : Raw K Unit) : ∀ n it,
    Cons P w (algRunOut F a b n it) 0 (fun _ => 0) (some 0)
  | 0, _ => fun _ => ConsAt.ub
  | n + 1, it => by
    intro s
    unfold algRunOut
    refine ConsAt.bind0 (algNext_cons F a b it s) (fun r s1 _ => ?_)
    obtain ⟨o, it'⟩ := r
    cases o with
    | none => exact ConsAt.pure rfl
    | some x =>
      simp only
      refine ConsAt.bind0 (algRunOut_cons a b n it' s1) (fun rest s2 _ => ?_)
      exact ConsAt.pure rfl

theorem algRunForks_cons (a b : Raw K Unit) : ∀ forks : List AlgIt,
    Cons P w (algRunForks F a b forks) 0 (fun l => wsum w (RV.owned.ownedL l)) (some 0)
  | [] => fun _ => ConsAt.pure (by simp)
  | f :: fs => by
    intro s
    unfold algRunForks
    refine ConsAt.bind0 (algRunOut_cons F a b _ f s) (fun x s1 _ => ?_)
    refine ConsAt.bind_all (algRunForks_cons a b fs s1) (fun rest s2 _ => ?_)
    exact ConsAt.pure (by simp [ownedL_map_nil _ owned_algItemRV])

/-- any script over a lazy set-algebra iterator: it reads the two operands; what it reports are
    references into them (`oref`), numbers and strings — the caller comes to own nothing. -/
theorem algScript_cons (dbg : Bool → K → String) (a b : Raw K Unit) :
    ∀ (cs : List IterCmd) (it : AlgIt) (forks : List AlgIt),
    Cons P w (algScript F dbg a b cs it forks) 0 (fun l => wsum w (RV.owned.ownedL l)) (some 0)
  | [], it, forks => by
    intro s
    unfold algScript
    exact algRunForks_cons F a b forks s
  | c :: cs, it, forks => by
    intro s
    cases c with
    | next =>
      unfold algScript
      simp only
      refine ConsAt.bind0 (algNext_cons F a b it s) (fun r s1 _ => ?_)
      obtain ⟨o, it'⟩ := r
      simp only
      refine ConsAt.bind_all (algScript_cons dbg a b cs it' forks s1) (fun rest s2 _ => ?_)
      cases o <;> exact ConsAt.pure (by simp [owned_algItemRV])
    | hint =>
      unfold algScript
      simp only
      refine ConsAt.bind_all (algScript_cons dbg a b cs it forks s) (fun rest s2 _ => ?_)
      exact ConsAt.pure (by simp)
    | len =>
      unfold algScript
      simp only
      exact algScript_cons dbg a b cs it forks s
    | debug | debugAlt =>
      unfold algScript
      simp only
      refine ConsAt.bind0 (algRunOut_cons F a b _ it s) (fun l s1 _ => ?_)
      refine ConsAt.bind_all (algScript_cons dbg a b cs it forks s1) (fun rest s2 _ => ?_)
      exact ConsAt.pure (by simp)
    | clone =>
      unfold algScript
      simp only
      exact algScript_cons dbg a b cs it _ s
    | count | fold =>
      unfold algScript
      simp only
      refine ConsAt.bind0 (algFold_cons F a b it s) (fun l s1 _ => ?_)
      refine ConsAt.bind_all (algScript_cons dbg a b [] it forks s1) (fun rest s2 _ => ?_)
      exact ConsAt.pure (by simp [ownedL_map_nil _ owned_algItemRV])
termination_by cs => cs.length + 1
decreasing_by all_goals simp_wf <;> omega

theorem algOp_cons (dbg : Bool → K → String) (kind : AlgKind) (a b : Raw K Unit) (script : List IterCmd) :
    Cons P w (algOp F dbg kind a b script) 0 (fun l => wsum w (RV.owned.ownedL l)) (some 0) := by
  intro s
  unfold algOp
  refine ConsAt.bind0 (algStart_cons a b kind s) (fun it s1 _ => ?_)
  exact algScript_cons F dbg a b script it [] s1

theorem subLoop_cons (hall : ∀ e, P e) (hw : ∀ u, w (.v u) = 0) (a b : Raw K Unit) : ∀ n it,
    Cons P w (subLoop F a b n it) 0 (fun _ => 0) (some 0)
  | 0, _ => fun _ => ConsAt.pure rfl
  | n + 1, it => by
    intro s
    unfold subLoop
    refine ConsAt.bind0 (filtNext_cons F a b false it s) (fun r s1 _ => ?_)
    obtain ⟨o, it'⟩ := r
    cases o with
    | none => exact ConsAt.pure rfl
    | some x =>
      obtain ⟨j, k⟩ := x
      simp only
      refine ConsAt.bind_all (cloneK_cons F hall k s1) (fun k' s2 _ => ?_)
      refine ConsAt.bind_some (insert_cons F (Or.inr hw) k' () s2) (by simp [hw]) (by omega) (fun o s3 _ => ?_)
      have h0 : wov w o = 0 := by cases o <;> simp [hw]
      exact (subLoop_cons hall hw a b n it' s3).congr_in (by simp [h0, hw])

/-- `&a - &b` into a scratch register: every object that ends up live in it, dropped or leaked is a
    clone result. -/
theorem subInto_cons (hall : ∀ e, P e) (hw : ∀ u, w (.v u) = 0) (a b : Raw K Unit) :
    Cons P w (subInto F a b) 0 (fun _ => 0) (some 0) := by
  intro s
  unfold subInto
  refine ConsAt.guard ?_ (dropMap_cons (pown := none) F (Or.inr hw))
  refine ConsAt.bind0 (iterStartR_cons a s) (fun it s1 _ => ?_)
  exact subLoop_cons F hall hw a b _ it s1

end unit

theorem sum_map_owned (w : Obj K V → Nat) (l : List (RV K V)) :
    (l.map fun x => wsum w (RV.owned x)).sum = wsum w (RV.owned.ownedL l) := by
  induction l with
  | nil => rfl
  | cons x xs ih => simp [ih]

/-- the weight of what a result owns gives nothing to references and to the plain data of a report. -/
theorem lent_owned (w : Obj K V → Nat) : Lent (fun x : RV K V => wsum w (RV.owned x)) :=
  ⟨fun _ _ => rfl, rfl, fun _ => rfl, fun _ _ => rfl, fun _ => rfl, fun _ => rfl, fun l => (sum_map_owned w l).symm⟩

theorem iterOp_own (R : Render K V) (kind : IterKind) (g : V → V)
    (hg : (kind = .iter_mut ∨ kind = .values_mut) → ∀ v, w (.v (g v)) = w (.v v)) (script : List IterCmd) :
    Cons P w (iterOp R kind g script : SM K V Q (List (RV K V))) 0 (fun l => wsum w (RV.owned.ownedL l)) (some 0) :=
  fun s => (iterOp_cons (lent_owned w) R kind g hg script s).congr rfl (sum_map_owned w) (fun _ h => h)

theorem readSlots_own (r : Raw K V) (slots : List (Option Nat)) :
    Cons P w (readSlots r slots : SM K V Q (List (RV K V))) 0 (fun l => wsum w (RV.owned.ownedL l)) none :=
  fun s => (readSlots_cons (lent_owned w) r slots s).congr rfl (sum_map_owned w) (fun _ h => h)

/-- the run leaves the component `f` of the state as it is, whether it returns or unwinds. -/
def Keeps {α β : Type} (f : St K V Q → β) (m : SM K V Q α) : Prop :=
  ∀ s, match m s with
    | .ok _ s' => f s' = f s
    | .panic _ s' => f s' = f s
    | .ub => True

theorem Keeps.pure {α β : Type} (f : St K V Q → β) (a : α) : Keeps f (pure a : SM K V Q α) := fun _ => rfl

theorem Keeps.bind {α β γ : Type} {g : St K V Q → γ} {m : SM K V Q α} {f : α → SM K V Q β} (hm : Keeps g m)
    (hf : ∀ a, Keeps g (f a)) : Keeps g (m >>= f) := by
  intro s
  have h1 := hm s
  simp only [bind_apply]
  cases hm' : m s with
  | ok a s1 =>
    rw [hm'] at h1
    have h2 := hf a s1
    simp only
    cases hf' : f a s1 with
    | ok b s2 => rw [hf'] at h2; exact h2.trans h1
    | panic c s2 => rw [hf'] at h2; exact h2.trans h1
    | ub => trivial
  | panic c s1 => rw [hm'] at h1; exact h1
  | ub => trivial

theorem keeps_itemRefR {β : Type} (f : St K V Q → β) (r : Raw K V) (i : Nat) :
    Keeps f (itemRefR r i : SM K V Q (K × V)) := by
  intro s
  unfold itemRefR
  by_cases hi : i < r.cap
  · cases hs : r.slots i <;> simp [hi]
  · simp [hi]

section scan
variable {β : Type} {f : St K V Q → β} {pr : Probe K Q} (hp : ∀ k, Keeps f (probeEq E k pr))
include hp

theorem keeps_scanFromR (r : Raw K V) : ∀ n i, Keeps f (scanFromR E r pr n i)
  | 0, _ => Keeps.pure f _
  | n + 1, i => by
    unfold scanFromR
    refine Keeps.bind (keeps_itemRefR f r i) (fun p => ?_)
    refine Keeps.bind (hp p.1) (fun b => ?_)
    split
    · exact Keeps.pure f _
    · exact keeps_scanFromR r n (i + 1)

theorem keeps_scanR (r : Raw K V) : Keeps f (scanR E r pr) := by
  unfold scanR
  split
  · exact keeps_scanFromR E hp r _ _
  · intro s; rfl

theorem keeps_scan : Keeps f (scan E pr) := fun s => keeps_scanR E hp s.r s

end scan

/-- the run does not advance the fresh-object counter (it neither clones nor decodes). -/
def FrameN {α : Type} (m : SM K V Q α) : Prop :=
  ∀ s, match m s with
    | .ok _ s' => s'.w.nextId = s.w.nextId
    | .panic _ s' => s'.w.nextId = s.w.nextId
    | .ub => True

theorem FrameN.of_ok {α : Type} {m : SM K V Q α} (h : FrameN m) {s a s'} (e : m s = .ok a s') :
    s'.w.nextId = s.w.nextId := by
  have := h s; rwa [e] at this

theorem FrameN.pure {α : Type} (a : α) : FrameN (pure a : SM K V Q α) := fun _ => rfl

theorem FrameN.bind {α β : Type} {m : SM K V Q α} {f : α → SM K V Q β} (hm : FrameN m)
    (hf : ∀ a, FrameN (f a)) : FrameN (m >>= f) :=
  Keeps.bind (g := fun s => s.w.nextId) hm hf

theorem FrameN.unwindWith {α : Type} {cleanup : SM K V Q Unit} {body : SM K V Q α} (hc : FrameN cleanup)
    (hb : FrameN body) : FrameN (Micromap.unwindWith cleanup body) := by
  intro s
  have h1 := hb s
  unfold Micromap.unwindWith
  cases hm : body s with
  | ok a s1 => rw [hm] at h1; exact h1
  | ub => trivial
  | panic c s1 =>
    rw [hm] at h1
    have h2 := hc (s1.setUnw true)
    simp only
    cases hcl : cleanup (s1.setUnw true) with
    | ok u s2 => rw [hcl] at h2; exact h2.trans h1
    | panic c2 s2 => trivial
    | ub => trivial

theorem frameN_tick : FrameN (tick : SM K V Q Unit) := by
  intro s
  obtain ⟨r, ⟨profile, inject, unwinding, calls, nextId, events, leaked⟩⟩ := s
  unfold tick
  cases unwinding with
  | true => rfl
  | false =>
    cases inject with
    | none => rfl
    | some n => cases n <;> rfl

theorem frameN_logE (e : Event K V Q) : FrameN (logE e) := fun _ => rfl
theorem frameN_leak (o : Obj K V) : FrameN (leak o : SM K V Q Unit) := fun _ => rfl
theorem frameN_getS : FrameN (getS : SM K V Q (St K V Q)) := fun _ => rfl
theorem frameN_getLen : FrameN (getLen : SM K V Q Nat) := fun _ => rfl
theorem frameN_getCap : FrameN (getCap : SM K V Q Nat) := fun _ => rfl
theorem frameN_setLen (n : Nat) : FrameN (setLen n : SM K V Q Unit) := fun _ => rfl

theorem frameN_eqK (a b : K) : FrameN (eqK E a b) := by
  unfold eqK
  exact FrameN.bind frameN_tick (fun _ => FrameN.bind frameN_getS (fun _ => FrameN.bind (frameN_logE _) (fun _ => FrameN.pure _)))

theorem frameN_eqQ (a b : Q) : FrameN (eqQ E a b) := by
  unfold eqQ
  exact FrameN.bind frameN_tick (fun _ => FrameN.bind frameN_getS (fun _ => FrameN.bind (frameN_logE _) (fun _ => FrameN.pure _)))

theorem frameN_dropK (k : K) : FrameN (dropK k : SM K V Q Unit) := by
  unfold dropK
  exact FrameN.bind (frameN_logE _) (fun _ => frameN_tick)

theorem frameN_dropV (v : V) : FrameN (dropV E v) := by
  unfold dropV
  split
  · exact FrameN.bind (frameN_logE _) (fun _ => frameN_tick)
  · exact FrameN.pure _

theorem frameN_dropArgs (k : K) (v : V) : FrameN (dropArgs E k v) := by
  unfold dropArgs
  exact FrameN.bind (FrameN.unwindWith (frameN_dropK k) (frameN_dropV E v)) (fun _ => frameN_dropK k)

theorem frameN_probeEq (stored : K) (pr : Probe K Q) : FrameN (probeEq E stored pr) := by
  cases pr with
  | key k => exact frameN_eqK E stored k
  | q q => exact frameN_eqQ E _ q

theorem frameN_pairReplace (i : Nat) (p : K × V) : FrameN (pairReplace i p : SM K V Q (K × V)) := by
  intro s
  unfold pairReplace
  by_cases hi : i < s.r.cap
  · cases hs : s.r.slots i <;> simp [hi]
  · simp [hi]

theorem frameN_valueReplace (i : Nat) (v : V) : FrameN (valueReplace i v : SM K V Q V) := by
  intro s
  unfold valueReplace
  by_cases hi : i < s.r.cap
  · cases hs : s.r.slots i <;> simp [hi]
  · simp [hi]

theorem frameN_debugAssert (c : Bool) (cls : PanicClass) : FrameN (debugAssert c cls : SM K V Q Unit) := by
  intro s
  unfold debugAssert
  cases s.w.profile <;> cases c <;> rfl

theorem frameN_checkedWrite (i : Nat) (p : K × V) : FrameN (checkedWrite i p : SM K V Q Unit) := by
  intro s
  unfold checkedWrite itemWrite
  by_cases hi : i < s.r.cap
  · cases hs : s.r.slots i <;> simp [hi]
  · simp [hi]

theorem frameN_insert_ii (k : K) (v : V) (upd : Bool) : FrameN (insert_ii E k v upd) := by
  unfold insert_ii
  refine FrameN.unwindWith (frameN_dropArgs E k v) ?_
  refine FrameN.bind (keeps_scan E (fun p => frameN_probeEq E p _)) (fun o => ?_)
  cases o with
  | some i =>
    simp only
    split
    · exact FrameN.bind (frameN_pairReplace i _) (fun _ => FrameN.pure _)
    · exact FrameN.bind (frameN_valueReplace i _) (fun _ => FrameN.pure _)
  | none =>
    simp only
    exact FrameN.bind frameN_getLen (fun i => FrameN.bind frameN_getCap (fun cap =>
      FrameN.bind (frameN_debugAssert _ _) (fun _ => FrameN.bind (frameN_checkedWrite _ _) (fun _ =>
        FrameN.bind (frameN_setLen _) (fun _ => FrameN.pure _)))))

theorem frameN_dropReturnedKey (o : Option (K × V)) : FrameN (dropReturnedKey o : SM K V Q (Option V)) := by
  cases o with
  | none => exact FrameN.pure _
  | some p =>
    obtain ⟨k, v⟩ := p
    unfold dropReturnedKey
    exact FrameN.bind (FrameN.unwindWith (frameN_leak _) (frameN_dropK k)) (fun _ => FrameN.pure _)

theorem frameN_insert (k : K) (v : V) : FrameN (insert E k v) := by
  unfold insert
  refine FrameN.bind (frameN_insert_ii E k v false) (fun r => ?_)
  obtain ⟨j, ex⟩ := r
  exact frameN_dropReturnedKey ex

/-! `decodeK` / `decodeV` (the `K::deserialize` / `V::deserialize` of the element types) return a new
object (`E.clK id k`: fresh identity, equal content) and log NO event — they are not user callbacks of
the container.  So the objects a deserialization creates are not in `createdOf events`; the ledger
counts them separately (`DecOf`), with exactly the identities the model gives them: nothing else
advances the fresh-object counter during a deserialization (`FrameN`: `insert` and the drops neither
clone nor decode). -/

/-- the entries a token stream starts with (what `visitLoop` consumes). -/
def leadEntries : List (Tok K V) → List (K × V)
  | .entry k v :: rest => (k, v) :: leadEntries rest
  | _ => []

/-- `dec` = the objects created by decoding a prefix of `ents` (all of `ents` when `full`), the
    fresh-object counter standing at `n` when the decoding starts: entry `(k, v)` yields the key
    `E.clK n k` and the value `E.clV (n + 1) v` (the value `v` itself, and one id less, when the value
    type has no drop glue). -/
inductive DecOf (E : Env K V Q) : Bool → Nat → List (K × V) → List (Obj K V) → Prop
  | done (full : Bool) (n : Nat) : DecOf E full n [] []
  | stop (n : Nat) (ents : List (K × V)) : DecOf E false n ents []
  | cons (full : Bool) (n : Nat) (k : K) (v : V) {ents : List (K × V)} {dec : List (Obj K V)} :
      DecOf E full (n + (if E.vGlue then 2 else 1)) ents dec →
      DecOf E full n ((k, v) :: ents) (.k (E.clK n k) :: .v (if E.vGlue then E.clV (n + 1) v else v) :: dec)

theorem DecOf.weaken {E : Env K V Q} {n ents dec} : ∀ {full}, DecOf E full n ents dec → DecOf E false n ents dec := by
  intro full h
  induction h with
  | done f n => exact .done false n
  | stop n e => exact .stop n e
  | cons f n k v _ ih => exact .cons false n k v ih

theorem DecOf.of_imp {E : Env K V Q} {b b' : Bool} {n l dec} (h : DecOf E b n l dec)
    (hi : b' = true → b = true) : DecOf E b' n l dec := by
  cases b' with
  | true => exact hi rfl ▸ h
  | false => exact h.weaken

theorem DecOf.length_le {E : Env K V Q} {full n ents dec} (h : DecOf E full n ents dec) :
    dec.length ≤ 2 * ents.length := by
  induction h with
  | done f n => simp
  | stop n e => simp
  | cons f n k v _ ih => simp only [List.length_cons]; omega

theorem DecOf.length_full {E : Env K V Q} {n ents dec} (h : DecOf E true n ents dec) :
    dec.length = 2 * ents.length := by
  generalize hf : true = full at h
  induction h with
  | done f n => simp
  | stop n e => cases hf
  | cons f n k v _ ih => simp only [List.length_cons, ih hf]; omega

/-- outcome of a deserialization loop, as a balance in which the decode results are received. -/
def DecRes (E : Env K V Q) (P : Event K V Q → Prop) (w : Obj K V → Nat) (ents : List (K × V)) (s : St K V Q) :
    Res (St K V Q) Unit → Prop
  | .ok _ s' => ∃ dec, DecOf E true s.w.nextId ents dec ∧ Bal P w s s' (wsum w dec) 0
  | .panic c s' => (c = .inject ∧ s.w.inject ≠ none) ∨
      ∃ dec, DecOf E false s.w.nextId ents dec ∧ Bal P w s s' (wsum w dec) 0
  | .ub => True

theorem bal_nextId (s : St K V Q) (n : Nat) :
    Bal P w s { s with w := { s.w with nextId := n } } 0 0 :=
  ⟨[], [], ⟨rfl, rfl, id, by simp, by simp, by simp⟩, by simp [createdOf, droppedOf]⟩

theorem decodeV_bal (v : V) (s : St K V Q) :
    ∃ s', decodeV E v s = .ok (if E.vGlue then E.clV s.w.nextId v else v) s' ∧ Bal P w s s' 0 0 ∧
      s'.w.nextId = s.w.nextId + (if E.vGlue then 1 else 0) := by
  unfold decodeV
  cases h : E.vGlue with
  | true =>
    exact ⟨{ s with w := { s.w with nextId := s.w.nextId + 1 } }, by simp, bal_nextId s _, by simp⟩
  | false => exact ⟨s, by simp, Bal.refl s 0, by simp⟩

/-- `visit_map` / `visit_seq`: every decode result ends up stored, dropped (the displaced old value,
    the supplied key of a duplicate; on the overflow panic: the pair being inserted) or leaked. -/
theorem visitLoop_bal (hv : HV E w) : ∀ (toks : List (Tok K V)) (s : St K V Q),
    DecRes E P w (leadEntries toks) s (visitLoop E toks s)
  | [], s => ⟨[], .done true _, Bal.refl s 0⟩
  | .start _ :: _, s => ⟨[], .done true _, Bal.refl s 0⟩
  | .fin :: _, s => ⟨[], .done true _, Bal.refl s 0⟩
  | .entry k v :: rest, s => by
    simp only [visitLoop, bind_apply, decodeK, leadEntries]
    obtain ⟨s2, hdv, hb2, hn2⟩ := decodeV_bal (P := P) (w := w) E v
      { s with w := { s.w with nextId := s.w.nextId + 1 } }
    rw [hdv]
    simp only
    have hb02 : Bal P w s s2 0 0 := Bal.trans (x := 0) (bal_nextId s _) hb2
    have hn02 : s2.w.nextId = s.w.nextId + (if E.vGlue then 2 else 1) := by
      rw [hn2]; cases E.vGlue <;> simp
    generalize hk' : E.clK s.w.nextId k = k' at *
    generalize hv' : (if E.vGlue then E.clV (s.w.nextId + 1) v else v) = v' at *
    have hdec : ∀ {full dec}, DecOf E full (s.w.nextId + (if E.vGlue then 2 else 1)) (leadEntries rest) dec →
        DecOf E full s.w.nextId ((k, v) :: leadEntries rest) (.k k' :: .v v' :: dec) := by
      intro full dec h
      rw [← hk', ← hv']
      exact .cons full _ k v h
    have hins := insert_cons (P := P) E hv k' v' s2
    have hfi := frameN_insert E k' v' s2
    cases hi : Micromap.insert E k' v' s2 with
    | ub => trivial
    | panic c s3 =>
      rcases hins.panic_of hi with ⟨hc, ha⟩ | hb
      · exact Or.inl ⟨hc, hb02.armed ha⟩
      · refine Or.inr ⟨_, hdec (.stop _ _), ?_⟩
        have := Bal.trans (x := w (.k k') + w (.v v')) hb02 (hb.of_eq (by omega) rfl)
        exact this.of_eq (by simp) rfl
    | ok o s3 =>
      rw [hi] at hfi
      have hins := hins.ok_of hi
      have hn03 : s3.w.nextId = s.w.nextId + (if E.vGlue then 2 else 1) := hfi.trans hn02
      have hb03 : Bal P w s s3 (w (.k k') + w (.v v')) (wov w o) :=
        (Bal.trans (x := w (.k k') + w (.v v')) hb02 (hins.of_eq (by omega) rfl)).of_eq (by omega) rfl
      have tail : ∀ s4, Bal P w s s4 (w (.k k') + w (.v v')) 0 →
          s4.w.nextId = s.w.nextId + (if E.vGlue then 2 else 1) →
          DecRes E P w ((k, v) :: leadEntries rest) s (visitLoop E rest s4) := by
        intro s4 hr hn4
        have ih := visitLoop_bal hv rest s4
        cases hrest : visitLoop E rest s4 with
        | ub => trivial
        | ok _ s5 =>
          rw [hrest] at ih
          obtain ⟨dec, hd, hb⟩ := ih
          rw [hn4] at hd
          refine ⟨_, hdec hd, ?_⟩
          exact (Bal.trans (x := wsum w dec) hr (hb.of_eq (by omega) rfl)).of_eq (by simp; omega) rfl
        | panic c s5 =>
          rw [hrest] at ih
          rcases ih with ⟨hc, ha⟩ | ⟨dec, hd, hb⟩
          · exact Or.inl ⟨hc, hr.armed ha⟩
          · rw [hn4] at hd
            refine Or.inr ⟨_, hdec hd, ?_⟩
            exact (Bal.trans (x := wsum w dec) hr (hb.of_eq (by omega) rfl)).of_eq (by simp; omega) rfl
      cases o with
      | none => exact tail s3 (by simpa using hb03) hn03
      | some old =>
        simp only [bind_apply]
        have hd := dropV_cons (P := P) (pown := none) E hv old s3
        have hfd := frameN_dropV E old s3
        cases hdr : dropV E old s3 with
        | ub => trivial
        | ok _ s4 =>
          rw [hdr] at hfd
          exact tail s4 ((Bal.trans (x := 0) hb03 ((hd.ok_of hdr).of_eq (by simp) rfl)).of_eq (by omega) rfl) (hfd.trans hn03)
        | panic c s4 => exact Or.inl ⟨(hd.inj_of hdr).1, hb03.armed (hd.inj_of hdr).2⟩

theorem DecRes.unwindWith {cleanup : SM K V Q Unit} {body : SM K V Q Unit} {ents : List (K × V)} {s : St K V Q}
    {pc : Option Nat} (hb : DecRes E P w ents s (body s))
    (hc : ∀ s1, ConsAt P w cleanup s1 0 (fun _ => 0) pc) :
    DecRes E P w ents s (Micromap.unwindWith cleanup body s) := by
  unfold Micromap.unwindWith
  cases hm : body s with
  | ok a s1 => rw [hm] at hb; exact hb
  | ub => trivial
  | panic c s1 =>
    rw [hm] at hb
    simp only
    cases h2 : cleanup (s1.setUnw true) with
    | panic c2 s2 => trivial
    | ub => trivial
    | ok u s2 =>
      rcases hb with hl | ⟨dec, hd, hbal⟩
      · exact Or.inl hl
      · exact Or.inr ⟨dec, hd, Bal.trans (x := 0) hbal (WBal.through_unw ((hc _).ok_of h2))⟩

/-- the entries a serialized stream carries. -/
def desEntries : List (Tok K V) → List (K × V)
  | .start _ :: rest => leadEntries rest
  | _ => []

/-- `Deserialize` into a scratch register: the decode results are stored, dropped or leaked. -/
theorem deserializeInto_bal (hv : HV E w) (toks : List (Tok K V)) (s : St K V Q) :
    DecRes E P w (desEntries toks) s (deserializeInto E toks s) := by
  unfold deserializeInto
  refine DecRes.unwindWith E ?_ (pc := none) (fun s1 => dropMap_cons E hv s1)
  cases toks with
  | nil => exact ⟨[], .done true _, Bal.refl s 0⟩
  | cons t rest =>
    cases t with
    | start n => exact visitLoop_bal E hv rest s
    | entry k v => exact ⟨[], .done true _, Bal.refl s 0⟩
    | fin => exact ⟨[], .done true _, Bal.refl s 0⟩

theorem leadEntries_map (l : List (K × V)) (tl : List (Tok K V)) (htl : leadEntries tl = []) :
    leadEntries (l.map (fun p => Tok.entry p.1 p.2) ++ tl) = l := by
  induction l with
  | nil => simpa using htl
  | cons p l ih => simp [leadEntries, ih]

theorem desEntries_serialized (n : Option Nat) (l : List (K × V)) :
    desEntries (.start n :: l.map (fun p => Tok.entry p.1 p.2) ++ [.fin]) = l := by
  simp only [desEntries, List.cons_append]
  exact leadEntries_map l [.fin] rfl

end Micromap.OwnSys
