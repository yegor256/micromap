/-
`stepMapOp` computes `lMapOp`: iterator scripts and `get_disjoint_mut`.
-/
import Micromap.Proofs.ListSysMap

namespace Micromap.ListSys
open Micromap
variable {K V Q : Type}

theorem isMut_iff (kind : IterKind) : isMut kind = true ↔ (kind = .iter_mut ∨ kind = .values_mut) := by
  cases kind <;> simp [isMut]

/-- the clones of a script as the model keeps them. -/
def forkIts (n : Nat) (forks : List Nat) : List SliceIt := forks.map fun f => ⟨f, n⟩

theorem iterRunOut_eq (kind : IterKind) {s : St K V Q} {l : List (K × V)} (hr : Rep s.r l) {f : Nat}
    (hf : f ≤ l.length) : iterRunOut kind ⟨f, l.length⟩ s = .ok (restItems kind f l) s := by
  simp only [iterRunOut, getS, bind_apply, Iters.restR_rep hr hf s, pure_apply]
  rfl

theorem iterRunForks_eq (kind : IterKind) {s : St K V Q} {l : List (K × V)} (hr : Rep s.r l) :
    ∀ (forks : List Nat), (∀ f ∈ forks, f ≤ l.length) →
      iterRunForks kind (forkIts l.length forks) s = .ok (runForks kind forks l) s
  | [], _ => rfl
  | f :: fs, h => by
    have e1 := iterRunOut_eq kind hr (h f (by simp))
    have e2 := iterRunForks_eq kind hr fs (fun f' hf' => h f' (by simp [hf']))
    show iterRunForks kind (⟨f, l.length⟩ :: forkIts l.length fs) s = _
    simp only [iterRunForks, bind_apply, e1, e2, pure_apply]
    rfl

/-- `k` is where the borrowing iterator stands, `forks` where its clones stand. -/
theorem iterScript_eq (R : Render K V) (kind : IterKind) (g : V → V) (cs : List IterCmd) :
    ∀ (k : Nat) (forks : List Nat) (s : St K V Q) (l : List (K × V)),
    Rep s.r l → k ≤ l.length → (∀ f ∈ forks, f ≤ l.length) →
    ∃ s', iterScript R kind g cs ⟨k, l.length⟩ (forkIts l.length forks) s =
        .ok (lIterScript R kind g cs k forks l).1 s' ∧ s'.w = s.w ∧ s'.r.cap = s.r.cap ∧
      Rep s'.r (lIterScript R kind g cs k forks l).2 := by
  induction cs with
  | nil =>
    intro k forks s l hr hk hf
    refine ⟨s, ?_, rfl, rfl, hr⟩
    simp only [iterScript, lIterScript]
    exact iterRunForks_eq kind hr forks hf
  | cons c cs ih =>
    intro k forks s l hr hk hf
    cases c with
    | next =>
      by_cases hlt : k < l.length
      · by_cases hm : isMut kind = true
        · have hm' : kind = IterKind.iter_mut ∨ kind = IterKind.values_mut := (isMut_iff kind).1 hm
          have hr1 : Rep ({ s with r := setSlot s.r k (some (l[k].1, g l[k].2)) } : St K V Q).r
              (l.set k (l[k].1, g l[k].2)) := hr.set hlt _
          have ih := ih (k + 1) forks _ _ hr1 (by simp; omega) (by simpa using hf)
          simp only [List.length_set] at ih
          obtain ⟨s', e, h1, h2, h3⟩ := ih
          refine ⟨s', ?_, h1, h2, ?_⟩
          · simp only [iterScript, bind_apply, pure_apply, getS, Iters.iterNextR_lt hr hlt s, hm', if_true,
              valueReplace_ok (s := s) (g l[k].2) (hr.cap_lt hlt) (hr.slot hlt), e]
            simp only [lIterScript, List.getElem?_eq_getElem hlt, hm, if_true, consOut]
          · simpa only [lIterScript, List.getElem?_eq_getElem hlt, hm, if_true, consOut] using h3
        · have hm' : ¬ (kind = IterKind.iter_mut ∨ kind = IterKind.values_mut) :=
            fun h => hm ((isMut_iff kind).2 h)
          have hmf : isMut kind = false := by simpa using hm
          obtain ⟨s', e, h1, h2, h3⟩ := ih (k + 1) forks s l hr hlt hf
          refine ⟨s', ?_, h1, h2, ?_⟩
          · simp only [iterScript, bind_apply, pure_apply, getS, Iters.iterNextR_lt hr hlt s, hm', if_false, e]
            simp only [lIterScript, List.getElem?_eq_getElem hlt, hmf, consOut, Bool.false_eq_true, if_false]
          · simpa only [lIterScript, List.getElem?_eq_getElem hlt, hmf, consOut, Bool.false_eq_true, if_false] using h3
      · have hend : ¬ (⟨k, l.length⟩ : SliceIt).lo < (⟨k, l.length⟩ : SliceIt).hi := hlt
        have hnone : l[k]? = none := List.getElem?_eq_none (by omega)
        obtain ⟨s', e, h1, h2, h3⟩ := ih k forks s l hr hk hf
        refine ⟨s', ?_, h1, h2, ?_⟩
        · simp only [iterScript, bind_apply, pure_apply, getS, Iters.iterNextR_end s.r hend s, e]
          simp only [lIterScript, hnone, consOut]
        · simpa only [lIterScript, hnone, consOut] using h3
    | len | hint =>
      obtain ⟨s', e, h1, h2, h3⟩ := ih k forks s l hr hk hf
      exact ⟨s', by simp only [iterScript, bind_apply, pure_apply, e, lIterScript, consOut, SliceIt.len],
        h1, h2, h3⟩
    | debug | debugAlt =>
      obtain ⟨s', e, h1, h2, h3⟩ := ih k forks s l hr hk hf
      exact ⟨s', by simp only [iterScript, bind_apply, pure_apply, getS, Iters.restR_rep hr hk s, e,
        lIterScript, consOut], h1, h2, h3⟩
    | clone =>
      by_cases hm : isMut kind = true
      · have hm' : kind = IterKind.iter_mut ∨ kind = IterKind.values_mut := (isMut_iff kind).1 hm
        obtain ⟨s', e, h1, h2, h3⟩ := ih k forks s l hr hk hf
        exact ⟨s', by simp only [iterScript, hm', if_true, e, lIterScript, hm], h1, h2,
          by simpa only [lIterScript, hm, if_true] using h3⟩
      · have hm' : ¬ (kind = IterKind.iter_mut ∨ kind = IterKind.values_mut) :=
          fun h => hm ((isMut_iff kind).2 h)
        have hf' : ∀ f ∈ forks ++ [k], f ≤ l.length := by
          intro f hfm
          rcases List.mem_append.mp hfm with h | h
          · exact hf f h
          · simp at h; subst h; exact hk
        obtain ⟨s', e, h1, h2, h3⟩ := ih k (forks ++ [k]) s l hr hk hf'
        have hfk : forkIts l.length (forks ++ [k]) = forkIts l.length forks ++ [⟨k, l.length⟩] := by
          simp [forkIts]
        rw [hfk] at e
        have hmf : isMut kind = false := by simpa using hm
        exact ⟨s', by simp only [iterScript, hm', if_false, e, lIterScript, hmf, Bool.false_eq_true], h1, h2,
          by simpa only [lIterScript, hmf, Bool.false_eq_true, if_false] using h3⟩
    | count | fold =>
      refine ⟨s, ?_, rfl, rfl, hr⟩
      rw [iterScript]
      simp only [bind_apply, pure_apply, iterScript, iterRunForks_eq kind hr forks hf, lIterScript,
        SliceIt.len]

theorem iterOp_ret (R : Render K V) (kind : IterKind) (g : V → V) (script : List IterCmd)
    {prof cap} {l : List (K × V)} {s : St K V Q} (hc : Ctx prof cap l s) :
    Ret (iterOp R kind g script) s (lIterScript R kind g script 0 [] l).1
      (Ctx prof cap (lIterScript R kind g script 0 [] l).2) := by
  obtain ⟨s', e, h1, h2, h3⟩ :=
    iterScript_eq R kind g script 0 [] s l hc.rep (Nat.zero_le _) (fun _ h => by simp at h)
  refine ⟨s', ?_, hc.step' h3 h2 h1⟩
  simp only [iterOp, getS, bind_apply, hc.rep.iterStartR_ok s]
  exact e

theorem lIterScript_shared (R : Render K V) {kind : IterKind} (hk : isMut kind = false) (g : V → V) :
    ∀ (cs : List IterCmd) (k : Nat) (forks : List Nat) (l : List (K × V)),
      (lIterScript R kind g cs k forks l).2 = l
  | [], _, _, _ => rfl
  | c :: cs, k, forks, l => by
    cases c <;> simp only [lIterScript, hk, consOut, Bool.false_eq_true, if_false]
    case next =>
      cases l[k]? with
      | none => exact lIterScript_shared R hk g cs k forks l
      | some p => exact lIterScript_shared R hk g cs (k + 1) forks l
    all_goals first
      | exact lIterScript_shared R hk g cs k forks l
      | exact lIterScript_shared R hk g cs k (forks ++ [k]) l

theorem readSlots_eq {r : Raw K V} {l : List (K × V)} (hr : Rep r l) (s : St K V Q) :
    ∀ res : List (Option Nat), (∀ (t j : Nat), res[t]? = some (some j) → j < l.length) →
      readSlots r res s = .ok (readL l res) s
  | [], _ => rfl
  | none :: rest, hb => by
    have ho := readSlots_eq hr s rest (fun t j h => hb (t + 1) j (by simpa using h))
    simp [readSlots, bind_apply, ho, readL]
  | some i :: rest, hb => by
    have hi : i < l.length := hb 0 i (by simp)
    have ho := readSlots_eq hr s rest (fun t j h => hb (t + 1) j (by simpa using h))
    have h1 : itemRefR r i s = .ok l[i] s := by
      unfold itemRefR; simp [hr.cap_lt hi, hr.slot hi]
    simp [readSlots, bind_apply, h1, ho, readL, List.getElem?_eq_getElem hi]

variable (E : Env K V Q) (R : Render K V)

theorem gdm_ok (hE : E.Pure) {prof cap} {l : List (K × V)} {s : St K V Q} (hc : Ctx prof cap l s)
    (other : Nat → Raw K V) (g : V → V) (ks : List (Probe K Q)) :
    RegOK prof cap (lDisjoint E l g ks) (stepMapOp E R other (.get_disjoint_mut false g ks)) s := by
  unfold lDisjoint
  obtain ⟨s1, hs, hw, hovl, hoob, hok⟩ := Disjoint.checked_pure E hE hc.rep hc.benign ks
  have hc1 := hc.frame hs hw
  show RegOK prof cap _ (get_disjoint_mut E ks >>= _) s
  by_cases hun : Disjoint.Unequal E ks
  · rw [if_neg (not_not_intro hun)]
    by_cases hov : Disjoint.Overfull E l ks
    · rw [if_pos hov]; exact Pan.bind ⟨s1, hoob hun hov, hc1⟩
    · rw [if_neg hov]
      refine Ret.bind ⟨s1, hok hun hov, hc1⟩ fun s1 hc1 => ?_
      obtain ⟨s2, g1, g2, g3, g4⟩ := Disjoint.writeSlots_eq (Q := Q) g _ s1 l hc1.rep
        fun _ _ => Disjoint.resSpec_lt E
      refine Ret.bind ⟨s2, g1, hc1.step' g2 g4 g3⟩ fun s2 hc2 => Ret.getS ?_
      have hrd := readSlots_eq hc2.rep s2 (Disjoint.resSpec E l ks) fun t j h => by
        rw [Disjoint.writeL_length]; exact Disjoint.resSpec_lt E h
      exact Ret.bind_pure ⟨s2, hrd, hc2⟩ rfl
  · rw [if_pos hun]; exact Pan.bind ⟨s1, hovl hun, hc1⟩

end Micromap.ListSys
