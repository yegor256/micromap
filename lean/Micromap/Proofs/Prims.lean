/-
Memory safety `Safe`, the world relation `WRel`, the callback triple `CbOk` (`CbAt` at one state) with
its rules for sequencing and for clean-up on unwinding, and the triples of the model's callbacks.
-/
import Micromap.Model.Map
import Micromap.Proofs.Sat

namespace Micromap

variable {K V Q : Type}

/-- what memory safety needs: no assumption about `==`. -/
def Safe (r : Raw K V) : Prop := r.len ≤ r.cap ∧ ∀ i, i < r.len → (r.slots i).isSome = true

theorem Safe.new (cap : Nat) : Safe (Raw.new cap : Raw K V) := by
  constructor
  · simp [Raw.new]
  · intro i hi; simp [Raw.new] at hi

@[simp] theorem setUnw_r (s : St K V Q) (b : Bool) : (s.setUnw b).r = s.r := rfl
@[simp] theorem setUnw_unw (s : St K V Q) (b : Bool) : (s.setUnw b).w.unwinding = b := rfl
@[simp] theorem setUnw_profile (s : St K V Q) (b : Bool) : (s.setUnw b).w.profile = s.w.profile := rfl
@[simp] theorem setUnw_inject (s : St K V Q) (b : Bool) : (s.setUnw b).w.inject = s.w.inject := rfl
@[simp] theorem setUnw_events (s : St K V Q) (b : Bool) : (s.setUnw b).w.events = s.w.events := rfl
@[simp] theorem setUnw_leaked (s : St K V Q) (b : Bool) : (s.setUnw b).w.leaked = s.w.leaked := rfl

/-- a world in which no fault is armed: callbacks run to completion. -/
def Benign (w : World K V Q) : Prop := w.inject = none ∧ w.unwinding = false

/-- effects other than comparisons: drops, clones, closure calls, pulls. -/
def Event.isEff : Event K V Q → Bool
  | .eqK .. => false
  | .eqQ .. => false
  | .eqV .. => false
  | _ => true

def World.trace (w : World K V Q) : List (Event K V Q) := w.events.filter Event.isEff

/-- `w'` is a later world of the same run: profile and unwinding flag fixed, an unarmed
    injection stays unarmed, `tr` = the effects (non-comparison events) in between. -/
structure WRel (w w' : World K V Q) (tr : List (Event K V Q)) : Prop where
  profile : w'.profile = w.profile
  unw : w'.unwinding = w.unwinding
  inj : w.inject = none → w'.inject = none
  trace : w'.trace = w.trace ++ tr

theorem WRel.refl (w : World K V Q) : WRel w w [] :=
  ⟨rfl, rfl, id, by simp⟩

theorem WRel.trans {w w' w'' : World K V Q} {t₁ t₂} (h₁ : WRel w w' t₁) (h₂ : WRel w' w'' t₂) :
    WRel w w'' (t₁ ++ t₂) :=
  ⟨h₂.profile.trans h₁.profile, h₂.unw.trans h₁.unw, fun h => h₂.inj (h₁.inj h),
   by rw [h₂.trace, h₁.trace, List.append_assoc]⟩

theorem WRel.trans' {w w' w'' : World K V Q} {t₁ t₂ t} (h₁ : WRel w w' t₁) (h₂ : WRel w' w'' t₂)
    (ht : t = t₁ ++ t₂) : WRel w w'' t := ht ▸ h₁.trans h₂

theorem WRel.benign {w w' : World K V Q} {t} (h : WRel w w' t) (hb : Benign w) : Benign w' :=
  ⟨h.inj hb.1, h.unw.trans hb.2⟩

/-- clean-up ran in unwinding mode from `s'` and the flag was restored afterwards. -/
theorem WRel.through_unw {s' s'' : St K V Q} {tr} (h : WRel (s'.setUnw true).w s''.w tr) :
    WRel s'.w (s''.setUnw s'.w.unwinding).w tr :=
  ⟨by simpa using h.profile, rfl, fun hi => by simpa using h.inj (by simpa using hi),
   by simpa [World.trace] using h.trace⟩

/-- how a callback (and hence an operation) may unwind without a check of the container's own
    failing: by an injected panic, in a world where one is armed and that is not unwinding. -/
def InjPanic (s s' : St K V Q) (c : PanicClass) : Prop :=
  c = .inject ∧ s.w.inject ≠ none ∧ s.w.unwinding = false ∧ ∃ tr', WRel s.w s'.w tr'

theorem InjPanic.of_cb {s s' : St K V Q} {tr'} (h2 : s.w.inject ≠ none) (h3 : s.w.unwinding = false)
    (h4 : WRel s.w s'.w tr') : InjPanic s s' .inject := ⟨rfl, h2, h3, tr', h4⟩

theorem InjPanic.after {s s1 s2 : St K V Q} {t c} (hw : WRel s.w s1.w t) (h : InjPanic s1 s2 c) :
    InjPanic s s2 c := by
  obtain ⟨h1, h2, h3, tr', h4⟩ := h
  exact ⟨h1, fun hn => h2 (hw.inj hn), hw.unw ▸ h3, _, hw.trans h4⟩

theorem InjPanic.extend {s s1 s2 : St K V Q} {t c} (h : InjPanic s s1 c) (hw : WRel s1.w s2.w t) :
    InjPanic s s2 c := by
  obtain ⟨h1, h2, h3, tr', h4⟩ := h
  exact ⟨h1, h2, h3, _, h4.trans hw⟩

theorem InjPanic.not_benign {s s' : St K V Q} {c} (hb : Benign s.w) (h : InjPanic s s' c) : False :=
  h.2.1 hb.1

theorem InjPanic.not_unwinding {s s' : St K V Q} {c} (hu : s.w.unwinding = true) (h : InjPanic s s' c) :
    False := by
  have := h.2.2.1; rw [hu] at this; cases this

/-- triple of a pure callback: container framed, world advanced with effects `tr a`, result
    constrained by `Qv`; it can only unwind by an injected panic, and never while unwinding. -/
def CbOk (m : SM K V Q α) (tr : α → List (Event K V Q)) (Qv : St K V Q → α → Prop) : Prop :=
  ∀ s, Sat m s (fun a s' => s'.r = s.r ∧ WRel s.w s'.w (tr a) ∧ Qv s a)
    (fun c s' => s'.r = s.r ∧ c = .inject ∧ s.w.inject ≠ none ∧ s.w.unwinding = false ∧
      ∃ tr', WRel s.w s'.w tr')

/-- the callback triple at one start state: `CbOk m tr Qv` is `∀ s, CbAt m s tr (Qv s)`, with the
    unwinding postcondition of `CbOk` read as `InjPanic`. -/
def CbAt (m : SM K V Q α) (s : St K V Q) (tr : α → List (Event K V Q)) (Qv : α → Prop) : Prop :=
  Sat m s (fun a s' => s'.r = s.r ∧ WRel s.w s'.w (tr a) ∧ Qv a) (fun c s' => s'.r = s.r ∧ InjPanic s s' c)

theorem CbOk.at {m : SM K V Q α} {tr Qv} (h : CbOk m tr Qv) (s : St K V Q) : CbAt m s tr (Qv s) := h s

theorem CbAt.pure {a : α} {s : St K V Q} {Qv : α → Prop} (h : Qv a) :
    CbAt (pure a : SM K V Q α) s (fun _ => []) Qv := ⟨rfl, WRel.refl _, h⟩

theorem CbAt.mono {m : SM K V Q α} {s : St K V Q} {tr tr' Qv Qv'} (h : CbAt m s tr Qv)
    (ht : ∀ a, Qv a → tr a = tr' a) (hq : ∀ a, Qv a → Qv' a) : CbAt m s tr' Qv' :=
  Sat.mono h (fun a _ ⟨h1, h2, h3⟩ => ⟨h1, ht a h3 ▸ h2, hq a h3⟩) (fun _ _ h' => h')

theorem CbAt.shift {m : SM K V Q α} {s s1 : St K V Q} {t₁ tr Qv} (hw : WRel s.w s1.w t₁)
    (h : CbAt m s1 tr Qv) :
    Sat m s1 (fun a s' => s'.r = s1.r ∧ WRel s.w s'.w (t₁ ++ tr a) ∧ Qv a)
      (fun c s' => s'.r = s1.r ∧ InjPanic s s' c) :=
  Sat.mono h (fun _ _ ⟨g1, g2, g3⟩ => ⟨g1, hw.trans g2, g3⟩) (fun _ _ ⟨g1, g2⟩ => ⟨g1, g2.after hw⟩)

theorem CbAt.after {m : SM K V Q α} {s s1 : St K V Q} {t₁ tr Qv} (h1 : s1.r = s.r)
    (hw : WRel s.w s1.w t₁) (h : CbAt m s1 tr Qv) :
    Sat m s1 (fun a s' => s'.r = s.r ∧ WRel s.w s'.w (t₁ ++ tr a) ∧ Qv a)
      (fun c s' => s'.r = s.r ∧ InjPanic s s' c) :=
  Sat.mono (h.shift hw) (fun _ _ ⟨g1, g2⟩ => ⟨g1.trans h1, g2⟩) (fun _ _ ⟨g1, g2⟩ => ⟨g1.trans h1, g2⟩)

theorem CbAt.bind {m : SM K V Q α} {f : α → SM K V Q β} {s : St K V Q} {t₁ : List (Event K V Q)}
    {t₂ : β → List (Event K V Q)} {Q₁ : α → Prop} {Q₂ : β → Prop}
    (hm : CbAt m s (fun _ => t₁) Q₁)
    (hf : ∀ a s1, s1.r = s.r → WRel s.w s1.w t₁ → Q₁ a → CbAt (f a) s1 t₂ Q₂) :
    CbAt (m >>= f) s (fun b => t₁ ++ t₂ b) Q₂ :=
  Sat.bind hm fun a s1 ⟨h1, h2, h3⟩ => (hf a s1 h1 h2 h3).after h1 h2

theorem CbAt.benign {m : SM K V Q α} {s : St K V Q} {tr Qv} (h : CbAt m s tr Qv) (hb : Benign s.w) :
    ∃ a s', m s = .ok a s' ∧ s'.r = s.r ∧ WRel s.w s'.w (tr a) ∧ Qv a :=
  Sat.must_return h fun _ _ hp => hp.2.not_benign hb

theorem CbOk.benign {m : SM K V Q α} {tr Qv} (h : CbOk m tr Qv) {s : St K V Q} (hb : Benign s.w) :
    ∃ a s', m s = .ok a s' ∧ s'.r = s.r ∧ WRel s.w s'.w (tr a) ∧ Qv s a :=
  (h.at s).benign hb

theorem tick_cb : CbOk (tick : SM K V Q Unit) (fun _ => []) (fun _ _ => True) := by
  intro s
  obtain ⟨r, ⟨profile, inject, unwinding, calls, nextId, events, leaked⟩⟩ := s
  unfold Sat tick
  cases unwinding with
  | true => exact ⟨rfl, ⟨rfl, rfl, id, by simp [World.trace]⟩, trivial⟩
  | false =>
    cases inject with
    | none => exact ⟨rfl, ⟨rfl, rfl, id, by simp [World.trace]⟩, trivial⟩
    | some n =>
      cases n with
      | zero =>
        exact ⟨rfl, rfl, by simp, rfl, [], ⟨rfl, rfl, fun h => by simp at h, by simp [World.trace]⟩⟩
      | succ n => exact ⟨rfl, ⟨rfl, rfl, fun h => by simp at h, by simp [World.trace]⟩, trivial⟩

theorem logE_cb (e : Event K V Q) :
    CbOk (logE e) (fun _ => if e.isEff then [e] else []) (fun _ _ => True) := by
  intro s
  unfold Sat logE modS
  refine ⟨rfl, ⟨rfl, rfl, id, ?_⟩, trivial⟩
  simp only [World.trace, List.filter_append]
  cases h : e.isEff <;> simp [h]

theorem leak_cb (o : Obj K V) : CbOk (leak o : SM K V Q Unit) (fun _ => []) (fun _ _ => True) := by
  intro s
  unfold Sat leak modS
  exact ⟨rfl, ⟨rfl, rfl, id, by simp [World.trace]⟩, trivial⟩

theorem Sat.cb_last {m : SM K V Q α} {tr Qv} (h : CbOk m tr Qv) {s : St K V Q}
    {Qp : α → St K V Q → Prop} {P : PanicClass → St K V Q → Prop}
    (hk : ∀ a s', s'.r = s.r → WRel s.w s'.w (tr a) → Qv s a → Qp a s')
    (hp : ∀ s' tr', s'.r = s.r → s.w.inject ≠ none → s.w.unwinding = false → WRel s.w s'.w tr' →
      P .inject s') :
    Sat m s Qp P :=
  Sat.mono (h s) (fun a s' ⟨h1, h2, h3⟩ => hk a s' h1 h2 h3)
    fun _ s' ⟨h1, h2, h3, h4, tr', h5⟩ => h2 ▸ hp s' tr' h1 h3 h4 h5

theorem Sat.cb {m : SM K V Q α} {tr Qv} (h : CbOk m tr Qv) {f : α → SM K V Q β} {s : St K V Q}
    {Qp : β → St K V Q → Prop} {P : PanicClass → St K V Q → Prop}
    (hk : ∀ a s', s'.r = s.r → WRel s.w s'.w (tr a) → Qv s a → Sat (f a) s' Qp P)
    (hp : ∀ s' tr', s'.r = s.r → s.w.inject ≠ none → s.w.unwinding = false → WRel s.w s'.w tr' →
      P .inject s') :
    Sat (m >>= f) s Qp P :=
  Sat.bind (Sat.cb_last h (Qp := fun a s' => s'.r = s.r ∧ WRel s.w s'.w (tr a) ∧ Qv s a)
    (fun _ _ h1 h2 h3 => ⟨h1, h2, h3⟩) hp) fun a s' ⟨h1, h2, h3⟩ => hk a s' h1 h2 h3

theorem CbOk.mono {m : SM K V Q α} {tr tr' Qv Qv'} (h : CbOk m tr Qv)
    (ht : ∀ a, tr a = tr' a) (hq : ∀ s a, Qv s a → Qv' s a) : CbOk m tr' Qv' := by
  intro s
  exact Sat.mono (h s) (fun a s' ⟨h1, h2, h3⟩ => ⟨h1, ht a ▸ h2, hq s a h3⟩) (fun _ _ h' => h')

theorem CbOk.seq {m : SM K V Q α} {f : α → SM K V Q β} {t₁ : List (Event K V Q)}
    {t₂ : β → List (Event K V Q)} {Q₁ : St K V Q → α → Prop} {Q₂ : β → Prop}
    (hm : CbOk m (fun _ => t₁) Q₁) (hf : ∀ a, CbOk (f a) t₂ (fun _ b => Q₂ b)) :
    CbOk (m >>= f) (fun b => t₁ ++ t₂ b) (fun _ b => Q₂ b) :=
  fun s => (hm.at s).bind fun a s1 _ _ _ => hf a s1

theorem CbOk.pure (a : α) : CbOk (pure a : SM K V Q α) (fun _ => []) (fun _ b => b = a) :=
  fun s => ⟨rfl, WRel.refl _, rfl⟩

theorem unwindWith_of_ok {c : SM K V Q Unit} {body : SM K V Q α} {s s' : St K V Q} {a : α}
    (h : body s = .ok a s') : Micromap.unwindWith c body s = .ok a s' := by
  unfold Micromap.unwindWith; rw [h]

theorem unwindWith_of_panic {c : SM K V Q Unit} {body : SM K V Q α} {s s1 s2 : St K V Q} {cl : PanicClass}
    (h : body s = .panic cl s1) (hc : c (s1.setUnw true) = .ok () s2) :
    Micromap.unwindWith c body s = .panic cl (s2.setUnw s1.w.unwinding) := by
  unfold Micromap.unwindWith; rw [h]; simp only [hc]

/-- the clean-up runs from the body's unwinding state, in unwinding mode, and must complete. -/
theorem Sat.unwindWith {cleanup : SM K V Q Unit} {body : SM K V Q α} {s : St K V Q}
    {Qp : α → St K V Q → Prop} {P P₀ : PanicClass → St K V Q → Prop}
    (hb : Sat body s Qp P₀)
    (hc : ∀ c s', P₀ c s' → Sat cleanup (s'.setUnw true)
      (fun _ s'' => P c (s''.setUnw s'.w.unwinding)) (fun _ _ => False)) :
    Sat (Micromap.unwindWith cleanup body) s Qp P := by
  rcases hb.cases with ⟨a, s', hm, hq⟩ | ⟨c, s', hm, hp⟩
  · exact Sat.of_ok (unwindWith_of_ok hm) hq
  · obtain ⟨_, s'', hcm, hpost⟩ := (hc c s' hp).must_return fun _ _ h => h
    unfold Sat; rw [unwindWith_of_panic hm hcm]; exact hpost

theorem CbOk.unw {m : SM K V Q α} {tr Qv} (h : CbOk m tr Qv) (s : St K V Q) (hu : s.w.unwinding = true) :
    Sat m s (fun a s' => s'.r = s.r ∧ WRel s.w s'.w (tr a) ∧ Qv s a) (fun _ _ => False) :=
  Sat.mono (h.at s) (fun _ _ h' => h') fun _ _ hp => hp.2.not_unwinding hu

theorem unwindWith_cb_panic {c : SM K V Q Unit} {tc Qc} (hc : CbOk c tc Qc) {body : SM K V Q α}
    {s s1 : St K V Q} {cl : PanicClass} (h : body s = .panic cl s1) :
    ∃ s2, Micromap.unwindWith c body s = .panic cl s2 ∧ s2.r = s1.r ∧ WRel s1.w s2.w (tc ()) := by
  obtain ⟨_, s2, hd, g1, g2, _⟩ := (hc.unw (s1.setUnw true) rfl).must_return fun _ _ h => h
  exact ⟨_, unwindWith_of_panic h hd, g1, g2.through_unw⟩

/-- `unwindWith` whose clean-up is a callback: the clean-up completes, so a property of the body's
    unwinding state only has to survive a framed world step with the clean-up's effects. -/
theorem Sat.unwindWith_cb {cleanup : SM K V Q Unit} {body : SM K V Q α} {s : St K V Q}
    {Qp : α → St K V Q → Prop} {P P₀ : PanicClass → St K V Q → Prop} {tc Qc}
    (hc : CbOk cleanup tc Qc) (hb : Sat body s Qp P₀)
    (hP : ∀ c s' s'', P₀ c s' → s''.r = s'.r → WRel s'.w s''.w (tc ()) → P c s'') :
    Sat (Micromap.unwindWith cleanup body) s Qp P := by
  refine Sat.unwindWith hb fun c s' h => ?_
  refine Sat.mono (hc.unw (s'.setUnw true) rfl) ?_ (fun _ _ h => h)
  intro _ s'' ⟨g1, g2, _⟩
  exact hP c s' _ h g1 g2.through_unw

theorem CbOk.unwindWith {c : SM K V Q Unit} {b : SM K V Q α} {tc tb Qc Qb}
    (hc : CbOk c tc Qc) (hb : CbOk b tb Qb) : CbOk (Micromap.unwindWith c b) tb Qb := fun s =>
  Sat.unwindWith_cb hc (hb.at s) fun _ _ _ ⟨h1, h2⟩ g1 g2 => ⟨g1.trans h1, h2.extend g2⟩

theorem Sat.getS_bind {f : St K V Q → SM K V Q β} {s : St K V Q} {Qp P} (h : Sat (f s) s Qp P) :
    Sat (Micromap.getS >>= f) s Qp P := h

theorem assertP_of {p : Prop} [Decidable p] (h : p) (c : PanicClass) (s : St K V Q) :
    assertP (decide p) c s = .ok () s := if_pos (decide_eq_true h)

theorem Sat.getLen_bind {f : Nat → SM K V Q β} {s : St K V Q} {Qp P} (h : Sat (f s.r.len) s Qp P) :
    Sat (getLen >>= f) s Qp P := h

theorem Sat.getCap_bind {f : Nat → SM K V Q β} {s : St K V Q} {Qp P} (h : Sat (f s.r.cap) s Qp P) :
    Sat (getCap >>= f) s Qp P := h

variable (E : Env K V Q)

theorem logTick_cb (e : Event K V Q) (he : e.isEff = true) :
    CbOk (do logE e; tick) (fun _ => [e]) (fun _ _ => True) :=
  (CbOk.seq (logE_cb e) fun _ => tick_cb).mono (fun _ => by simp [he]) (fun _ _ h => h)

theorem tickLog_cb (e : Event K V Q) (he : e.isEff = true) :
    CbOk (do tick; logE e) (fun _ => [e]) (fun _ _ => True) :=
  (CbOk.seq tick_cb fun _ => logE_cb e).mono (fun _ => by simp [he]) (fun _ _ h => h)

theorem dropK_cb (k : K) : CbOk (dropK k : SM K V Q Unit) (fun _ => [.dropK k]) (fun _ _ => True) :=
  logTick_cb _ rfl

/-- the effect of dropping a value: nothing for `V = ()`. -/
def dropVTr (v : V) : List (Event K V Q) := if E.vGlue then [.dropV v] else []

theorem dropV_cb (v : V) : CbOk (dropV E v) (fun _ => dropVTr E v) (fun _ _ => True) := by
  unfold dropV dropVTr
  split
  · exact logTick_cb _ rfl
  · exact (CbOk.pure ()).mono (fun _ => rfl) (fun _ _ _ => trivial)

theorem dropPair_cb (p : K × V) :
    CbOk (dropPair E p) (fun _ => .dropK p.1 :: dropVTr E p.2) (fun _ _ => True) := by
  unfold dropPair
  have := CbOk.seq (CbOk.unwindWith (dropV_cb E p.2) (dropK_cb p.1)) (fun _ => dropV_cb E p.2)
  exact this.mono (fun _ => rfl) (fun _ _ h => h)

theorem dropArgs_cb (k : K) (v : V) :
    CbOk (dropArgs E k v) (fun _ => dropVTr E v ++ [.dropK k]) (fun _ _ => True) := by
  unfold dropArgs
  have := CbOk.seq (CbOk.unwindWith (dropK_cb k) (dropV_cb E v)) (fun _ => dropK_cb (V := V) (Q := Q) k)
  exact this.mono (fun _ => rfl) (fun _ _ h => h)

theorem callF_cb (tag : Nat) : CbOk (callF tag : SM K V Q Unit) (fun _ => [.call tag]) (fun _ _ => True) :=
  tickLog_cb _ rfl

theorem pullSrc_cb : CbOk (pullSrc : SM K V Q Unit) (fun _ => [.pull]) (fun _ _ => True) :=
  tickLog_cb _ rfl

theorem cmp_cb (g : Nat → Bool) (e : Bool → Event K V Q) (he : ∀ r, (e r).isEff = false) :
    CbOk (do tick; let s ← getS; logE (e (g s.w.calls)); pure (g s.w.calls) : SM K V Q Bool)
      (fun _ => []) (fun _ r => ∃ n, r = g n) := by
  intro s
  refine (CbAt.bind (tick_cb.at s) fun _ s1 _ _ _ => ?_).mono (fun _ _ => rfl) (fun _ h => h)
  exact (CbAt.bind (f := fun _ => pure _) ((logE_cb _).at s1) fun _ _ _ _ _ =>
    CbAt.pure (Qv := fun r => ∃ n, r = g n) ⟨_, rfl⟩).mono (fun _ _ => by rw [he]) (fun _ h => h)

theorem eqK_cb (a b : K) :
    CbOk (eqK E a b) (fun _ => []) (fun _ r => ∃ n, r = E.eqK n a b) :=
  cmp_cb (E.eqK · a b) (.eqK a b) fun _ => rfl

theorem eqQ_cb (a b : Q) :
    CbOk (eqQ E a b) (fun _ => []) (fun _ r => ∃ n, r = E.eqQ n a b) :=
  cmp_cb (E.eqQ · a b) (.eqQ a b) fun _ => rfl

theorem eqV_cb (a b : V) :
    CbOk (eqV E a b) (fun _ => []) (fun _ r => r = if E.vGlue then E.eqV a b else true) := by
  unfold eqV
  split
  · intro s
    refine (CbAt.bind (tick_cb.at s) fun _ s1 _ _ _ => ?_).mono (fun _ _ => rfl) (fun _ h => h)
    exact (CbAt.bind (f := fun _ => pure _) ((logE_cb _).at s1) fun _ _ _ _ _ => CbAt.pure (Qv := fun r => r = E.eqV a b) rfl).mono
      (fun _ _ => rfl) (fun _ h => h)
  · exact (CbOk.pure true).mono (fun _ => rfl) (fun _ _ h => h)

end Micromap
