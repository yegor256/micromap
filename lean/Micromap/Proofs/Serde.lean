/-
serde over the abstract data model: the token stream `serialize` emits, and what `decodeK` does.
This is all the list-level interpreter (`ListSysBuild`, `ListSysRefine`) needs of serde; the
visitor loop of `Deserialize` is in `SerdeAny`.
-/
import Micromap.Model.Sys

namespace Micromap.Serde
variable {K V Q : Type} (E : Env K V Q)

/-- the token stream of a container holding `l`. -/
def tokens (l : List (K × V)) : List (Tok K V) :=
  .start (some l.length) :: l.map (fun p => Tok.entry p.1 p.2) ++ [.fin]

theorem decodeK_ok (k : K) (s : St K V Q) :
    decodeK E k s = .ok (E.clK s.w.nextId k) { s with w := { s.w with nextId := s.w.nextId + 1 } } := rfl

end Micromap.Serde
