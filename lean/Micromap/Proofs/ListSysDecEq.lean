/-
Decidable equality of returned-value trees (`RV` is a nested inductive type, for which `deriving`
does not apply): used by the executable examples of `Props/SysSpec.lean`.
-/
import Micromap.Spec.ListSys

namespace Micromap.ListSys
open Micromap
variable {K V : Type}

mutual
def RV.beq [DecidableEq K] [DecidableEq V] : RV K V → RV K V → Bool
  | .unit, .unit => true
  | .none, .none => true
  | .bool a, .bool b => a == b
  | .nat a, .nat b => a == b
  | .key a, .key b => decide (a = b)
  | .val a, .val b => decide (a = b)
  | .pair a b, .pair c d => decide (a = c) && decide (b = d)
  | .ref s x, .ref t y => s == t && RV.beq x y
  | .oref o s x, .oref p t y => o == p && s == t && RV.beq x y
  | .some x, .some y => RV.beq x y
  | .list xs, .list ys => RV.beqL xs ys
  | .hint a b, .hint c d => a == c && b == d
  | .str a, .str b => a == b
  | .tag a, .tag b => a == b
  | _, _ => false
def RV.beqL [DecidableEq K] [DecidableEq V] : List (RV K V) → List (RV K V) → Bool
  | [], [] => true
  | x :: xs, y :: ys => RV.beq x y && RV.beqL xs ys
  | _, _ => false
end

/- `RV.beq` is structurally recursive: on two constructors it reduces, to `false` off the diagonal
(`cases h`) and to the comparison of the arguments on it. -/
mutual
theorem RV.eq_of_beq [DecidableEq K] [DecidableEq V] : ∀ (a b : RV K V), RV.beq a b = true → a = b
  | .unit, b, h => by cases b with | unit => rfl | _ => cases h
  | .none, b, h => by cases b with | none => rfl | _ => cases h
  | .bool x, b, h => by cases b with | bool y => exact congrArg _ (LawfulBEq.eq_of_beq (α := Bool) h) | _ => cases h
  | .nat x, b, h => by cases b with | nat y => exact congrArg _ (LawfulBEq.eq_of_beq (α := Nat) h) | _ => cases h
  | .key x, b, h => by cases b with | key y => exact congrArg _ (of_decide_eq_true (p := x = y) h) | _ => cases h
  | .val x, b, h => by cases b with | val y => exact congrArg _ (of_decide_eq_true (p := x = y) h) | _ => cases h
  | .str x, b, h => by cases b with | str y => exact congrArg _ (LawfulBEq.eq_of_beq (α := String) h) | _ => cases h
  | .tag x, b, h => by cases b with | tag y => exact congrArg _ (LawfulBEq.eq_of_beq (α := String) h) | _ => cases h
  | .pair x y, b, h => by
    cases b with
    | pair c d =>
      obtain ⟨h1, h2⟩ := (Bool.and_eq_true_iff (x := decide (x = c)) (y := decide (y = d))).mp h
      rw [of_decide_eq_true h1, of_decide_eq_true h2]
    | _ => cases h
  | .hint x y, b, h => by
    cases b with
    | hint c d =>
      obtain ⟨h1, h2⟩ := (Bool.and_eq_true_iff (x := x == c) (y := y == d)).mp h
      rw [LawfulBEq.eq_of_beq h1, LawfulBEq.eq_of_beq h2]
    | _ => cases h
  | .ref s x, b, h => by
    cases b with
    | ref t y =>
      obtain ⟨h1, h2⟩ := (Bool.and_eq_true_iff (x := s == t) (y := RV.beq x y)).mp h
      rw [LawfulBEq.eq_of_beq h1, RV.eq_of_beq x y h2]
    | _ => cases h
  | .oref o s x, b, h => by
    cases b with
    | oref p t y =>
      obtain ⟨h12, h3⟩ := (Bool.and_eq_true_iff (x := o == p && s == t) (y := RV.beq x y)).mp h
      obtain ⟨h1, h2⟩ := Bool.and_eq_true_iff.mp h12
      rw [LawfulBEq.eq_of_beq h1, LawfulBEq.eq_of_beq h2, RV.eq_of_beq x y h3]
    | _ => cases h
  | .some x, b, h => by cases b with | some y => exact congrArg _ (RV.eq_of_beq x y h) | _ => cases h
  | .list xs, b, h => by cases b with | list ys => exact congrArg _ (RV.eqL_of_beqL xs ys h) | _ => cases h
theorem RV.eqL_of_beqL [DecidableEq K] [DecidableEq V] :
    ∀ (xs ys : List (RV K V)), RV.beqL xs ys = true → xs = ys
  | [], [], _ => rfl
  | x :: xs, y :: ys, h => by
    obtain ⟨h1, h2⟩ := (Bool.and_eq_true_iff (x := RV.beq x y) (y := RV.beqL xs ys)).mp h
    rw [RV.eq_of_beq x y h1, RV.eqL_of_beqL xs ys h2]
  | [], _ :: _, h => by cases h
  | _ :: _, [], h => by cases h
end

mutual
theorem RV.beq_self [DecidableEq K] [DecidableEq V] : ∀ (a : RV K V), RV.beq a a = true
  | .unit | .none => rfl
  | .bool x => beq_self_eq_true x
  | .nat x => beq_self_eq_true x
  | .str x | .tag x => beq_self_eq_true x
  | .key x => decide_eq_true (p := x = x) rfl
  | .val x => decide_eq_true (p := x = x) rfl
  | .pair x y => Bool.and_eq_true_iff.mpr ⟨decide_eq_true (p := x = x) rfl, decide_eq_true (p := y = y) rfl⟩
  | .hint x y => Bool.and_eq_true_iff.mpr ⟨beq_self_eq_true x, beq_self_eq_true y⟩
  | .ref s x => Bool.and_eq_true_iff.mpr ⟨beq_self_eq_true s, RV.beq_self x⟩
  | .oref o s x =>
    Bool.and_eq_true_iff.mpr ⟨Bool.and_eq_true_iff.mpr ⟨beq_self_eq_true o, beq_self_eq_true s⟩, RV.beq_self x⟩
  | .some x => RV.beq_self x
  | .list xs => RV.beqL_self xs
theorem RV.beqL_self [DecidableEq K] [DecidableEq V] : ∀ (xs : List (RV K V)), RV.beqL xs xs = true
  | [] => rfl
  | x :: xs => Bool.and_eq_true_iff.mpr ⟨RV.beq_self x, RV.beqL_self xs⟩
end
instance [DecidableEq K] [DecidableEq V] : DecidableEq (RV K V) := fun a b =>
  if h : RV.beq a b = true then isTrue (RV.eq_of_beq a b h)
  else isFalse (fun e => h (e ▸ RV.beq_self a))

instance [DecidableEq K] [DecidableEq V] : DecidableEq (LOut K V) := fun a b =>
  if h : a.outcome = b.outcome ∧ a.ret = b.ret then
    isTrue (by cases a; cases b; simp only [LOut.mk.injEq]; exact h)
  else isFalse (fun e => h (e ▸ ⟨rfl, rfl⟩))

end Micromap.ListSys
