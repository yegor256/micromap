/-
A container built in a scratch register (`from_iter`, `Deserialize`, `&a - &b`) has no
ghost-live slot at or beyond `len` at any moment (`NoGarb`), whatever the user code does (any world,
any `==`).  Consequence: when the construction unwinds and the scratch register is dropped
(`unwindWith (dropMap E)`), NO slot of it is live afterwards — the discarded local takes no object
with it (`scratch_dead`).  This is what lets the system-level ledger forget the scratch register.
(For `clone` the same deadness is part of `EqClone.cloneInto_sat`.)
-/
import Micromap.Proofs.OwnAlg
import Micromap.Proofs.SysInv

set_option linter.unusedSectionVars false

namespace Micromap.OwnSys
open Micromap Ledger Own
variable {K V Q : Type}

/-- the run leaves the register as it is. -/
abbrev FrameR {α : Type} (m : SM K V Q α) : Prop := Keeps St.r m

theorem FrameR.of_cb {α : Type} {m : SM K V Q α} {tr Qv} (h : CbOk m tr Qv) : FrameR m := by
  intro s
  have := h s
  unfold Sat at this
  cases hm : m s with
  | ok a s' => rw [hm] at this; exact this.1
  | panic c s' => rw [hm] at this; exact this.1
  | ub => trivial

variable (E : Env K V Q)

theorem frame_probeEq (stored : K) (pr : Probe K Q) : FrameR (probeEq E stored pr) := by
  cases pr with
  | key k => exact FrameR.of_cb (eqK_cb E stored k)
  | q q => exact FrameR.of_cb (eqQ_cb E (E.borrow stored) q)

def NoGarb (r : Raw K V) : Prop := ∀ j, r.len ≤ j → r.slots j = none

theorem NoGarb.new (cap : Nat) : NoGarb (Raw.new cap : Raw K V) := fun _ _ => rfl

/-- in the terms of the model's leak report: nothing is unreachable. -/
theorem NoGarb.garbage {r : Raw K V} (h : NoGarb r) : garbage r = [] := by
  have : ∀ n, garbageFrom r n = [] := by
    intro n
    induction n with
    | zero => rfl
    | succ n ih =>
      simp only [garbageFrom, ih, List.nil_append]
      split
      · rename_i hle; rw [h n hle]
      · rfl
  exact this _

def OpG {α : Type} (m : SM K V Q α) : Prop :=
  ∀ s, NoGarb s.r → match m s with
    | .ok _ s' => NoGarb s'.r
    | .panic _ s' => NoGarb s'.r
    | .ub => True

theorem OpG.of_frame {α : Type} {m : SM K V Q α} (h : FrameR m) : OpG m := by
  intro s hs
  have := h s
  cases hm : m s with
  | ok a s' => rw [hm] at this; simp only; rw [this]; exact hs
  | panic c s' => rw [hm] at this; simp only; rw [this]; exact hs
  | ub => trivial

theorem OpG.of_cb {α : Type} {m : SM K V Q α} {tr Qv} (h : CbOk m tr Qv) : OpG m := OpG.of_frame (FrameR.of_cb h)

theorem OpG.pure {α : Type} (a : α) : OpG (pure a : SM K V Q α) := fun _ hs => hs

theorem OpG.bind {α β : Type} {m : SM K V Q α} {f : α → SM K V Q β} (hm : OpG m)
    (hf : ∀ a, OpG (f a)) : OpG (m >>= f) := by
  intro s hs
  have h1 := hm s hs
  simp only [bind_apply]
  cases hm' : m s with
  | ok a s1 =>
    rw [hm'] at h1
    exact hf a s1 h1
  | panic c s1 => rw [hm'] at h1; exact h1
  | ub => trivial

theorem OpG.unwindWith {α : Type} {cleanup : SM K V Q Unit} {body : SM K V Q α} (hc : OpG cleanup)
    (hb : OpG body) : OpG (Micromap.unwindWith cleanup body) := by
  intro s hs
  have h1 := hb s hs
  unfold Micromap.unwindWith
  cases hm : body s with
  | ok a s1 => rw [hm] at h1; exact h1
  | ub => trivial
  | panic c s1 =>
    rw [hm] at h1
    have h2 := hc (s1.setUnw true) h1
    simp only
    cases hcl : cleanup (s1.setUnw true) with
    | ok u s2 => rw [hcl] at h2; exact h2
    | panic c2 s2 => trivial
    | ub => trivial

/-- a write to a live slot: the slot is below `len`. -/
theorem NoGarb.setSlot {r : Raw K V} (h : NoGarb r) {i : Nat} {old : K × V} (hi : r.slots i = some old)
    (o : Option (K × V)) : NoGarb (setSlot r i o) := by
  intro j hj
  have hj' : r.len ≤ j := hj
  show (if j = i then o else r.slots j) = none
  by_cases hji : j = i
  · subst hji; rw [h j hj'] at hi; cases hi
  · simp only [hji, if_false]; exact h j hj'

theorem opG_pairReplace (i : Nat) (p : K × V) : OpG (pairReplace i p : SM K V Q (K × V)) := by
  intro s hs
  unfold pairReplace
  by_cases hi : i < s.r.cap
  · cases hsl : s.r.slots i with
    | none => simp [hi]
    | some old => simp only [hi, if_true]; exact hs.setSlot hsl _
  · simp [hi]

theorem opG_valueReplace (i : Nat) (v : V) : OpG (valueReplace i v : SM K V Q V) := by
  intro s hs
  unfold valueReplace
  by_cases hi : i < s.r.cap
  · cases hsl : s.r.slots i with
    | none => simp [hi]
    | some old => simp only [hi, if_true]; exact hs.setSlot hsl _
  · simp [hi]

/-- the append path of `insert_ii`: write slot `len`, then publish `len + 1`. -/
theorem opG_append (k : K) (v : V) : OpG (do
    let i ← getLen
    let cap ← getCap
    debugAssert (i < cap) .overflow
    checkedWrite i (k, v)
    setLen (i + 1)
    pure (i, (none : Option (K × V))) : SM K V Q (Nat × Option (K × V))) := by
  intro s hs
  have hset : NoGarb ({ setSlot s.r s.r.len (some (k, v)) with len := s.r.len + 1 } : Raw K V) := by
    intro j hj
    have hj' : s.r.len + 1 ≤ j := hj
    show (if j = s.r.len then some (k, v) else s.r.slots j) = none
    have : j ≠ s.r.len := by omega
    simp only [this, if_false]
    exact hs j (by omega)
  simp only [bind_apply, getLen, getCap, debugAssert, checkedWrite, itemWrite, setLen, modS, pure_apply]
  cases s.w.profile <;> by_cases hlt : s.r.len < s.r.cap <;> simp only [hlt, decide_true, decide_false, if_true, if_false] <;>
    first
    | exact hs
    | (cases hsl : s.r.slots s.r.len <;> exact hset)

theorem opG_insert_ii (k : K) (v : V) (upd : Bool) : OpG (insert_ii E k v upd) := by
  unfold insert_ii
  refine OpG.unwindWith (OpG.of_cb (dropArgs_cb E k v)) ?_
  refine OpG.bind (OpG.of_frame (keeps_scan E (fun p => frame_probeEq E p _))) (fun o => ?_)
  cases o with
  | some i =>
    simp only
    split
    · exact OpG.bind (opG_pairReplace i _) (fun _ => OpG.pure _)
    · exact OpG.bind (opG_valueReplace i _) (fun _ => OpG.pure _)
  | none => exact opG_append k v

theorem opG_dropReturnedKey (o : Option (K × V)) : OpG (dropReturnedKey o : SM K V Q (Option V)) := by
  cases o with
  | none => exact OpG.pure _
  | some p =>
    obtain ⟨k, v⟩ := p
    unfold dropReturnedKey
    refine OpG.bind (OpG.unwindWith (OpG.of_cb (leak_cb _)) (OpG.of_cb (dropK_cb k)))
      (fun _ => OpG.pure _)

theorem opG_insert (k : K) (v : V) : OpG (insert E k v) := by
  unfold insert
  refine OpG.bind (opG_insert_ii E k v false) (fun r => ?_)
  obtain ⟨j, ex⟩ := r
  exact opG_dropReturnedKey ex

theorem opG_extendLoop (pulls : Bool) : ∀ xs : List (K × V), OpG (extendLoop E pulls xs)
  | [] => by
    unfold extendLoop
    cases pulls
    · exact OpG.pure ()
    · exact OpG.of_cb pullSrc_cb
  | (k, v) :: rest => by
    have ih := opG_extendLoop pulls rest
    have hdl : OpG (dropList E rest) := OpG.of_cb (FromIter.dropList_cb E rest)
    have hbody : OpG (do
        let o ← unwindWith (dropList E rest) (insert E k v)
        match o with
        | some old => do
          unwindWith (dropList E rest) (dropV E old)
          extendLoop E pulls rest
        | none => extendLoop E pulls rest) := by
      refine OpG.bind (OpG.unwindWith hdl (opG_insert E k v)) (fun o => ?_)
      cases o with
      | none => exact ih
      | some old =>
        exact OpG.bind (OpG.unwindWith hdl (OpG.of_cb (dropV_cb E old))) (fun _ => ih)
    unfold extendLoop
    cases pulls
    · exact hbody
    · exact OpG.bind (OpG.unwindWith (OpG.of_cb (FromIter.dropList_cb E _))
        (OpG.of_cb pullSrc_cb)) (fun _ => hbody)

theorem frame_decodeK (k : K) : FrameR (decodeK E k) := fun _ => rfl

theorem frame_decodeV (v : V) : FrameR (decodeV E v) := by
  intro s
  unfold decodeV
  cases E.vGlue <;> rfl

theorem opG_visitLoop : ∀ toks : List (Tok K V), OpG (visitLoop E toks)
  | [] => by unfold visitLoop; exact OpG.pure ()
  | .start _ :: _ => by unfold visitLoop; exact OpG.pure ()
  | .fin :: _ => by unfold visitLoop; exact OpG.pure ()
  | .entry k v :: rest => by
    unfold visitLoop
    refine OpG.bind (OpG.of_frame (frame_decodeK E k)) (fun k' => ?_)
    refine OpG.bind (OpG.of_frame (frame_decodeV E v)) (fun v' => ?_)
    refine OpG.bind (opG_insert E k' v') (fun o => ?_)
    cases o with
    | none => exact opG_visitLoop rest
    | some old => exact OpG.bind (OpG.of_cb (dropV_cb E old)) (fun _ => opG_visitLoop rest)

theorem frame_filtNextR (a b : Raw K V) (want : Bool) : ∀ n lo, FrameR (filtNextR E a b want n lo)
  | 0, _ => Keeps.pure _ _
  | n + 1, lo => by
    unfold filtNextR
    refine Keeps.bind (keeps_itemRefR _ a lo) (fun p => ?_)
    refine Keeps.bind (keeps_scanR E (fun k => frame_probeEq E k _) b) (fun c => ?_)
    split
    · exact Keeps.pure _ _
    · exact frame_filtNextR a b want n (lo + 1)

theorem frame_filtNext (a b : Raw K V) (want : Bool) (it : SliceIt) : FrameR (filtNext E a b want it) := by
  unfold filtNext
  refine Keeps.bind (frame_filtNextR E a b want _ _) (fun r => ?_)
  obtain ⟨o, lo'⟩ := r
  exact Keeps.pure _ _

theorem opG_subLoop {K Q : Type} (F : Env K Unit Q) (a b : Raw K Unit) : ∀ n it, OpG (subLoop F a b n it)
  | 0, _ => OpG.pure ()
  | n + 1, it => by
    unfold subLoop
    refine OpG.bind (OpG.of_frame (frame_filtNext F a b false it)) (fun r => ?_)
    obtain ⟨o, it'⟩ := r
    cases o with
    | none => exact OpG.pure ()
    | some x =>
      obtain ⟨j, k⟩ := x
      refine OpG.bind (OpG.of_cb (EqClone.cloneK_cb F k)) (fun k' => ?_)
      exact OpG.bind (opG_insert F k' ()) (fun _ => opG_subLoop F a b n it')

theorem frame_iterStartR (r : Raw K V) : FrameR (iterStartR r : SM K V Q SliceIt) := by
  intro s
  unfold iterStartR
  by_cases h : r.len ≤ r.cap
  · simp only [h, if_true]; rfl
  · simp only [h, if_false]; rfl

theorem live_dead (w : Obj K V → Nat) {r : Raw K V} (h : ∀ j, r.slots j = none) : live w r = 0 := by
  have : ∀ n, liveObjs r n = [] := by
    intro n
    induction n with
    | zero => rfl
    | succ n ih => simp [liveObjs, ih, h n]
  simp [live, this]

/-- a construction that keeps the invariant and `NoGarb`, run on a scratch local that is dropped
    when it unwinds: after the unwinding no slot of the local is live. -/
theorem scratch_dead {body : SM K V Q Unit} (hI : OpInv E body) (hG : OpG body) {s : St K V Q}
    (hs : Inv E s.r) (hg : NoGarb s.r) {c : PanicClass} {s' : St K V Q}
    (h : Micromap.unwindWith (dropMap E) body s = .panic c s') : ∀ j, s'.r.slots j = none := by
  unfold Micromap.unwindWith at h
  have h1 := hI s hs
  have h2 := hG s hg
  cases hb : body s with
  | ok a s1 => rw [hb] at h; cases h
  | ub => rw [hb] at h; cases h
  | panic c1 s1 =>
    rw [hb] at h h2
    obtain ⟨⟨lq, hr, _⟩, _⟩ := Sat.panic_of h1 hb
    have hcl := EqClone.cleanup_dropMap E hr
    unfold Sat at hcl
    simp only at h
    cases hc : dropMap E (s1.setUnw true) with
    | ub => rw [hc] at h; cases h
    | panic c2 s2 => rw [hc] at h; cases h
    | ok u s2 =>
      rw [hc] at h hcl
      injection h with _ hs'
      subst hs'
      obtain ⟨_, hd, hrest, _⟩ := hcl
      intro j
      by_cases hj : j < lq.length
      · exact hd.2 j hj
      · rw [hrest j (by omega)]
        exact h2 j (by rw [hr.1]; omega)

end Micromap.OwnSys
