/-
Object conservation ("every key and value is at every moment in exactly one place") for the
owning operations of the dictionary API, as a multiset equation:

    objects stored before ⊎ objects passed in  =  objects stored after ⊎ objects handed back ⊎ objects dropped

per operation, and lifted to every history.  The multiset equation is stated through all
weightings `w : Obj → Nat` (`wsum w` is a monoid homomorphism from lists up to permutation; taking
`w` = the indicator of one object gives: the number of places that object is in never changes).
Benign world, value type with drop glue (`E.vGlue = true`; for `V = ()` the value side is vacuous).
That a step computes the list-level `lstep` needs a time-independent `==` (`E.Pure`); conservation
does not: under any oracle a step computes `lstepAt` at whatever the search answered (`lmrun_at`).
-/
import Micromap.Proofs.Refine
import Micromap.Proofs.Iters
import Micromap.Proofs.Benign

namespace Micromap.Ledger
open Dict Refine
variable {K V Q : Type}

/-- the objects a list of pairs owns. -/
def pairObjs (l : List (K × V)) : List (Obj K V) := l.flatMap fun p => [.k p.1, .v p.2]

/-- the objects a trace destroys. -/
def droppedOf : List (Event K V Q) → List (Obj K V)
  | [] => []
  | .dropK k :: t => .k k :: droppedOf t
  | .dropV v :: t => .v v :: droppedOf t
  | _ :: t => droppedOf t

theorem droppedOf_append : ∀ (a b : List (Event K V Q)), droppedOf (a ++ b) = droppedOf a ++ droppedOf b
  | [], _ => rfl
  | e :: a, b => by
    cases e <;> simp [droppedOf, droppedOf_append a b]

theorem pairObjs_append (a b : List (K × V)) : pairObjs (a ++ b) = pairObjs a ++ pairObjs b := by
  simp [pairObjs, List.flatMap_append]

theorem pairObjs_cons (p : K × V) (l : List (K × V)) : pairObjs (p :: l) = [.k p.1, .v p.2] ++ pairObjs l := by
  simp [pairObjs, List.flatMap_cons]

theorem pairObjs_perm {a b : List (K × V)} (h : a.Perm b) : (pairObjs a).Perm (pairObjs b) :=
  List.Perm.flatMap_right _ h

theorem perm_cons_eraseIdx {α : Type} {l : List α} {i : Nat} (hi : i < l.length) :
    l.Perm (l[i] :: l.eraseIdx i) := by
  have h1 : l = l.take i ++ l[i] :: l.drop (i + 1) := by
    rw [List.getElem_cons_drop hi, List.take_append_drop]
  rw [List.eraseIdx_eq_take_drop_succ]
  conv => lhs; rw [h1]
  exact List.perm_middle

theorem set_perm_cons_eraseIdx {α : Type} {l : List α} {i : Nat} (hi : i < l.length) (x : α) :
    (l.set i x).Perm (x :: l.eraseIdx i) := by
  have h := perm_cons_eraseIdx (l := l.set i x) (i := i) (by simpa using hi)
  rw [List.eraseIdx_set_eq] at h
  simpa using h

variable (E : Env K V Q)

theorem droppedOf_dropVTr (hv : E.vGlue = true) (v : V) : droppedOf (dropVTr E v) = [.v v] := by
  simp [dropVTr, hv, droppedOf]

theorem droppedOf_dropTrace (hv : E.vGlue = true) : ∀ l : List (K × V),
    droppedOf (dropTrace E l) = pairObjs l
  | [] => rfl
  | p :: l => by
    have : dropTrace E (p :: l) = (Event.dropK p.1 :: dropVTr E p.2) ++ dropTrace E l := by
      simp [dropTrace, List.flatMap_cons]
    rw [this, droppedOf_append, droppedOf_dropTrace hv l, pairObjs_cons]
    simp [droppedOf, droppedOf_dropVTr E hv]

/-- the owning operations. -/
inductive LOp (K V Q : Type) where
  | insert (k : K) (v : V)
  | insert_key_value (k : K) (v : V)
  | checked_insert (k : K) (v : V)
  | get (pr : Probe K Q)
  | contains_key (pr : Probe K Q)
  | remove (pr : Probe K Q)
  | remove_entry (pr : Probe K Q)
  | clear
  | drain (take : Nat)          -- `take` items are handed to the caller, the `Drain` is dropped

/-- objects the caller passes in. -/
def LOp.inObjs : LOp K V Q → List (Obj K V)
  | .insert k v => [.k k, .v v]
  | .insert_key_value k v => [.k k, .v v]
  | .checked_insert k v => [.k k, .v v]
  | _ => []

/-- what one operation does: the list afterwards, the objects handed back (ownership, not
    references), the effects; or the overflow panic. -/
inductive LRes (K V Q : Type) where
  | ok (l' : List (K × V)) (back : List (Obj K V)) (tr : List (Event K V Q))
  | overflow (tr : List (Event K V Q))

/-- list-level semantics of the owning operations (what the triples of `MapApi.lean`,
    `Bulk.lean`, `Iters.lean` say in a benign pure world). -/
def lstep (cap : Nat) (l : List (K × V)) : LOp K V Q → LRes K V Q
  | .insert k v =>
    match findKey E l (.key k) with
    | some i =>
      match l[i]? with
      | some p => .ok (l.set i (p.1, v)) [.v p.2] [.dropK k]
      | none => .ok l [] []
    | none =>
      if l.length < cap then .ok (l ++ [(k, v)]) [] []
      else .overflow (dropVTr E v ++ [.dropK k])
  | .insert_key_value k v =>
    match findKey E l (.key k) with
    | some i =>
      match l[i]? with
      | some p => .ok (l.set i (k, v)) [.k p.1, .v p.2] []
      | none => .ok l [] []
    | none =>
      if l.length < cap then .ok (l ++ [(k, v)]) [] []
      else .overflow (dropVTr E v ++ [.dropK k])
  | .checked_insert k v =>
    match findKey E l (.key k) with
    | some i =>
      match l[i]? with
      | some p => .ok (l.set i (p.1, v)) [.v p.2] [.dropK k]
      | none => .ok l [] []
    | none =>
      if l.length < cap then .ok (l ++ [(k, v)]) [] []
      else .ok l [] (dropVTr E v ++ [.dropK k])
  | .get _ => .ok l [] []
  | .contains_key _ => .ok l [] []
  | .remove pr =>
    match findKey E l pr with
    | some i =>
      match l[i]? with
      | some p => .ok (swapRemove l i) [.v p.2] [.dropK p.1]
      | none => .ok l [] []
    | none => .ok l [] []
  | .remove_entry pr =>
    match findKey E l pr with
    | some i =>
      match l[i]? with
      | some p => .ok (swapRemove l i) [.k p.1, .v p.2] []
      | none => .ok l [] []
    | none => .ok l [] []
  | .clear => .ok [] [] (dropTrace E l)
  | .drain take => .ok [] (pairObjs (l.take take)) (dropTrace E (l.drop take))

/-- the probe an operation looks up. -/
def LOp.probe : LOp K V Q → Option (Probe K Q)
  | .insert k _ | .insert_key_value k _ | .checked_insert k _ => some (.key k)
  | .get pr | .contains_key pr | .remove pr | .remove_entry pr => some pr
  | _ => none

/-- `lstep` with the answer of the search given.  Under an oracle that is not a function of its
    arguments the search may answer anything (below the length); what the operation then does to the
    list, hands back and drops is still this. -/
def lstepAt (cap : Nat) (l : List (K × V)) (found : Option Nat) : LOp K V Q → LRes K V Q
  | .insert k v =>
    match found with
    | some i =>
      match l[i]? with
      | some p => .ok (l.set i (p.1, v)) [.v p.2] [.dropK k]
      | none => .ok l [] []
    | none =>
      if l.length < cap then .ok (l ++ [(k, v)]) [] []
      else .overflow (dropVTr E v ++ [.dropK k])
  | .insert_key_value k v =>
    match found with
    | some i =>
      match l[i]? with
      | some p => .ok (l.set i (k, v)) [.k p.1, .v p.2] []
      | none => .ok l [] []
    | none =>
      if l.length < cap then .ok (l ++ [(k, v)]) [] []
      else .overflow (dropVTr E v ++ [.dropK k])
  | .checked_insert k v =>
    match found with
    | some i =>
      match l[i]? with
      | some p => .ok (l.set i (p.1, v)) [.v p.2] [.dropK k]
      | none => .ok l [] []
    | none =>
      if l.length < cap then .ok (l ++ [(k, v)]) [] []
      else .ok l [] (dropVTr E v ++ [.dropK k])
  | .remove _ =>
    match found with
    | some i =>
      match l[i]? with
      | some p => .ok (swapRemove l i) [.v p.2] [.dropK p.1]
      | none => .ok l [] []
    | none => .ok l [] []
  | .remove_entry _ =>
    match found with
    | some i =>
      match l[i]? with
      | some p => .ok (swapRemove l i) [.k p.1, .v p.2] []
      | none => .ok l [] []
    | none => .ok l [] []
  | op => lstep E cap l op

theorem lstep_eq (cap : Nat) (l : List (K × V)) (op : LOp K V Q) :
    lstep E cap l op = lstepAt E cap l (op.probe.bind (findKey E l)) op := by
  cases op <;> rfl

theorem LOp.found_lt {l : List (K × V)} {op : LOp K V Q} {i : Nat}
    (h : op.probe.bind (findKey E l) = some i) : i < l.length := by
  cases hp : op.probe with
  | none => rw [hp] at h; cases h
  | some pr => rw [hp] at h; exact findKey_lt E h

/-! ### weighted counts: multiset equations that `omega` can do -/

def wsum (w : Obj K V → Nat) (l : List (Obj K V)) : Nat := (l.map w).sum

@[simp] theorem wsum_nil (w : Obj K V → Nat) : wsum w [] = 0 := rfl
@[simp] theorem wsum_cons (w : Obj K V → Nat) (x : Obj K V) (l : List (Obj K V)) :
    wsum w (x :: l) = w x + wsum w l := by simp [wsum]
@[simp] theorem wsum_append (w : Obj K V → Nat) (a b : List (Obj K V)) :
    wsum w (a ++ b) = wsum w a + wsum w b := by simp [wsum]

theorem wsum_perm (w : Obj K V → Nat) {a b : List (Obj K V)} (h : a.Perm b) : wsum w a = wsum w b := by
  induction h with
  | nil => rfl
  | cons x _ ih => simp [ih]
  | swap x y l => simp; omega
  | trans _ _ ih1 ih2 => exact ih1.trans ih2

def wpairs (w : Obj K V → Nat) (l : List (K × V)) : Nat := wsum w (pairObjs l)

@[simp] theorem wpairs_nil (w : Obj K V → Nat) : wpairs w ([] : List (K × V)) = 0 := rfl
@[simp] theorem wpairs_cons (w : Obj K V → Nat) (p : K × V) (l : List (K × V)) :
    wpairs w (p :: l) = w (.k p.1) + w (.v p.2) + wpairs w l := by
  simp [wpairs, pairObjs_cons]; omega
@[simp] theorem wpairs_append (w : Obj K V → Nat) (a b : List (K × V)) :
    wpairs w (a ++ b) = wpairs w a + wpairs w b := by simp [wpairs, pairObjs_append]

theorem wpairs_perm (w : Obj K V → Nat) {a b : List (K × V)} (h : a.Perm b) : wpairs w a = wpairs w b :=
  wsum_perm w (pairObjs_perm h)

theorem wpairs_eraseIdx (w : Obj K V → Nat) {l : List (K × V)} {i} (hi : i < l.length) :
    wpairs w l = w (.k l[i].1) + w (.v l[i].2) + wpairs w (l.eraseIdx i) := by
  rw [wpairs_perm w (perm_cons_eraseIdx hi), wpairs_cons]

theorem wpairs_set (w : Obj K V → Nat) {l : List (K × V)} {i} (hi : i < l.length) (x : K × V) :
    wpairs w (l.set i x) = w (.k x.1) + w (.v x.2) + wpairs w (l.eraseIdx i) := by
  rw [wpairs_perm w (set_perm_cons_eraseIdx hi x), wpairs_cons]

theorem wpairs_swapRemove (w : Obj K V → Nat) {l : List (K × V)} {i} (hi : i < l.length) :
    wpairs w (swapRemove l i) = wpairs w (l.eraseIdx i) :=
  wpairs_perm w (swapRemove_perm hi)

theorem wpairs_take_drop (w : Obj K V → Nat) (l : List (K × V)) (n : Nat) :
    wpairs w (l.take n) + wpairs w (l.drop n) = wpairs w l := by
  rw [← wpairs_append, List.take_append_drop]

/-- **Conservation, one operation** (list level): for every weighting of objects,
    stored + passed in = stored' + handed back + dropped; on an overflow panic the passed-in
    objects are exactly the dropped ones and the list is unchanged. -/
theorem lstepAt_conserves (hv : E.vGlue = true) (w : Obj K V → Nat) (cap : Nat) (l : List (K × V))
    (found : Option Nat) (hfound : ∀ i, found = some i → i < l.length) (op : LOp K V Q) :
    match lstepAt E cap l found op with
    | .ok l' back tr => wpairs w l + wsum w op.inObjs = wpairs w l' + wsum w back + wsum w (droppedOf tr)
    | .overflow tr => wsum w op.inObjs = wsum w (droppedOf tr) := by
  cases op with
  | insert k v | insert_key_value k v | checked_insert k v =>
    simp only [lstepAt, LOp.inObjs]
    cases found with
    | some i =>
      have hi := hfound i rfl
      simp only [List.getElem?_eq_getElem hi, wpairs_set w hi, wpairs_eraseIdx w hi, droppedOf]
      simp; omega
    | none =>
      by_cases hroom : l.length < cap
      · simp [hroom, droppedOf]
      · simp [hroom, droppedOf_append, droppedOf_dropVTr E hv, droppedOf]; omega
  | get pr | contains_key pr => simp [lstepAt, lstep, LOp.inObjs, droppedOf]
  | remove pr | remove_entry pr =>
    simp only [lstepAt, LOp.inObjs]
    cases found with
    | some i =>
      have hi := hfound i rfl
      simp only [List.getElem?_eq_getElem hi, wpairs_swapRemove w hi, wpairs_eraseIdx w hi, droppedOf]
      simp; omega
    | none => simp [droppedOf]
  | clear =>
    have h0 : wsum w (pairObjs ([] : List (K × V))) = 0 := rfl
    simp [lstepAt, lstep, LOp.inObjs, droppedOf_dropTrace E hv, wpairs, h0]
  | drain take =>
    have h0 : wsum w (pairObjs ([] : List (K × V))) = 0 := rfl
    simp only [lstepAt, lstep, LOp.inObjs, droppedOf_dropTrace E hv]
    have := wpairs_take_drop w l take
    simp [wpairs, h0] at this ⊢
    omega

theorem lstep_conserves (hv : E.vGlue = true) (w : Obj K V → Nat) (cap : Nat) (l : List (K × V))
    (op : LOp K V Q) :
    match lstep E cap l op with
    | .ok l' back tr => wpairs w l + wsum w op.inObjs = wpairs w l' + wsum w back + wsum w (droppedOf tr)
    | .overflow tr => wsum w op.inObjs = wsum w (droppedOf tr) := by
  rw [lstep_eq]
  exact lstepAt_conserves E hv w cap l _ (fun _ h => LOp.found_lt E h) op

/-- the operation on the slot machine, returning the objects whose ownership goes to the caller. -/
def lmrun : LOp K V Q → SM K V Q (List (Obj K V))
  | .insert k v => do
    match ← insert E k v with
    | some old => pure [.v old]
    | none => pure []
  | .insert_key_value k v => do
    match ← insert_key_value E k v with
    | some old => pure [.k old.1, .v old.2]
    | none => pure []
  | .checked_insert k v => do
    match ← checked_insert E k v with
    | some (some old) => pure [.v old]
    | _ => pure []
  | .get pr => do let _ ← get E pr; pure []
  | .contains_key pr => do let _ ← contains_key E pr; pure []
  | .remove pr => do
    match ← remove E pr with
    | some v => pure [.v v]
    | none => pure []
  | .remove_entry pr => do
    match ← remove_entry E pr with
    | some p => pure [.k p.1, .v p.2]
    | none => pure []
  | .clear => do clear E; pure []
  | .drain take => do
    let r ← drainOp E take false
    pure (pairObjs r.1)

/-- the step on the slot machine does what `lstepAt` says at the answer `found` of the search. -/
def LStepOKAt (found : Option Nat) (op : LOp K V Q) (s : St K V Q) (l : List (K × V)) : Prop :=
  match lstepAt E s.r.cap l found op with
  | .ok l' back tr => ∃ s', lmrun E op s = .ok back s' ∧ Rep s'.r l' ∧ s'.r.cap = s.r.cap ∧ WRel s.w s'.w tr
  | .overflow tr => ∃ c s', lmrun E op s = .panic c s' ∧ s'.r = s.r ∧ WRel s.w s'.w tr

/-- **one step, any oracle**: in a benign world the step does what `lstepAt` says at SOME answer of
    the search below the length; with a time-independent `==` that answer is `findKey`. -/
theorem lmrun_at (op : LOp K V Q) {s : St K V Q} {l : List (K × V)} (hr : Rep s.r l) (hb : Benign s.w) :
    ∃ found, (∀ i, found = some i → i < l.length) ∧ LStepOKAt E found op s l ∧
      (E.Pure → found = op.probe.bind (findKey E l)) := by
  -- the operations whose result does not depend on the search
  have blind : ∀ {op : LOp K V Q}, LStepOKAt E (op.probe.bind (findKey E l)) op s l →
      ∃ found, (∀ i, found = some i → i < l.length) ∧ LStepOKAt E found op s l ∧
        (E.Pure → found = op.probe.bind (findKey E l)) :=
    fun h => ⟨_, fun _ h => LOp.found_lt E h, h, fun _ => rfl⟩
  have hit : ∀ {j : Nat}, j < l.length → ∀ i, some j = some i → i < l.length := fun hj i h => by cases h; exact hj
  have miss : ∀ {o : Option Nat}, false = o.isSome → none = o := fun {o} h => by
    cases o with
    | none => rfl
    | some _ => cases h
  cases op with
  | insert k v =>
    rcases outcome (insert_sat E hr k v) with ⟨a, s', hm, hc, hq⟩ | ⟨c, s', hm, _, hq⟩
    · rcases hq with ⟨j, hj, rfl, hrep, hw, hfj⟩ | ⟨rfl, hroom, hrep, hw, hfn⟩
      · refine ⟨some j, hit hj, ?_, fun hE => (hfj hE).symm⟩
        simp only [LStepOKAt, lstepAt, List.getElem?_eq_getElem hj]
        exact ⟨s', by simp [lmrun, hm], hrep, hc, hw⟩
      · refine ⟨none, nofun, ?_, fun hE => (hfn hE).symm⟩
        simp only [LStepOKAt, lstepAt, hroom, if_true]
        exact ⟨s', by simp [lmrun, hm], hrep, hc, hw⟩
    · rcases hq with ⟨hi', _⟩ | ⟨hs, _, hfull, hfn, hw⟩
      · exact (no_inj hb hi').elim
      · refine ⟨none, nofun, ?_, fun hE => (hfn hE).symm⟩
        simp only [LStepOKAt, lstepAt, hfull, Nat.lt_irrefl, if_false]
        exact ⟨c, s', by simp [lmrun, hm], hs, hw⟩
  | insert_key_value k v =>
    rcases outcome (insert_key_value_sat E hr k v) with ⟨a, s', hm, hc, hw, hq⟩ | ⟨c, s', hm, hs, hq⟩
    · rcases hq with ⟨j, hj, rfl, hrep, hfj⟩ | ⟨rfl, hroom, hrep, hfn⟩
      · refine ⟨some j, hit hj, ?_, fun hE => (hfj hE).symm⟩
        simp only [LStepOKAt, lstepAt, List.getElem?_eq_getElem hj]
        exact ⟨s', by simp [lmrun, hm], hrep, hc, hw⟩
      · refine ⟨none, nofun, ?_, fun hE => (hfn hE).symm⟩
        simp only [LStepOKAt, lstepAt, hroom, if_true]
        exact ⟨s', by simp [lmrun, hm], hrep, hc, hw⟩
    · rcases hq with hi' | ⟨_, hfull, hfn, hw⟩
      · exact (no_inj hb hi').elim
      · refine ⟨none, nofun, ?_, fun hE => (hfn hE).symm⟩
        simp only [LStepOKAt, lstepAt, hfull, Nat.lt_irrefl, if_false]
        exact ⟨c, s', by simp [lmrun, hm], hs, hw⟩
  | checked_insert k v =>
    rcases outcome (checked_insert_sat E hr k v) with ⟨a, s', hm, hc, hq⟩ | ⟨c, s', _, _, hi', _⟩
    · rcases hq with ⟨j, hj, rfl, hrep, hw, hfj⟩ | ⟨rfl, hroom, hrep, hw, hfn⟩ | ⟨rfl, hfull, hs, hw, hfn⟩
      · refine ⟨some j, hit hj, ?_, fun hE => (hfj hE).symm⟩
        simp only [LStepOKAt, lstepAt, List.getElem?_eq_getElem hj]
        exact ⟨s', by simp [lmrun, hm], hrep, hc, hw⟩
      · refine ⟨none, nofun, ?_, fun hE => (hfn hE).symm⟩
        simp only [LStepOKAt, lstepAt, hroom, if_true]
        exact ⟨s', by simp [lmrun, hm], hrep, hc, hw⟩
      · refine ⟨none, nofun, ?_, fun hE => (hfn hE).symm⟩
        simp only [LStepOKAt, lstepAt, hfull, Nat.lt_irrefl, if_false]
        exact ⟨s', by simp [lmrun, hm], hs ▸ hr, hc, hw⟩
    · exact (no_inj hb hi').elim
  | get pr =>
    rcases outcome (get_sat E hr pr) with ⟨o, s', hm, hs, hw, _⟩ | ⟨c, s', _, _, hi'⟩
    · exact blind ⟨s', by simp [lmrun, hm], hs ▸ hr, by rw [hs], hw⟩
    · exact (no_inj hb hi').elim
  | contains_key pr =>
    rcases outcome (contains_key_cb E hr pr) with ⟨o, s', hm, hs, hw, _⟩ | ⟨c, s', _, _, hi'⟩
    · exact blind ⟨s', by simp [lmrun, hm], hs ▸ hr, by rw [hs], hw⟩
    · exact (no_inj hb hi').elim
  | remove pr =>
    rcases outcome (remove_sat E hr pr) with ⟨o, s', hm, hc, ho, hfo⟩ | ⟨c, s', _, _, hi', _⟩
    · rcases ho with ⟨rfl, hs, hw⟩ | ⟨j, hj, rfl, hrep, hw, hfj⟩
      · refine ⟨none, nofun, ⟨s', by simp [lmrun, hm], hs ▸ hr, hc, hw⟩, fun hE => miss (hfo hE)⟩
      · refine ⟨some j, hit hj, ?_, fun hE => (hfj hE).symm⟩
        simp only [LStepOKAt, lstepAt, List.getElem?_eq_getElem hj]
        exact ⟨s', by simp [lmrun, hm], hrep, hc, hw⟩
    · exact (no_inj hb hi').elim
  | remove_entry pr =>
    rcases outcome (remove_entry_sat E hr pr) with ⟨o, s', hm, hc, hw, ho, hfo⟩ | ⟨c, s', _, _, hi'⟩
    · rcases ho with ⟨rfl, hs⟩ | ⟨j, hj, rfl, hrep, hfj⟩
      · refine ⟨none, nofun, ⟨s', by simp [lmrun, hm], hs ▸ hr, hc, hw⟩, fun hE => miss (hfo hE)⟩
      · refine ⟨some j, hit hj, ?_, fun hE => (hfj hE).symm⟩
        simp only [LStepOKAt, lstepAt, List.getElem?_eq_getElem hj]
        exact ⟨s', by simp [lmrun, hm], hrep, hc, hw⟩
    · exact (no_inj hb hi').elim
  | clear =>
    rcases outcome (clear_sat E hr) with ⟨_, s', hm, hrep, hc, hw⟩ | ⟨c, s', _, _, _, hi'⟩
    · exact blind ⟨s', by simp [lmrun, hm], hrep, hc, hw⟩
    · exact (no_inj hb hi').elim
  | drain take =>
    rcases outcome (Iters.drainOp_sat E take false hr) with ⟨res, s', hm, rfl, hrep, hc, hw⟩ | ⟨c, s', _, _, _, hi', _⟩
    · exact blind ⟨s', by simp [lmrun, hm], hrep, hc, by simpa using hw⟩
    · exact (no_inj hb hi').elim

/-- list-level history: the final list, everything passed in, everything handed back, all effects. -/
def lhist (cap : Nat) : List (LOp K V Q) → List (K × V) →
    List (K × V) × List (Obj K V) × List (Obj K V) × List (Event K V Q)
  | [], l => (l, [], [], [])
  | op :: ops, l =>
    match lstep E cap l op with
    | .ok l' back tr =>
      let r := lhist cap ops l'
      (r.1, op.inObjs ++ r.2.1, back ++ r.2.2.1, tr ++ r.2.2.2)
    | .overflow tr =>
      let r := lhist cap ops l
      (r.1, op.inObjs ++ r.2.1, r.2.2.1, tr ++ r.2.2.2)

theorem lhist_conserves (hv : E.vGlue = true) (w : Obj K V → Nat) (cap : Nat) :
    ∀ (ops : List (LOp K V Q)) (l : List (K × V)),
      wpairs w l + wsum w (lhist E cap ops l).2.1 =
        wpairs w (lhist E cap ops l).1 + wsum w (lhist E cap ops l).2.2.1 +
          wsum w (droppedOf (lhist E cap ops l).2.2.2)
  | [], l => by simp [lhist, droppedOf]
  | op :: ops, l => by
    have h := lstep_conserves E hv w cap l op
    unfold lhist
    cases hs : lstep E cap l op with
    | ok l' back tr =>
      rw [hs] at h
      have ih := lhist_conserves hv w cap ops l'
      simp only [wsum_append, droppedOf_append] at h ih ⊢
      omega
    | overflow tr =>
      rw [hs] at h
      have ih := lhist_conserves hv w cap ops l
      simp only [wsum_append, droppedOf_append] at h ih ⊢
      omega

/-- the history on the slot machine: final state and the objects handed back; a step that ends in
    the container's own panic hands nothing back and the history goes on from the state it left. -/
def lmhist : List (LOp K V Q) → St K V Q → Option (St K V Q × List (Obj K V))
  | [], s => some (s, [])
  | op :: ops, s =>
    match lmrun E op s with
    | .ok back s' => (lmhist ops s').map fun r => (r.1, back ++ r.2)
    | .panic _ s' => lmhist ops s'
    | .ub => none

theorem lmhist_refines (hE : E.Pure) : ∀ (ops : List (LOp K V Q)) (s : St K V Q) (l : List (K × V)),
    Rep s.r l → Benign s.w →
    ∃ sf, lmhist E ops s = some (sf, (lhist E s.r.cap ops l).2.2.1) ∧ Rep sf.r (lhist E s.r.cap ops l).1 ∧
      sf.r.cap = s.r.cap ∧ WRel s.w sf.w (lhist E s.r.cap ops l).2.2.2
  | [], s, l, hr, _ => ⟨s, rfl, hr, rfl, WRel.refl _⟩
  | op :: ops, s, l, hr, hb => by
    obtain ⟨found, _, h, hf⟩ := lmrun_at E op hr hb
    unfold LStepOKAt at h
    rw [hf hE, ← lstep_eq] at h
    unfold lhist lmhist
    cases hs : lstep E s.r.cap l op with
    | ok l' back tr =>
      rw [hs] at h
      obtain ⟨s', hm, hrep, hc, hw⟩ := h
      obtain ⟨sf, h1, h2, h3, h4⟩ := lmhist_refines hE ops s' l' hrep (hw.benign hb)
      rw [hc] at h1 h2 h4
      exact ⟨sf, by simp [hm, h1], h2, h3.trans hc, hw.trans h4⟩
    | overflow tr =>
      rw [hs] at h
      obtain ⟨c, s', hm, hsr, hw⟩ := h
      obtain ⟨sf, h1, h2, h3, h4⟩ := lmhist_refines hE ops s' l (hsr ▸ hr) (hw.benign hb)
      rw [hsr] at h1 h2 h3 h4
      exact ⟨sf, by simp [hm, h1], h2, h3, hw.trans h4⟩

theorem lhist_in (cap : Nat) : ∀ (ops : List (LOp K V Q)) (l : List (K × V)),
    (lhist E cap ops l).2.1 = ops.flatMap LOp.inObjs
  | [], _ => rfl
  | op :: ops, l => by
    unfold lhist
    cases lstep E cap l op with
    | ok l' back tr => simp [lhist_in cap ops l', List.flatMap_cons]
    | overflow tr => simp [lhist_in cap ops l, List.flatMap_cons]

/-! ### conservation under ANY user equality

Which branch an operation takes depends on what `==` answers; conservation does not.  No
hypothesis on `E` besides drop glue for values. -/

theorem lmhist_conserves (hv : E.vGlue = true) (w : Obj K V → Nat) :
    ∀ (ops : List (LOp K V Q)) (s : St K V Q) (l : List (K × V)), Rep s.r l → Benign s.w →
    ∃ sf back tr lf, lmhist E ops s = some (sf, back) ∧ Rep sf.r lf ∧ sf.r.cap = s.r.cap ∧
      WRel s.w sf.w tr ∧
      wpairs w l + wsum w (ops.flatMap LOp.inObjs) = wpairs w lf + wsum w back + wsum w (droppedOf tr)
  | [], s, l, hr, _ => ⟨s, [], [], l, rfl, hr, rfl, WRel.refl _, by simp [droppedOf]⟩
  | op :: ops, s, l, hr, hb => by
    obtain ⟨found, hlt, h, _⟩ := lmrun_at E op hr hb
    have heq := lstepAt_conserves E hv w s.r.cap l found hlt op
    unfold LStepOKAt at h
    unfold lmhist
    cases hst : lstepAt E s.r.cap l found op with
    | ok l' back tr =>
      rw [hst] at h heq
      obtain ⟨s', hm, hrep, hc, hw⟩ := h
      obtain ⟨sf, b2, t2, lf, h1, h2, h3, h4, h5⟩ := lmhist_conserves hv w ops s' l' hrep (hw.benign hb)
      refine ⟨sf, back ++ b2, tr ++ t2, lf, by simp [hm, h1], h2, h3.trans hc, hw.trans h4, ?_⟩
      simp only [List.flatMap_cons, wsum_append, droppedOf_append] at heq h5 ⊢
      omega
    | overflow tr =>
      rw [hst] at h heq
      obtain ⟨c, s', hm, hs, hw⟩ := h
      obtain ⟨sf, b2, t2, lf, h1, h2, h3, h4, h5⟩ := lmhist_conserves hv w ops s' l (hs ▸ hr) (hw.benign hb)
      refine ⟨sf, b2, tr ++ t2, lf, by simp [hm, h1], h2, by rw [h3, hs], hw.trans h4, ?_⟩
      simp only [List.flatMap_cons, wsum_append, droppedOf_append] at heq h5 ⊢
      omega

end Micromap.Ledger
