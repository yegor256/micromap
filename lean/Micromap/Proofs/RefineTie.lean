/-
`Refine.mrun` (the function the refinement theorems are about) is what `stepMapOp` (the function
the driver executes) computes, up to the presentation of the result: for every dictionary
operation both give the same outcome, the same final state and the same return value once slot
positions are erased.
-/
import Micromap.Proofs.RefineStep
import Micromap.Proofs.RefineSet
import Micromap.Model.Sys

namespace Micromap.Refine
variable {K V Q : Type} (E : Env K V Q) (R : Render K V)

def Res.mapOut {σ α β : Type} (f : α → β) : Res σ α → Res σ β
  | .ok a s => .ok (f a) s
  | .panic c s => .panic c s
  | .ub => .ub

/-- the `MapOp` of the operation language behind a dictionary operation (`iter` is the script-
    driven `MapOp.iter`, covered by C09; it has no single counterpart here). -/
def toMapOp : DOp K V Q → Option (MapOp K V Q)
  | .insert k v => some (.insert k v)
  | .insert_key_value k v => some (.insert_key_value k v)
  | .checked_insert k v => some (.checked_insert k v)
  | .get pr => some (.get_key_value pr)
  | .get_mut pr g => some (.get_mut pr g)
  | .contains_key pr => some (.contains_key pr)
  | .index pr => some (.index pr)
  | .index_mut pr g => some (.index_mut pr g)
  | .remove pr => some (.remove pr)
  | .remove_entry pr => some (.remove_entry pr)
  | .retain f => some (.retain fun _ k v => f k v)
  | .clear => some .clear
  | .len => some .len
  | .is_empty => some .is_empty
  | .iter => none

/-- the return value of `stepMapOp` with slot positions erased. -/
def viewRV : DOp K V Q → RV K V → DOut K V
  | .insert _ _, .none => .optV none
  | .insert _ _, .some (.val v) => .optV (some v)
  | .remove _, .none => .optV none
  | .remove _, .some (.val v) => .optV (some v)
  | .insert_key_value _ _, .none => .optKV none
  | .insert_key_value _ _, .some (.pair k v) => .optKV (some (k, v))
  | .remove_entry _, .none => .optKV none
  | .remove_entry _, .some (.pair k v) => .optKV (some (k, v))
  | .checked_insert _ _, .none => .optOptV none
  | .checked_insert _ _, .some .none => .optOptV (some none)
  | .checked_insert _ _, .some (.some (.val v)) => .optOptV (some (some v))
  | .get _, .none => .optKV none
  | .get _, .some (.ref _ (.pair k v)) => .optKV (some (k, v))
  | .get_mut _ _, .none => .optV none
  | .get_mut _ _, .some (.ref _ (.val v)) => .optV (some v)
  | .index _, .ref _ (.val v) => .optV (some v)
  | .index_mut _ _, .ref _ (.val v) => .optV (some v)
  | .contains_key _, .bool b => .bool b
  | .is_empty, .bool b => .bool b
  | .len, .nat n => .nat n
  | _, _ => .unit

/-- the same view of `mrun`'s result (`get_mut`, `index`, `index_mut` return the value only). -/
def viewD : DOp K V Q → DOut K V → DOut K V
  | .get_mut _ _, .optKV o => .optV (o.map (·.2))
  | .index _, .kv p => .optV (some p.2)
  | .index_mut _ _, .kv p => .optV (some p.2)
  | _, x => x

theorem mapOut_bind_congr {σ α β₁ β₂ γ : Type} {f₁ : β₁ → γ} {f₂ : β₂ → γ} (m : M σ α)
    {k₁ : α → M σ β₁} {k₂ : α → M σ β₂}
    (h : ∀ a s', Res.mapOut f₁ (k₁ a s') = Res.mapOut f₂ (k₂ a s')) (s : σ) :
    Res.mapOut f₁ ((m >>= k₁) s) = Res.mapOut f₂ ((m >>= k₂) s) := by
  simp only [bind_apply]
  cases m s with
  | ok a s' => exact h a s'
  | panic c s' => rfl
  | ub => rfl

theorem stepMapOp_eq_mrun (other : Nat → Raw K V) (op : DOp K V Q) (mop : MapOp K V Q)
    (h : toMapOp op = some mop) (s : St K V Q) :
    Res.mapOut (viewRV op) (stepMapOp E R other mop s) = Res.mapOut (viewD op) (mrun E op s) := by
  cases op <;> simp only [toMapOp, Option.some.injEq, reduceCtorEq] at h <;> subst h
  case insert k v => exact mapOut_bind_congr (insert E k v) (fun a _ => by cases a <;> rfl) s
  case insert_key_value k v =>
    exact mapOut_bind_congr (insert_key_value E k v) (fun a _ => by cases a <;> rfl) s
  case checked_insert k v =>
    exact mapOut_bind_congr (checked_insert E k v) (fun a _ => by rcases a with _ | _ | _ <;> rfl) s
  case get pr => exact mapOut_bind_congr (get E pr) (fun a _ => by rcases a with _ | ⟨i, p⟩ <;> rfl) s
  case get_mut pr g =>
    exact mapOut_bind_congr (get_mut E pr g) (fun a _ => by rcases a with _ | ⟨i, p⟩ <;> rfl) s
  case contains_key pr => exact mapOut_bind_congr (contains_key E pr) (fun _ _ => by rfl) s
  case index pr => exact mapOut_bind_congr (index E pr) (fun _ _ => by rfl) s
  case index_mut pr g => exact mapOut_bind_congr (index_mut E pr g) (fun _ _ => by rfl) s
  case remove pr => exact mapOut_bind_congr (remove E pr) (fun a _ => by cases a <;> rfl) s
  case remove_entry pr => exact mapOut_bind_congr (remove_entry E pr) (fun a _ => by cases a <;> rfl) s
  case retain f => exact mapOut_bind_congr (retain E fun _ k v => f k v) (fun _ _ => by rfl) s
  case clear => exact mapOut_bind_congr (clear E) (fun _ _ => by rfl) s
  case len => rfl
  case is_empty => rfl

end Micromap.Refine

namespace Micromap.RefineSet
open Micromap.Refine
variable {K Q : Type} (F : Env K Unit Q) (R : Render K Unit)

def toSetOp : SOp K Q → Option (SetOp K Q)
  | .insert k => some (.insert k)
  | .replace k => some (.replace k)
  | .contains pr => some (.contains pr)
  | .get pr => some (.get pr)
  | .remove pr => some (.remove pr)
  | .take pr => some (.take pr)
  | .retain f => some (.retain fun _ k => f k)
  | .clear => some .clear
  | .len => some .len
  | .is_empty => some .is_empty
  | .iter => none

/-- the return value of `stepSetOp` with slot positions erased. -/
def viewSRV : SOp K Q → RV K Unit → SOut K
  | .insert _, .bool b => .bool b
  | .contains _, .bool b => .bool b
  | .remove _, .bool b => .bool b
  | .is_empty, .bool b => .bool b
  | .len, .nat n => .nat n
  | .replace _, .none => .optK none
  | .replace _, .some (.key k) => .optK (some k)
  | .take _, .none => .optK none
  | .take _, .some (.key k) => .optK (some k)
  | .get _, .none => .optK none
  | .get _, .some (.ref _ (.key k)) => .optK (some k)
  | _, _ => .unit

theorem mapOut_bind_eq {σ α β γ δ : Type} {f : β → δ} (m : M σ α) {k₁ : α → M σ β} {k₂ : α → M σ γ}
    {k₃ : γ → M σ δ} (h : ∀ a s', Res.mapOut f (k₁ a s') = (k₂ a >>= k₃) s') (s : σ) :
    Res.mapOut f ((m >>= k₁) s) = ((m >>= k₂) >>= k₃) s := by
  simp only [bind_apply]
  cases m s with
  | ok a s' => simpa only [bind_apply] using h a s'
  | panic c s' => rfl
  | ub => rfl

/-- Every `Set` method of the operation language is the forwarding to the map method that the C07
    theorems are about. -/
theorem stepSetOp_eq_smrun (other : Nat → Raw K Unit) (op : SOp K Q) (sop : SetOp K Q)
    (h : toSetOp op = some sop) (s : St K Unit Q) :
    Res.mapOut (viewSRV op) (stepSetOp F R other sop s) = smrun F op s := by
  cases op <;> simp only [toSetOp, Option.some.injEq, reduceCtorEq] at h <;> subst h
  case insert k => exact mapOut_bind_eq (insert F k ()) (fun a _ => by cases a <;> rfl) s
  case replace k =>
    -- `insert_key_value` is itself `insert_ii` followed by a projection
    simp only [stepSetOp, smrun, mrun, toD, insert_key_value, bind_apply]
    cases insert_ii F k () true s with
    | ok a s' => obtain ⟨i, _ | _⟩ := a <;> rfl
    | panic c s' => rfl
    | ub => rfl
  case contains pr => exact mapOut_bind_eq (contains_key F pr) (fun _ _ => by rfl) s
  case get pr => exact mapOut_bind_eq (get F pr) (fun a _ => by rcases a with _ | ⟨i, p⟩ <;> rfl) s
  case remove pr => exact mapOut_bind_eq (remove F pr) (fun a _ => by cases a <;> rfl) s
  case take pr => exact mapOut_bind_eq (remove_entry F pr) (fun a _ => by cases a <;> rfl) s
  case retain f => exact mapOut_bind_eq (retain F fun _ k u => (f k, u)) (fun _ _ => by rfl) s
  case clear => exact mapOut_bind_eq (clear F) (fun _ _ => by rfl) s
  case len => rfl
  case is_empty => rfl

end Micromap.RefineSet
