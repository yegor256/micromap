/-
Evaluation judgements for the refinement of the slot machine by the list-level interpreter
(`Spec/ListSys.lean`): in a world without an armed fault every model function RETURNS a definite
value (or raises a definite panic of the container itself) and leaves a state that represents a
definite list.  `Ret` / `Pan` say that; `Ctx` is the invariant carried along; `QEx` is the
special case of read-only computations (scans, set predicates, lazy set iterators).
-/
import Micromap.Spec.ListSys
import Micromap.Proofs.Iters

namespace Micromap.ListSys
open Micromap
variable {K V Q : Type}

/-- the state's register holds `l` with capacity `cap`; its world has no armed fault, is not
    unwinding, and has build profile `prof`. -/
structure Ctx (prof : Profile) (cap : Nat) (l : List (K × V)) (s : St K V Q) : Prop where
  rep : Rep s.r l
  cap : s.r.cap = cap
  benign : Benign s.w
  prof : s.w.profile = prof

def Ret {α : Type} (m : SM K V Q α) (s : St K V Q) (a : α) (P : St K V Q → Prop) : Prop :=
  ∃ s', m s = .ok a s' ∧ P s'

def Pan {α : Type} (m : SM K V Q α) (s : St K V Q) (c : PanicClass) (P : St K V Q → Prop) : Prop :=
  ∃ s', m s = .panic c s' ∧ P s'

theorem Ctx.frame {prof cap} {l : List (K × V)} {s s' : St K V Q} {tr} (h : Ctx prof cap l s)
    (hr : s'.r = s.r) (hw : WRel s.w s'.w tr) : Ctx prof cap l s' :=
  ⟨hr ▸ h.rep, by rw [hr]; exact h.cap, hw.benign h.benign, by rw [hw.profile]; exact h.prof⟩

theorem Ctx.step {prof cap} {l l' : List (K × V)} {s s' : St K V Q} {tr} (h : Ctx prof cap l s)
    (hr : Rep s'.r l') (hc : s'.r.cap = s.r.cap) (hw : WRel s.w s'.w tr) : Ctx prof cap l' s' :=
  ⟨hr, by rw [hc]; exact h.cap, hw.benign h.benign, by rw [hw.profile]; exact h.prof⟩

theorem Ctx.step' {prof cap} {l l' : List (K × V)} {s s' : St K V Q} (h : Ctx prof cap l s)
    (hr : Rep s'.r l') (hc : s'.r.cap = s.r.cap) (hw : s'.w = s.w) : Ctx prof cap l' s' :=
  h.step hr hc (tr := []) (by rw [hw]; exact WRel.refl _)

theorem Ctx.ret_frame {α : Type} {m : SM K V Q α} {a : α} {prof cap} {l : List (K × V)} {s : St K V Q} {tr}
    (hc : Ctx prof cap l s) (h : ∃ s', m s = .ok a s' ∧ s'.r = s.r ∧ WRel s.w s'.w tr) :
    Ret m s a (Ctx prof cap l) :=
  let ⟨s', hm, hs, hw⟩ := h; ⟨s', hm, hc.frame hs hw⟩

theorem Ctx.ret_step {α : Type} {m : SM K V Q α} {a : α} {prof cap} {l l' : List (K × V)} {s : St K V Q} {tr}
    (hc : Ctx prof cap l s)
    (h : ∃ s', m s = .ok a s' ∧ Rep s'.r l' ∧ s'.r.cap = s.r.cap ∧ WRel s.w s'.w tr) :
    Ret m s a (Ctx prof cap l') :=
  let ⟨s', hm, hr, hcap, hw⟩ := h; ⟨s', hm, hc.step hr hcap hw⟩

theorem Ret.bind {α β : Type} {m : SM K V Q α} {f : α → SM K V Q β} {s : St K V Q} {a : α} {b : β}
    {P Qp : St K V Q → Prop} (h : Ret m s a P) (hf : ∀ s', P s' → Ret (f a) s' b Qp) :
    Ret (m >>= f) s b Qp := by
  obtain ⟨s1, h1, h2⟩ := h
  obtain ⟨s2, g1, g2⟩ := hf s1 h2
  exact ⟨s2, by simp only [bind_apply, h1, g1], g2⟩

theorem Ret.bind_pan {α β : Type} {m : SM K V Q α} {f : α → SM K V Q β} {s : St K V Q} {a : α} {c}
    {P Qp : St K V Q → Prop} (h : Ret m s a P) (hf : ∀ s', P s' → Pan (f a) s' c Qp) :
    Pan (m >>= f) s c Qp := by
  obtain ⟨s1, h1, h2⟩ := h
  obtain ⟨s2, g1, g2⟩ := hf s1 h2
  exact ⟨s2, by simp only [bind_apply, h1, g1], g2⟩

theorem Pan.bind {α β : Type} {m : SM K V Q α} {f : α → SM K V Q β} {s : St K V Q} {c}
    {P : St K V Q → Prop} (h : Pan m s c P) : Pan (m >>= f) s c P := by
  obtain ⟨s1, h1, h2⟩ := h
  exact ⟨s1, by simp only [bind_apply, h1], h2⟩

theorem M_bind_assoc {σ α β γ : Type} (m : M σ α) (f : α → M σ β) (g : β → M σ γ) :
    (m >>= f) >>= g = m >>= fun a => f a >>= g := by
  funext s
  simp only [bind_apply]
  cases m s <;> rfl

theorem Ret.pure {α : Type} {a : α} {s : St K V Q} {P : St K V Q → Prop} (h : P s) :
    Ret (pure a : SM K V Q α) s a P := ⟨s, rfl, h⟩

theorem Ret.bind_pure {α β : Type} {m : SM K V Q α} {f : α → SM K V Q β} {s : St K V Q} {a : α} {b : β}
    {P : St K V Q → Prop} (h : Ret m s a P) (hf : f a = Pure.pure b) : Ret (m >>= f) s b P :=
  h.bind fun _ hp => hf ▸ Ret.pure hp

theorem Ret.getS {α : Type} {f : St K V Q → SM K V Q α} {s : St K V Q} {a : α} {P : St K V Q → Prop}
    (h : Ret (f s) s a P) : Ret (getS >>= f) s a P := h

theorem Ret.mono {α : Type} {m : SM K V Q α} {s : St K V Q} {a : α} {P P' : St K V Q → Prop}
    (h : Ret m s a P) (hp : ∀ s', P s' → P' s') : Ret m s a P' := by
  obtain ⟨s1, h1, h2⟩ := h; exact ⟨s1, h1, hp s1 h2⟩

theorem Pan.mono {α : Type} {m : SM K V Q α} {s : St K V Q} {c} {P P' : St K V Q → Prop}
    (h : Pan m s c P) (hp : ∀ s', P s' → P' s') : Pan m s c P' := by
  obtain ⟨s1, h1, h2⟩ := h; exact ⟨s1, h1, hp s1 h2⟩

theorem Ret.unwindWith {α : Type} {cleanup : SM K V Q Unit} {body : SM K V Q α} {s : St K V Q} {a : α}
    {P : St K V Q → Prop} (h : Ret body s a P) : Ret (Micromap.unwindWith cleanup body) s a P := by
  obtain ⟨s1, h1, h2⟩ := h
  exact ⟨s1, by unfold Micromap.unwindWith; rw [h1], h2⟩

theorem cb_ret {α : Type} {m : SM K V Q α} {tr Qv} (h : CbOk m tr Qv) {prof cap} {l : List (K × V)}
    {s : St K V Q} (hc : Ctx prof cap l s) : ∃ a, Qv s a ∧ Ret m s a (Ctx prof cap l) := by
  obtain ⟨a, s', h1, h2, h3, h4⟩ := h.benign hc.benign
  exact ⟨a, h4, s', h1, hc.frame h2 h3⟩

theorem cb_ret_unit {m : SM K V Q Unit} {tr Qv} (h : CbOk m tr Qv) {prof cap} {l : List (K × V)}
    {s : St K V Q} (hc : Ctx prof cap l s) : Ret m s () (Ctx prof cap l) := by
  obtain ⟨_, _, h2⟩ := cb_ret h hc; exact h2

/-- The clean-up (drops of the locals) runs in an unwinding world and must return: the container's
    own panic goes on with the register as the body left it. -/
theorem Pan.unwindWith_cb {α : Type} {cleanup : SM K V Q Unit} {tc Qc} (hcb : CbOk cleanup tc Qc)
    {body : SM K V Q α} {s : St K V Q} {c} {prof cap} {l : List (K × V)}
    (h : Pan body s c (Ctx prof cap l)) : Pan (Micromap.unwindWith cleanup body) s c (Ctx prof cap l) := by
  obtain ⟨s1, h1, h2⟩ := h
  have hu : (s1.setUnw true).w.unwinding = true := rfl
  obtain ⟨_, s2, g1, g2, g3, _⟩ := (hcb.unw (s1.setUnw true) hu).must_return (fun _ _ hf => hf)
  refine ⟨s2.setUnw s1.w.unwinding, ?_, ?_⟩
  · unfold Micromap.unwindWith; rw [h1]; simp only [g1]
  · exact h2.frame (by simpa using g2) g3.through_unw

theorem no_inj {s s' : St K V Q} {c} (hb : Benign s.w) (h : InjPanic s s' c) : False := h.not_benign hb

theorem overflow_class {s : St K V Q} {c prof} (h : OverflowPanic s c) (hp : s.w.profile = prof) :
    c = fullPanic prof := by
  rcases h with ⟨rfl, h⟩ | ⟨rfl, h⟩ <;> · rw [hp] at h; subst h; rfl

theorem Ctx.pan_of_overflow {α : Type} {m : SM K V Q α} {prof cap} {l : List (K × V)} {s : St K V Q} {tr}
    (hc : Ctx prof cap l s)
    (h : ∃ c s', m s = .panic c s' ∧ s'.r = s.r ∧ OverflowPanic s c ∧ WRel s.w s'.w tr) :
    Pan m s (fullPanic prof) (Ctx prof cap l) := by
  obtain ⟨c, s', hm, hs, ho, hw⟩ := h
  exact ⟨s', overflow_class ho hc.prof ▸ hm, hc.frame hs hw⟩

variable (E : Env K V Q)

theorem findKey_lt {l : List (K × V)} {pr : Probe K Q} {i} (h : findKey E l pr = some i) : i < l.length :=
  Micromap.findKey_lt E h

theorem lookup_some {l : List (K × V)} {pr : Probe K Q} {i} (h : findKey E l pr = some i) (hi : i < l.length) :
    lookup E l pr = some (i, l[i]) := by
  simp [lookup, h, List.getElem?_eq_getElem hi]

theorem lookup_none {l : List (K × V)} {pr : Probe K Q} (h : findKey E l pr = none) :
    lookup E l pr = none := by
  simp [lookup, h]

theorem lookup_eq_some {l : List (K × V)} {pr : Probe K Q} {i p} (h : lookup E l pr = some (i, p)) :
    ∃ hi : i < l.length, p = l[i] := by
  cases hk : findKey E l pr with
  | none => rw [lookup_none E hk] at h; cases h
  | some j => rw [lookup_some E hk (findKey_lt E hk)] at h; cases h; exact ⟨findKey_lt E hk, rfl⟩

/-- the `X_benign` lemmas split on `findKey`; the interpreter on `lookup`. -/
theorem match_lookup {l : List (K × V)} {pr : Probe K Q} {P₁ : (i : Nat) → i < l.length → Prop} {P₀ : Prop}
    {G₁ : Nat → K × V → Prop} {G₀ : Prop}
    (h : match findKey E l pr with | some i => ∃ hi, P₁ i hi | none => P₀)
    (h₁ : ∀ i hi, P₁ i hi → G₁ i l[i]) (h₀ : P₀ → G₀) :
    match lookup E l pr with | some (i, p) => G₁ i p | none => G₀ := by
  cases hk : findKey E l pr with
  | some i => rw [hk] at h; obtain ⟨hi, h⟩ := h; rw [lookup_some E hk hi]; exact h₁ i hi h
  | none => rw [hk] at h; rw [lookup_none E hk]; exact h₀ h

/-- `m` evaluates to `x` without touching the register and with no effect but comparisons. -/
def QEx {α : Type} (m : SM K V Q α) (x : α) : Prop := Alg.Quiet m (fun a => a = x)

theorem QEx.pure {α : Type} (x : α) : QEx (pure x : SM K V Q α) x := Alg.Quiet.pure rfl

theorem QEx.bind {α β : Type} {m : SM K V Q α} {f : α → SM K V Q β} {x : α} {y : β}
    (hm : QEx m x) (hf : QEx (f x) y) : QEx (m >>= f) y :=
  Alg.Quiet.bind hm (fun a ha => by subst ha; exact hf)

theorem QEx.of_quiet {α : Type} {m : SM K V Q α} {Qv : α → Prop} {x : α} (h : Alg.Quiet m Qv)
    (hx : ∀ a, Qv a → a = x) : QEx m x := Alg.Quiet.mono h hx

theorem QEx.of_eq {α : Type} {m : SM K V Q α} {x : α} (h : ∀ s, m s = .ok x s) : QEx m x := by
  intro s
  exact Sat.of_ok (h s) ⟨rfl, WRel.refl _, rfl⟩

theorem QEx.ite {α : Type} {c : Prop} [Decidable c] {m₁ m₂ : SM K V Q α} {x₁ x₂ : α}
    (h₁ : c → QEx m₁ x₁) (h₂ : ¬ c → QEx m₂ x₂) :
    QEx (if c then m₁ else m₂) (if c then x₁ else x₂) := by
  split
  · exact h₁ ‹_›
  · exact h₂ ‹_›

theorem QEx.ret {α : Type} {m : SM K V Q α} {x : α} (h : QEx m x) {prof cap} {l : List (K × V)}
    {s : St K V Q} (hc : Ctx prof cap l s) : Ret m s x (Ctx prof cap l) := by
  obtain ⟨a, ha, h2⟩ := cb_ret h hc
  subst ha; exact h2

theorem QEx.itemRefR {r : Raw K V} {l : List (K × V)} (hr : Rep r l) {i : Nat} (hi : i < l.length) :
    QEx (Micromap.itemRefR r i : SM K V Q (K × V)) l[i] := Alg.Quiet.itemRefR hr hi

/-- `r` need not be the register of the state the scan runs in (set predicates scan the other operand). -/
theorem QEx.scanR (hE : E.Pure) {r : Raw K V} {l : List (K × V)} (hr : Rep r l) (pr : Probe K Q) :
    QEx (Micromap.scanR E r pr) (findKey E l pr) :=
  CbOk.mono (scanR_cb E hr pr) (fun _ => rfl) (fun _ _ h => h.2 hE)

end Micromap.ListSys
