/-
Program logic for the L0 machine: one total-correctness triple with a normal and
an unwinding postcondition in which `ub` is simply false.
-/
import Micromap.Model.Basic

namespace Micromap

def Sat (m : M σ α) (s : σ) (Q : α → σ → Prop) (P : PanicClass → σ → Prop) : Prop :=
  match m s with
  | .ok a s' => Q a s'
  | .panic c s' => P c s'
  | .ub => False

theorem Sat.pure {a : α} {s : σ} {Q : α → σ → Prop} {P} (h : Q a s) :
    Sat (pure a : M σ α) s Q P := h

theorem Sat.bind {m : M σ α} {f : α → M σ β} {s : σ} {Q₁ : α → σ → Prop}
    {Q : β → σ → Prop} {P : PanicClass → σ → Prop}
    (h₁ : Sat m s Q₁ P) (h₂ : ∀ a s', Q₁ a s' → Sat (f a) s' Q P) :
    Sat (m >>= f) s Q P := by
  unfold Sat at h₁ ⊢
  show match M.bind m f s with | .ok a s' => Q a s' | .panic c s' => P c s' | .ub => False
  unfold M.bind
  generalize m s = r at h₁ ⊢
  cases r with
  | ok a s' => exact h₂ a s' h₁
  | panic c s' => exact h₁
  | ub => exact h₁

theorem Sat.mono {m : M σ α} {s : σ} {Q Q' : α → σ → Prop} {P P' : PanicClass → σ → Prop}
    (h : Sat m s Q P) (hQ : ∀ a s', Q a s' → Q' a s') (hP : ∀ c s', P c s' → P' c s') :
    Sat m s Q' P' := by
  unfold Sat at h ⊢
  generalize m s = r at h ⊢
  cases r with
  | ok a s' => exact hQ a s' h
  | panic c s' => exact hP c s' h
  | ub => exact h

theorem Sat.and {m : M σ α} {s : σ} {Q₁ Q₂ : α → σ → Prop} {P₁ P₂ : PanicClass → σ → Prop}
    (h₁ : Sat m s Q₁ P₁) (h₂ : Sat m s Q₂ P₂) :
    Sat m s (fun a s' => Q₁ a s' ∧ Q₂ a s') (fun c s' => P₁ c s' ∧ P₂ c s') := by
  unfold Sat at *
  generalize m s = r at h₁ h₂ ⊢
  cases r with
  | ok a s' => exact ⟨h₁, h₂⟩
  | panic c s' => exact ⟨h₁, h₂⟩
  | ub => exact h₁

theorem Sat.ok_of {m : M σ α} {s : σ} {Q P} (h : Sat m s Q P) {a s'} (hm : m s = .ok a s') : Q a s' := by
  unfold Sat at h; rw [hm] at h; exact h

theorem Sat.panic_of {m : M σ α} {s : σ} {Q P} (h : Sat m s Q P) {c s'} (hm : m s = .panic c s') :
    P c s' := by
  unfold Sat at h; rw [hm] at h; exact h

theorem Sat.not_ub {m : M σ α} {s : σ} {Q P} (h : Sat m s Q P) : m s ≠ .ub := by
  intro hm; unfold Sat at h; rw [hm] at h; exact h

theorem Sat.of_ok {m : M σ α} {s : σ} {Q : α → σ → Prop} {P} {a s'} (hm : m s = .ok a s') (h : Q a s') :
    Sat m s Q P := by
  unfold Sat; rw [hm]; exact h

@[simp] theorem pure_apply (a : α) (s : σ) : (pure a : M σ α) s = .ok a s := rfl

@[simp] theorem bind_apply (m : M σ α) (f : α → M σ β) (s : σ) :
    (m >>= f) s = match m s with
      | .ok a s' => f a s'
      | .panic c s' => .panic c s'
      | .ub => .ub := rfl

theorem Sat.getS {s : σ} {Q : σ → σ → Prop} {P} (h : Q s s) : Sat (getS : M σ σ) s Q P := h
theorem Sat.setS {s t : σ} {Q : Unit → σ → Prop} {P} (h : Q () t) : Sat (setS t : M σ Unit) s Q P := h
theorem Sat.modS {s : σ} {f : σ → σ} {Q : Unit → σ → Prop} {P} (h : Q () (f s)) :
    Sat (modS f : M σ Unit) s Q P := h
theorem Sat.throwP {s : σ} {c} {Q : α → σ → Prop} {P : PanicClass → σ → Prop} (h : P c s) :
    Sat (throwP c : M σ α) s Q P := h

theorem Sat.ite {c : Prop} [Decidable c] {m₁ m₂ : M σ α} {s : σ} {Q P}
    (h₁ : c → Sat m₁ s Q P) (h₂ : ¬c → Sat m₂ s Q P) : Sat (if c then m₁ else m₂) s Q P := by
  split
  · exact h₁ ‹_›
  · exact h₂ ‹_›

theorem Sat.cases {m : M σ α} {s : σ} {Q : α → σ → Prop} {P} (h : Sat m s Q P) :
    (∃ a s', m s = .ok a s' ∧ Q a s') ∨ (∃ c s', m s = .panic c s' ∧ P c s') := by
  unfold Sat at h
  cases hm : m s with
  | ok a s' => rw [hm] at h; exact Or.inl ⟨a, s', rfl, h⟩
  | panic c s' => rw [hm] at h; exact Or.inr ⟨c, s', rfl, h⟩
  | ub => rw [hm] at h; exact h.elim

theorem Sat.must_panic {m : M σ α} {s : σ} {Q : α → σ → Prop} {P} (h : Sat m s Q P)
    (hQ : ∀ a s', Q a s' → False) : ∃ c s', m s = .panic c s' ∧ P c s' :=
  h.cases.resolve_left fun ⟨a, s', _, hq⟩ => hQ a s' hq

theorem Sat.must_return {m : M σ α} {s : σ} {Q : α → σ → Prop} {P} (h : Sat m s Q P)
    (hP : ∀ c s', P c s' → False) : ∃ a s', m s = .ok a s' ∧ Q a s' :=
  h.cases.resolve_right fun ⟨c, s', _, hp⟩ => hP c s' hp

theorem bind_ok {m : M σ α} {f : α → M σ β} {s s' : σ} {a : α} (hm : m s = .ok a s') :
    (m >>= f) s = f a s' := by
  rw [bind_apply, hm]

theorem Sat.bind_ok {m : M σ α} {f : α → M σ β} {s s' : σ} {a : α} {Q : β → σ → Prop} {P}
    (hm : m s = .ok a s') (h : Sat (f a) s' Q P) : Sat (m >>= f) s Q P := by
  unfold Sat; rw [Micromap.bind_ok hm]; exact h

theorem Sat.bind_panic {m : M σ α} {f : α → M σ β} {s s' : σ} {c} {Q : β → σ → Prop}
    {P : PanicClass → σ → Prop} (hm : m s = .panic c s') (h : P c s') : Sat (m >>= f) s Q P := by
  unfold Sat; rw [bind_apply, hm]; exact h

end Micromap
