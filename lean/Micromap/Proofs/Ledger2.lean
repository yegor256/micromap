/-
Object conservation for the operation language `L2Op` — every safe operation of ONE map
register, among them writes through `&mut V`, drains and consuming iterators that are dropped OR
`mem::forget`-ten, `extend` with the overflow panic in the middle, `drop` and `forget` of the
container — with the equation extended by created and leaked objects:

    stored + unreachable + passed in + created  =  stored' + unreachable' + handed back + dropped + leaked

"unreachable" are the ghost-live slots at or beyond `len` (`garbage`): this is where a forgotten
`Drain` leaves its un-yielded entries — the model (like the crate) does NOT record them in
`World.leaked` at that moment; they move to `World.leaked` when a later `insert` overwrites the
slot, or when the container is forgotten.  "leaked" is the suffix `World.leaked` grows by.

`clone` and `from_iter`, which build a map in a scratch register, are `clone_conserves` /
`from_iter_conserves`.
-/
import Micromap.Proofs.OwnGarb

set_option linter.unusedSectionVars false

namespace Micromap.Ledger2
open Micromap Ledger Own SetAlg Refine
variable {K V Q : Type}

theorem wsum_liveObjs_rep (w : Obj K V → Nat) {r : Raw K V} {l : List (K × V)} (hr : Rep r l) : ∀ n,
    wsum w (liveObjs r n) = wpairs w (l.take n) + wsum w (garbageFrom r n)
  | 0 => by simp [liveObjs, garbageFrom]
  | n + 1 => by
    rw [wsum_liveObjs_succ, wsum_liveObjs_rep w hr n]
    by_cases hn : n < l.length
    · have hs : r.slots n = some l[n] := hr.slot hn
      have hlen : ¬ r.len ≤ n := by rw [hr.1]; omega
      have ht : l.take (n + 1) = l.take n ++ [l[n]] := by
        rw [List.take_add_one, List.getElem?_eq_getElem hn]; rfl
      simp only [garbageFrom, hlen, if_false, List.append_nil, ht, wpairs_append, wpairs_cons, wpairs_nil,
        hs, wo_some]
      omega
    · have hlen : r.len ≤ n := by rw [hr.1]; omega
      have ht : l.take (n + 1) = l.take n := by
        rw [List.take_of_length_le (by omega), List.take_of_length_le (by omega)]
      simp only [garbageFrom, hlen, if_true, ht, wsum_append]
      cases r.slots n <;> simp <;> omega

/-- weight of the unreachable ghost-live slots (at or beyond `len`). -/
def garb (w : Obj K V → Nat) (r : Raw K V) : Nat := wsum w (garbage r)

theorem live_rep (w : Obj K V → Nat) {r : Raw K V} {l : List (K × V)} (hr : Rep r l) :
    live w r = wpairs w l + garb w r := by
  unfold live garb garbage
  rw [wsum_liveObjs_rep w hr r.cap, List.take_of_length_le hr.2.1]

theorem garb_new (w : Obj K V → Nat) (cap : Nat) : garb w (Raw.new cap : Raw K V) = 0 := by
  have := live_rep w (Rep.new (K := K) (V := V) cap)
  simp at this
  omega

/-- the safe operations of one map register. -/
inductive L2Op (K V Q : Type) where
  | insert (k : K) (v : V)
  | insert_key_value (k : K) (v : V)
  | checked_insert (k : K) (v : V)
  | get (pr : Probe K Q)
  | get_key_value (pr : Probe K Q)
  | contains_key (pr : Probe K Q)
  | len | is_empty | capacity
  | with_capacity (c : Nat)
  | remove (pr : Probe K Q)
  | remove_entry (pr : Probe K Q)
  | clear
  /-- `take` items are handed to the caller, then the `Drain` is dropped (`forget = false`) or
      `mem::forget`-ten (`forget = true`). -/
  | drain (take : Nat) (forget : Bool)
  | retain (f : Nat → K → V → Bool × V)
  | into_iter (kind : IntoKind) (take : Nat) (forget : Bool)
  /-- `for (k, v) in xs { self.insert(k, v); }` on this register (the body of `from_iter`, `Extend`). -/
  | extend (pulls : Bool) (xs : List (K × V))
  | get_mut (pr : Probe K Q) (g : V → V)
  | index (pr : Probe K Q)
  | index_mut (pr : Probe K Q) (g : V → V)
  /-- a borrowing iterator (`iter`, `keys`, `values`, `iter_mut`, `values_mut`) and a script of
      calls on it; `R` is how elements render (`Debug` of the iterator). -/
  | iter (R : Render K V) (kind : IterKind) (g : V → V) (script : List IterCmd)
  /-- `get_disjoint_mut(ks)` and a write `*r = g(*r)` through every returned reference. -/
  | get_disjoint_mut (g : V → V) (ks : List (Probe K Q))
  | fmt (R : Render K V) (kind : FmtKind)
  /-- an entry chain `map.entry(k).and_modify(g₁)….<fin>`. -/
  | entry (k : K) (mods : List (V → V)) (fin : EntryEnd V)
  | drop
  | forget

/-- every operation of `Ledger.LOp` is one of `L2Op`. -/
def L2Op.ofLOp : LOp K V Q → L2Op K V Q
  | .insert k v => .insert k v
  | .insert_key_value k v => .insert_key_value k v
  | .checked_insert k v => .checked_insert k v
  | .get pr => .get pr
  | .contains_key pr => .contains_key pr
  | .remove pr => .remove pr
  | .remove_entry pr => .remove_entry pr
  | .clear => .clear
  | .drain take => .drain take false

/-- objects the caller passes in. -/
def L2Op.inObjs : L2Op K V Q → List (Obj K V)
  | .insert k v => [.k k, .v v]
  | .insert_key_value k v => [.k k, .v v]
  | .checked_insert k v => [.k k, .v v]
  | .extend _ xs => pairObjs xs
  | .entry k _ fin => .k k :: finIn fin
  | _ => []

/-- the weighting does not tell the values the user closures of the operation write through
    `&mut V` from the values they found there: such a write changes a value in place, it neither
    creates nor destroys one (`retain`'s predicate, `get_mut` / `index_mut` followed by a write). -/
def L2Op.WOk (w : Obj K V → Nat) : L2Op K V Q → Prop
  | .retain f => ∀ n k v, w (.v (f n k v).2) = w (.v v)
  | .get_mut _ g => ∀ v, w (.v (g v)) = w (.v v)
  | .index_mut _ g => ∀ v, w (.v (g v)) = w (.v v)
  | .entry _ mods fin => (∀ g ∈ mods, ∀ v, w (.v (g v)) = w (.v v)) ∧ finWOk w fin
  | .iter _ kind g _ => (kind = .iter_mut ∨ kind = .values_mut) → ∀ v, w (.v (g v)) = w (.v v)
  | .get_disjoint_mut g _ => ∀ v, w (.v (g v)) = w (.v v)
  | _ => True

/-- the user closures of the operation leave the values they are shown as they are (a `retain`
    predicate that only looks, `and_modify(|_| ())`, …). -/
def L2Op.NoWrite : L2Op K V Q → Prop
  | .retain f => ∀ n k v, (f n k v).2 = v
  | .get_mut _ g => ∀ v, g v = v
  | .index_mut _ g => ∀ v, g v = v
  | .entry _ mods fin => (∀ g ∈ mods, ∀ v, g v = v) ∧
      (match fin with | .occ_get_mut g => ∀ v, g v = v | _ => True)
  | .iter _ kind g _ => (kind = .iter_mut ∨ kind = .values_mut) → ∀ v, g v = v
  | .get_disjoint_mut g _ => ∀ v, g v = v
  | _ => True

theorem L2Op.WOk_of_noWrite (w : Obj K V → Nat) (op : L2Op K V Q) (h : op.NoWrite) : op.WOk w := by
  cases op with
  | retain f => exact fun n k v => by rw [h n k v]
  | get_mut pr g => exact fun v => by rw [h v]
  | index_mut pr g => exact fun v => by rw [h v]
  | iter R kind g script => exact fun hk v => by rw [h hk v]
  | get_disjoint_mut g ks => exact fun v => by rw [h v]
  | entry k mods fin =>
    refine ⟨fun g hg v => by rw [h.1 g hg v], ?_⟩
    cases fin with
    | occ_get_mut g => exact fun v => by rw [h.2 v]
    | _ => exact trivial
  | _ => exact trivial

theorem L2Op.WOk_of_blind (w : Obj K V → Nat) (hw0 : ∀ v, w (.v v) = 0) (op : L2Op K V Q) : op.WOk w := by
  cases op with
  | retain f => exact fun n k v => by rw [hw0, hw0]
  | get_mut pr g => exact fun v => by rw [hw0, hw0]
  | index_mut pr g => exact fun v => by rw [hw0, hw0]
  | iter R kind g script => exact fun _ v => by rw [hw0, hw0]
  | get_disjoint_mut g ks => exact fun v => by rw [hw0, hw0]
  | entry k mods fin =>
    refine ⟨fun g _ v => by rw [hw0, hw0], ?_⟩
    cases fin <;> first | exact trivial | exact fun v => by rw [hw0, hw0]
  | _ => exact trivial

/-- what the caller gets of a pair a consuming iterator yields. -/
def kindObjs (kind : IntoKind) (p : K × V) : List (Obj K V) :=
  match kind with
  | .pairs => [.k p.1, .v p.2]
  | .keys => [.k p.1]
  | .values => [.v p.2]

variable (E : Env K V Q)

/-- the operation on the slot machine, returning the objects whose ownership goes to the caller. -/
def l2mrun : L2Op K V Q → SM K V Q (List (Obj K V))
  | .insert k v => lmrun E (.insert k v)
  | .insert_key_value k v => lmrun E (.insert_key_value k v)
  | .checked_insert k v => lmrun E (.checked_insert k v)
  | .get pr => lmrun E (.get pr)
  | .get_key_value pr => lmrun E (.get pr)
  | .contains_key pr => lmrun E (.contains_key pr)
  | .len => do let _ ← (Micromap.len : SM K V Q Nat); pure []
  | .is_empty => do let _ ← (Micromap.is_empty : SM K V Q Bool); pure []
  | .capacity => do let _ ← (Micromap.capacity : SM K V Q Nat); pure []
  | .with_capacity c => do
    let cap ← getCap
    assertP (c == cap) .capacity
    pure []
  | .remove pr => lmrun E (.remove pr)
  | .remove_entry pr => lmrun E (.remove_entry pr)
  | .clear => lmrun E .clear
  | .drain take forget => do
    let r ← drainOp E take forget
    pure (pairObjs r.1)
  | .retain f => do retain E f; pure []
  | .into_iter kind take forget => do
    let r ← intoIterOp E kind take forget
    pure (r.1.flatMap (kindObjs kind))
  | .extend pulls xs => do extendLoop E pulls xs; pure []
  | .get_mut pr g => do let _ ← get_mut E pr g; pure []
  | .index pr => do let _ ← index E pr; pure []
  | .index_mut pr g => do let _ ← index_mut E pr g; pure []
  | .iter R kind g script => do let _ ← iterOp R kind g script; pure []
  | .get_disjoint_mut g ks => do
    let _ ← (do
      let slots ← get_disjoint_mut E ks
      writeSlots g slots
      let s ← getS
      pure (RV.list (← readSlots s.r slots)) : SM K V Q (RV K V))
    pure []
  | .fmt R kind => do let _ ← fmtMap R kind; pure []
  | .entry k mods fin => do
    let e ← entry E k
    let e' ← entryMods mods e
    let r ← entryFinish E fin e'
    pure (finBack fin e' r)
  | .drop => do dropAndRenew E; pure []
  | .forget => do forgetMap; pure []

theorem l2mrun_ofLOp (op : LOp K V Q) : l2mrun E (L2Op.ofLOp op) = lmrun E op := by
  cases op <;> rfl

def voidR {σ α : Type} : Res σ α → Res σ Unit
  | .ok _ s => .ok () s
  | .panic c s => .panic c s
  | .ub => .ub

/-- the `MapOp` an `L2Op` is (`extend` is the loop of `from_iter` run on the register itself, the
    body of `Extend for Set`: not a `MapOp`). -/
def L2Op.toMapOp : L2Op K V Q → Option (MapOp K V Q)
  | .insert k v => some (.insert k v)
  | .insert_key_value k v => some (.insert_key_value k v)
  | .checked_insert k v => some (.checked_insert k v)
  | .get pr => some (.get pr)
  | .get_key_value pr => some (.get_key_value pr)
  | .contains_key pr => some (.contains_key pr)
  | .len => some .len
  | .is_empty => some .is_empty
  | .capacity => some .capacity
  | .with_capacity c => some (.with_capacity c)
  | .remove pr => some (.remove pr)
  | .remove_entry pr => some (.remove_entry pr)
  | .clear => some .clear
  | .drain take fg => some (.drain take fg)
  | .retain f => some (.retain f)
  | .into_iter kind take fg => some (.into_iter kind take fg)
  | .extend _ _ => none
  | .get_mut pr g => some (.get_mut pr g)
  | .index pr => some (.index pr)
  | .index_mut pr g => some (.index_mut pr g)
  | .iter _ kind g script => some (.iter kind g script)
  | .get_disjoint_mut g ks => some (.get_disjoint_mut false g ks)
  | .fmt _ kind => some (.fmt kind)
  | .entry k mods fin => some (.entry k mods fin)
  | .drop => some .drop
  | .forget => some .forget

/-- how elements render, for the operations whose observable result depends on it. -/
def L2Op.render : L2Op K V Q → Option (Render K V)
  | .iter R _ _ _ => some R
  | .fmt R _ => some R
  | _ => none

theorem voidR_bind_congr {α β γ : Type} (m : SM K V Q α) {f : α → SM K V Q β} {g : α → SM K V Q γ}
    (s : St K V Q) (h : ∀ a s, voidR (f a s) = voidR (g a s)) : voidR ((m >>= f) s) = voidR ((m >>= g) s) := by
  simp only [bind_apply]
  cases m s with
  | ok a s1 => exact h a s1
  | panic c s1 => rfl
  | ub => rfl

theorem voidR_bind_pure {α β : Type} (m : SM K V Q α) {f : α → SM K V Q β} (s : St K V Q)
    (hf : ∀ a s, voidR (f a s) = .ok () s) : voidR ((m >>= f) s) = voidR (m s) := by
  simp only [bind_apply]
  cases m s with
  | ok a s1 => exact hf a s1
  | panic c s1 => rfl
  | ub => rfl

/-- `l2mrun` and the model's `stepMapOp` on the same operation differ only in what they return (the
    handed-back objects / the observable result). -/
theorem l2mrun_is_step (R : Render K V) (other : Nat → Raw K V) (op : L2Op K V Q) (mop : MapOp K V Q)
    (h : op.toMapOp = some mop) (hR : ∀ R', op.render = some R' → R' = R) (s : St K V Q) :
    voidR (l2mrun E op s) = voidR (stepMapOp E R other mop s) := by
  cases op <;> simp only [L2Op.toMapOp, Option.some.injEq, reduceCtorEq] at h <;> subst h <;>
    simp only [l2mrun, lmrun, stepMapOp]
  case iter R' kind g script | fmt R' kind =>
    obtain rfl := hR R' rfl
    exact voidR_bind_congr _ s fun _ _ => rfl
  case get_disjoint_mut g ks =>
    simp only [Bool.false_eq_true, if_false]
    exact voidR_bind_pure _ s fun _ _ => rfl
  case entry k mods fin =>
    exact voidR_bind_congr _ s fun e s1 => voidR_bind_congr _ s1 fun e' s2 => voidR_bind_congr _ s2 fun _ _ => rfl
  case with_capacity c =>
    exact voidR_bind_congr _ s fun cap s1 => voidR_bind_congr _ s1 fun _ _ => rfl
  -- the continuations that look at what the operation returned
  case insert k v | insert_key_value k v | remove pr | remove_entry pr =>
    exact voidR_bind_congr _ s fun o _ => by cases o <;> rfl
  case checked_insert k v =>
    exact voidR_bind_congr _ s fun o _ => by rcases o with _ | _ | _ <;> rfl
  all_goals exact voidR_bind_congr _ s fun _ _ => rfl

/-- `Extend for Set` (`SetOp.extend`, the only `extend` of the crate) is `L2Op.extend` on a
    `Map<T, (), N>` register. -/
theorem l2mrun_extend_is_set_extend {K Q : Type} (F : Env K Unit Q) (R : Render K Unit)
    (other : Nat → Raw K Unit) (pulls : Bool) (xs : List K) (s : St K Unit Q) :
    voidR (l2mrun F (.extend pulls (xs.map fun k => (k, ()))) s) =
      voidR (stepSetOp F R other (.extend pulls xs) s) := by
  simp only [l2mrun, stepSetOp]
  exact voidR_bind_congr _ s fun _ _ => rfl

theorem _root_.Micromap.OpInv.of_voidR {α β : Type} {m : SM K V Q α} {m' : SM K V Q β} (h : ∀ s, voidR (m s) = voidR (m' s))
    (h' : OpInv E m') : OpInv E m := by
  intro s hs
  have h2 := h' s hs
  have e := h s
  unfold Sat at h2 ⊢
  cases hm : m s <;> cases hm' : m' s <;> rw [hm, hm'] at e <;> cases e <;> rw [hm'] at h2 <;> exact h2

/-- every operation keeps the invariant and the capacity, returning or unwinding, and never
    reaches `ub` (any world, any user equality): the model's `stepMapOp` does. -/
theorem l2mrun_opInv (op : L2Op K V Q) : OpInv E (l2mrun E op) := by
  intro s hs
  have step : ∀ (R : Render K V) (mop : MapOp K V Q), op.toMapOp = some mop →
      (∀ R', op.render = some R' → R' = R) → (∀ k v, mop ≠ .insert_unchecked k v) →
      Sat (l2mrun E op) s (fun _ s' => Inv E s'.r ∧ s'.r.cap = s.r.cap) (fun _ s' => Inv E s'.r ∧ s'.r.cap = s.r.cap) :=
    fun R mop h hR hne => OpInv.of_voidR E (l2mrun_is_step E R (fun _ => s.r) op mop h hR)
      (stepMapOp_inv E R (fun _ => s.r) (fun _ => hs) mop hne) s hs
  cases op with
  | extend pulls xs => exact OpInv.bind (opInv_extendLoop E pulls xs) (fun _ => OpInv.pure _) s hs
  | iter R kind g script => exact step R _ rfl (fun _ h => (Option.some.inj h).symm) nofun
  | fmt R kind => exact step R _ rfl (fun _ h => (Option.some.inj h).symm) nofun
  | _ => exact step ⟨fun _ _ => "", fun _ _ => "", fun _ => "", fun _ => ""⟩ _ rfl nofun nofun

variable {E} {P : Event K V Q → Prop} [EvP P] {w : Obj K V → Nat}

theorem wsum_pairObjs (l : List (K × V)) : wsum w (pairObjs l) = wpairs w l := rfl

theorem wsum_kindObjs (kind : IntoKind) (l : List (K × V)) :
    wsum w (l.flatMap (kindObjs kind)) = wkinds w kind l := by
  induction l with
  | nil => rfl
  | cons p l ih =>
    simp only [List.flatMap_cons, wsum_append, ih, wkinds, List.map_cons, List.sum_cons]
    cases kind <;> simp [kindObjs, wkind]

/-- **one step, any world, any user equality**: passed in + created = handed back + dropped +
    leaked + (change of the live slots); a step that unwinds hands nothing back, and then either
    the balance is exact all the same (the container's own panics: overflow, `index` of an absent
    key) or the panic is an injected one. -/
theorem l2mrun_cons (hv : HV E w) (op : L2Op K V Q) (hop : op.WOk w) {s : St K V Q} (hs : Inv E s.r) :
    ConsAt P w (l2mrun E op) s (wsum w op.inObjs) (fun back => wsum w back) (some 0) := by
  cases op with
  | insert k v =>
    refine ConsAt.bind_all ((insert_cons E hv k v s).congr_in (by simp [L2Op.inObjs])) (fun o s1 _ => ?_)
    cases o <;> exact ConsAt.pure (by simp)
  | insert_key_value k v =>
    refine ConsAt.bind_all ((insert_key_value_cons E hv k v s).congr_in (by simp [L2Op.inObjs])) (fun o s1 _ => ?_)
    cases o <;> exact ConsAt.pure (by simp)
  | checked_insert k v =>
    refine ConsAt.bind_all ((checked_insert_cons E hv k v s).congr_in (by simp [L2Op.inObjs])) (fun o s1 _ => ?_)
    cases o with
    | none => exact ConsAt.pure (by simp [wovv])
    | some o' => cases o' <;> exact ConsAt.pure (by simp [wovv])
  | get pr => exact (get_cons E pr s).map (fun _ => rfl)
  | contains_key pr => exact (contains_key_cons E pr s).map (fun _ => rfl)
  | get_key_value pr => exact (get_cons E pr s).map (fun _ => rfl)
  | len => exact (getLen_cons s).map (fun _ => rfl)
  | is_empty => exact (is_empty_cons s).map (fun _ => rfl)
  | capacity => exact (getCap_cons s).map (fun _ => rfl)
  | with_capacity c =>
    refine ConsAt.bind0_inj (getCap_cons s) (fun cap s1 _ => ?_)
    exact (assertP_cons _ _ s1).map (fun _ => rfl)
  | remove pr =>
    refine ConsAt.bind_all (remove_cons E pr s) (fun o s1 _ => ?_)
    cases o <;> exact ConsAt.pure (by simp)
  | remove_entry pr =>
    refine ConsAt.bind_all (remove_entry_cons E pr s) (fun o s1 _ => ?_)
    cases o <;> exact ConsAt.pure (by simp)
  | clear => exact (clear_cons E hv s).map (fun _ => rfl)
  | drain take forget => exact (drainOp_cons E hv take forget s).map (fun r => (wsum_pairObjs r.1).symm)
  | retain f => exact (retain_cons E hv f hop s).map (fun _ => rfl)
  | into_iter kind take forget =>
    obtain ⟨l, hr, _⟩ := hs
    exact (intoIterOp_cons E hv kind take forget hr).of_inj.map (fun r => (wsum_kindObjs kind r.1).symm)
  | extend pulls xs =>
    exact ((extendLoop_cons E hv pulls xs s).congr_in (wsum_pairObjs xs).symm).map (fun _ => rfl)
  | get_mut pr g => exact (get_mut_cons E pr g hop s).map (fun _ => rfl)
  | index pr => exact (index_cons E pr s).map (fun _ => rfl)
  | index_mut pr g => exact (index_mut_cons E pr g hop s).map (fun _ => rfl)
  | iter R kind g script =>
    exact (iterOp_cons Lent.zero R kind g hop script s).map (fun _ => sum_map_zero fun _ _ => rfl)
  | get_disjoint_mut g ks =>
    refine ConsAt.map (g := fun _ => []) ?_ (fun _ => rfl)
    refine ConsAt.bind0 (get_disjoint_mut_cons E ks s) (fun slots s1 _ => ?_)
    refine ConsAt.bind0_inj (writeSlots_cons g hop slots s1) (fun _ s2 _ => ?_)
    refine ConsAt.getS_bind ?_
    exact (readSlots_cons Lent.zero s2.r slots s2).map (fun _ => sum_map_zero fun _ _ => rfl)
  | fmt R kind => exact (fmtMap_cons R kind s).map (fun _ => rfl)
  | entry k mods fin =>
    have hle : s.r.len ≤ s.r.cap := by obtain ⟨l, hr, _⟩ := hs; exact hr.1 ▸ hr.2.1
    refine ConsAt.bind_inj (entry_inj E k hle) (by simp [L2Op.inObjs]) (fun e s1 _ => ?_)
    refine ConsAt.bind_inj (entryMods_cons mods hop.1 e s1) (by omega) (fun e' s2 _ => ?_)
    exact ((entryFinish_cons E hv fin hop.2 e' s2).congr_in (by simp [L2Op.inObjs]; omega)).map (fun _ => rfl)
  | drop => exact (dropAndRenew_cons E hv s).map (fun _ => rfl)
  | forget => exact (forgetMap_cons s).map (fun _ => rfl)

variable (E)

/-- the history on the slot machine: final state and the objects handed back; a step that ends in
    one of the container's own panics leaves the history going. -/
def l2mhist : List (L2Op K V Q) → St K V Q → Option (St K V Q × List (Obj K V))
  | [], s => some (s, [])
  | op :: ops, s =>
    match l2mrun E op s with
    | .ok back s' => (l2mhist ops s').map fun r => (r.1, back ++ r.2)
    | .panic _ s' => l2mhist ops s'
    | .ub => none

variable {E}

theorem Bal.benign {s s' : St K V Q} {i o : Nat} (h : Bal P w s s' i o) (hb : Benign s.w) : Benign s'.w := by
  obtain ⟨ev, lk, hw, _⟩ := h
  exact hw.toWRel.benign hb

theorem _root_.Micromap.Own.Bal.seq {s s1 s2 : St K V Q} {i1 o1 i2 o2 : Nat} (h1 : Bal P w s s1 i1 o1) (h2 : Bal P w s1 s2 i2 o2) :
    Bal P w s s2 (i1 + i2) (o1 + o2) :=
  Bal.trans h1 ((h2.frame o1).of_eq (by omega) (by omega))

theorem l2mhist_bal (hv : HV E w) : ∀ (ops : List (L2Op K V Q)) (s : St K V Q),
    (∀ op ∈ ops, op.WOk w) → Inv E s.r → Benign s.w →
    ∃ sf back, l2mhist E ops s = some (sf, back) ∧ Inv E sf.r ∧ sf.r.cap = s.r.cap ∧
      Bal P w s sf (wsum w (ops.flatMap L2Op.inObjs)) (wsum w back)
  | [], s, _, hs, _ => ⟨s, [], rfl, hs, rfl, by simpa using Bal.refl s 0⟩
  | op :: ops, s, hops, hs, hb => by
    have hI := l2mrun_opInv E op s hs
    have hC := l2mrun_cons (P := P) hv op (hops op (List.mem_cons_self ..)) hs
    have ih := fun s' => l2mhist_bal hv ops s' fun o ho => hops o (List.mem_cons_of_mem _ ho)
    unfold l2mhist
    cases hm : l2mrun E op s with
    | ok back s' =>
      obtain ⟨hI', hc⟩ := Sat.ok_of hI hm
      have hbal := hC.ok_of hm
      obtain ⟨sf, b2, h1, h2, h3, h4⟩ := ih s' hI' (Bal.benign hbal hb)
      refine ⟨sf, back ++ b2, by simp [h1], h2, h3.trans hc, ?_⟩
      simpa [List.flatMap_cons] using Bal.seq hbal h4
    | panic c s' =>
      obtain ⟨hI', hc⟩ := Sat.panic_of hI hm
      -- the container's own panics balance exactly, with nothing handed back
      obtain ⟨q, hq, hbal⟩ := hC.panic_benign hb.1 hm
      cases hq
      obtain ⟨sf, b2, h1, h2, h3, h4⟩ := ih s' hI' (Bal.benign hbal hb)
      refine ⟨sf, b2, by simp [h1], h2, h3.trans hc, ?_⟩
      simpa [List.flatMap_cons] using Bal.seq hbal h4
    | ub => exact absurd hm (Sat.not_ub hI)

/-- **Conservation over every history of `L2Op`, under any user equality**, in a benign world:
    the history runs without `ub`, keeps the invariant, and for every weighting `w` that the
    in-place writes of the history respect (`L2Op.WOk`)

        stored + unreachable + passed in + created
          = stored' + unreachable' + handed back + dropped + leaked

    where `tr` are the effects of the history (`createdOf tr`: the clone results — none, these
    operations do not clone; `droppedOf tr`: the drop log) and `lk` is what `World.leaked` grew by. -/
theorem l2mhist_conserves (hv : HV E w) (ops : List (L2Op K V Q)) (s : St K V Q) (l : List (K × V))
    (hops : ∀ op ∈ ops, op.WOk w) (hr : Rep s.r l) (hn : E.Good → NodupKeys E.keq l) (hb : Benign s.w) :
    ∃ sf back tr lk lf, l2mhist E ops s = some (sf, back) ∧ Rep sf.r lf ∧ (E.Good → NodupKeys E.keq lf) ∧
      sf.r.cap = s.r.cap ∧ WRel s.w sf.w tr ∧ sf.w.leaked = s.w.leaked ++ lk ∧ createdOf tr = [] ∧
      wpairs w l + garb w s.r + wsum w (ops.flatMap L2Op.inObjs) + wsum w (createdOf tr) =
        wpairs w lf + garb w sf.r + wsum w back + wsum w (droppedOf tr) + wsum w lk := by
  obtain ⟨sf, back, h1, ⟨lf, hrf, hnf⟩, h3, ev, lk, hw, heq⟩ :=
    l2mhist_bal (P := notClone) hv ops s hops ⟨l, hr, hn⟩ hb
  refine ⟨sf, back, ev.filter Event.isEff, lk, lf, h1, hrf, hnf, h3, hw.toWRel, hw.leaked, ?_, ?_⟩
  · rw [createdOf_filter]; exact createdOf_notClone ev hw.evP
  · rw [createdOf_filter, droppedOf_filter, ← live_rep w hr, ← live_rep w hrf]
    exact heq

theorem l2mhist_conserves_new (hv : HV E w) (ops : List (L2Op K V Q)) (cap : Nat) (w0 : World K V Q)
    (hops : ∀ op ∈ ops, op.WOk w) (hb : Benign w0) :
    ∃ sf back tr lk lf, l2mhist E ops ⟨Raw.new cap, w0⟩ = some (sf, back) ∧ Rep sf.r lf ∧
      WRel w0 sf.w tr ∧ sf.w.leaked = w0.leaked ++ lk ∧ createdOf tr = [] ∧
      wsum w (ops.flatMap L2Op.inObjs) + wsum w (createdOf tr) =
        wpairs w lf + garb w sf.r + wsum w back + wsum w (droppedOf tr) + wsum w lk := by
  obtain ⟨sf, back, tr, lk, lf, h1, h2, _, _, h5, h6, hc, h7⟩ :=
    l2mhist_conserves hv ops ⟨Raw.new cap, w0⟩ [] hops (Rep.new cap) (fun _ => List.Pairwise.nil) hb
  refine ⟨sf, back, tr, lk, lf, h1, h2, h5, h6, hc, ?_⟩
  rw [wpairs_nil, garb_new, Nat.zero_add] at h7
  exact h7

/-! ### the operations that build a container in a scratch register (`clone`, `from_iter`)

At the system level (`assignMap`) these run on a fresh `Raw.new cap`; on success the result is
assigned to the destination register, whose old content is dropped (the operation `L2Op.drop`). -/

theorem _root_.Micromap.WRel.tr_unique {w0 w1 : World K V Q} {t1 t2} (h1 : WRel w0 w1 t1) (h2 : WRel w0 w1 t2) : t1 = t2 := by
  have := h1.trace.symm.trans h2.trace
  exact List.append_cancel_left this

/-- **`clone` conserves**: in a benign world `clone` of a well-formed map returns; the objects
    stored in the new map (plus anything dropped or leaked on the way: nothing, by `cloneInto_sat`)
    are exactly the clone results of the trace — the source is only read. -/
theorem clone_conserves (hv : HV E w) {src : Raw K V} {l : List (K × V)} (hsrc : Rep src l)
    (w0 : World K V Q) (hb : Benign w0) :
    ∃ s' l' lk, cloneInto E src ⟨Raw.new src.cap, w0⟩ = .ok () s' ∧ Rep s'.r l' ∧ garb w s'.r = 0 ∧
      EqClone.ClonesOf E l l' ∧ WRel w0 s'.w (EqClone.cloneTrace E l l') ∧ s'.w.leaked = w0.leaked ++ lk ∧
      wsum w (createdOf (EqClone.cloneTrace E l l')) =
        wpairs w l' + wsum w (droppedOf (EqClone.cloneTrace E l l')) + wsum w lk := by
  have hsat := EqClone.cloneInto_sat E hsrc (s := ⟨Raw.new src.cap, w0⟩) (EqClone.Fresh.new _) rfl
  rcases outcome hsat with ⟨_, s', hm, _, l', hf, hcl, hw⟩ | ⟨c, s', _, _, hi', _⟩
  · obtain ⟨ev, lk, hx, heq⟩ := (cloneInto_cons (P := fun _ => True) E (fun _ => trivial) hv src _).ok_of hm
    have htr := WRel.tr_unique hx.toWRel hw
    have hg : garb w s'.r = 0 := by
      unfold garb
      rw [OwnSys.NoGarb.garbage fun n hle => hf.2 n (by rw [← hf.1.1]; exact hle)]; rfl
    refine ⟨s', l', lk, hm, hf.1, hg, hcl, hw, hx.leaked, ?_⟩
    rw [← htr, createdOf_filter, droppedOf_filter]
    have h1 := live_rep w hf.1
    have h0 : live w (Raw.new src.cap : Raw K V) = 0 := live_new w _
    simp only [h0] at heq
    omega
  · exact (no_inj hb hi').elim

/-- **`from_iter` / `collect` conserves**, for any user equality, in a benign world: whether the
    construction returns or unwinds (overflow in the middle: the pairs inserted so far are dropped
    with the local map, the pair being inserted is dropped, the un-pulled rest of the source is
    dropped), every pair of the source is afterwards live in the scratch register, dropped or
    leaked (`live`: all ghost-live slots of the scratch register; after an unwinding the scratch
    register is gone, its live slots — none, by `from_iter_sat` — would be leaked); nothing is
    handed back. -/
theorem from_iter_conserves (hv : HV E w) (pulls : Bool) (xs : List (K × V)) (cap : Nat)
    (w0 : World K V Q) (hb : Benign w0) :
    ∃ s' ev lk, (from_iter E pulls xs ⟨Raw.new cap, w0⟩ = .ok () s' ∨
        ∃ c, from_iter E pulls xs ⟨Raw.new cap, w0⟩ = .panic c s') ∧ WExt notClone w0 s'.w ev lk ∧
      wpairs w xs + wsum w (createdOf ev) = live w s'.r + wsum w (droppedOf ev) + wsum w lk := by
  have hC := from_iter_cons (P := notClone) E hv pulls xs (w := w) ⟨Raw.new cap, w0⟩
  have hsat := FromIter.from_iter_sat E pulls xs (s := ⟨Raw.new cap, w0⟩) (Rep.new cap)
  have h0 : live w (Raw.new cap : Raw K V) = 0 := live_new w _
  rcases outcome hsat with ⟨_, s', hm, _⟩ | ⟨c, s', hm, _⟩
  · obtain ⟨ev, lk, hx, heq⟩ := hC.ok_of hm
    simp only [h0] at heq
    exact ⟨s', ev, lk, Or.inl hm, hx, by omega⟩
  · obtain ⟨q, hq, ev, lk, hx, heq⟩ := hC.panic_benign hb.1 hm
    cases hq
    simp only [h0] at heq
    exact ⟨s', ev, lk, Or.inr ⟨c, hm⟩, hx, by omega⟩

end Micromap.Ledger2
