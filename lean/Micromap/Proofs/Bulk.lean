/-
Triples of the operations that touch many slots: `dropRange` (behind `clear`, `Drop`,
`Drain::drop`), `clear`, `Drop for Map`, `retain`.
-/
import Micromap.Proofs.MapApi

namespace Micromap
open Dict (swapRemove)
open SetAlg (EquivB NodupKeys)
variable {K V Q : Type} (E : Env K V Q)

/-- the effects of dropping a list of pairs front to back. -/
def dropTrace (ps : List (K × V)) : List (Event K V Q) :=
  ps.flatMap fun p => .dropK p.1 :: dropVTr E p.2

theorem itemDrop_sat {s : St K V Q} {i p} (hc : i < s.r.cap) (hs : s.r.slots i = some p) :
    Sat (itemDrop E i) s
      (fun _ s' => s'.r = setSlot s.r i none ∧ WRel s.w s'.w (Event.dropK p.1 :: dropVTr E p.2))
      (fun c s' => s'.r = setSlot s.r i none ∧ InjPanic s s' c) := by
  unfold itemDrop
  refine Sat.bind_ok (itemRead_ok hc hs) (Sat.mono (((dropPair_cb E p).at _).shift (WRel.refl s.w)) ?_ (fun _ _ h => h))
  exact fun _ _ ⟨h1, h2, _⟩ => ⟨h1, h2⟩

/-- Also when an element's `Drop` unwinds, the slots outside `[i, i + |ps|)` are untouched. -/
theorem dropRange_sat : ∀ (ps : List (K × V)) (i : Nat) (s : St K V Q),
    (∀ j (hj : j < ps.length), s.r.slots (i + j) = some ps[j]) → i + ps.length ≤ s.r.cap →
    Sat (dropRange E ps.length i) s
      (fun _ s' => s'.r.len = s.r.len ∧ s'.r.cap = s.r.cap ∧
        (∀ j, j < i ∨ i + ps.length ≤ j → s'.r.slots j = s.r.slots j) ∧
        (∀ j, i ≤ j → j < i + ps.length → s'.r.slots j = none) ∧ WRel s.w s'.w (dropTrace E ps))
      (fun c s' => s'.r.len = s.r.len ∧ s'.r.cap = s.r.cap ∧
        (∀ j, j < i ∨ i + ps.length ≤ j → s'.r.slots j = s.r.slots j) ∧ InjPanic s s' c) := by
  intro ps
  induction ps with
  | nil =>
    intro i s _ _
    exact Sat.pure ⟨rfl, rfl, fun _ _ => rfl, fun j h1 h2 => absurd h2 (Nat.not_lt.mpr h1),
      by simpa [dropTrace] using WRel.refl _⟩
  | cons p ps ih =>
    intro i s hl hc
    simp only [List.length_cons] at hc ⊢
    unfold dropRange
    -- slot `i` goes first; all other slots are as before
    refine Sat.bind (Sat.mono (itemDrop_sat E (by omega) (hl 0 (Nat.zero_lt_succ _))) (fun _ _ h => h) ?_) ?_
    · rintro c s' ⟨h1, h2⟩
      exact ⟨by rw [h1]; rfl, by rw [h1]; rfl, fun j hj => by rw [h1]; exact setSlot_other _ _ (by omega), h2⟩
    · intro _ s1 ⟨h1, h2⟩
      have hoth : ∀ j, j ≠ i → s1.r.slots j = s.r.slots j := fun j hj => by rw [h1]; exact setSlot_other _ _ hj
      have hl1 : ∀ j (hj : j < ps.length), s1.r.slots (i + 1 + j) = some ps[j] := fun j hj => by
        rw [hoth _ (by omega), Nat.add_assoc, Nat.add_comm 1 j]; exact hl (j + 1) (Nat.succ_lt_succ hj)
      refine Sat.mono (ih (i + 1) s1 hl1 (by rw [h1]; show i + 1 + ps.length ≤ s.r.cap; omega)) ?_ ?_
      · rintro _ s2 ⟨g1, g2, g3, g4, g5⟩
        refine ⟨by rw [g1, h1]; rfl, by rw [g2, h1]; rfl, fun j hj => ?_, fun j hj1 hj2 => ?_, ?_⟩
        · rw [g3 j (by omega), hoth j (by omega)]
        · by_cases hji : j = i
          · rw [g3 j (by omega), hji, h1]; exact setSlot_same _ _ _
          · exact g4 j (by omega) (by omega)
        · simpa [dropTrace] using h2.trans g5
      · rintro c s2 ⟨g1, g2, g3, g4⟩
        exact ⟨by rw [g1, h1]; rfl, by rw [g2, h1]; rfl, fun j hj => by rw [g3 j (by omega), hoth j (by omega)],
          g4.after h2⟩

theorem Rep.slots_at {r : Raw K V} {l} (h : Rep r l) : ∀ j (hj : j < l.length), r.slots (0 + j) = some l[j] := by
  intro j hj; simpa using h.slot hj

/-- `clear` (`len` is reset before the drops): whatever happens, the map is empty and well-formed afterwards. -/
theorem clear_sat {s : St K V Q} {l : List (K × V)} (hr : Rep s.r l) :
    Sat (clear E) s
      (fun _ s' => Rep s'.r [] ∧ s'.r.cap = s.r.cap ∧ WRel s.w s'.w (dropTrace E l))
      (fun c s' => Rep s'.r [] ∧ s'.r.cap = s.r.cap ∧ InjPanic s s' c) := by
  unfold clear
  refine Sat.getLen_bind (Sat.bind_ok (s' := { s with r := { s.r with len := 0 } }) rfl ?_)
  rw [hr.1]
  refine Sat.mono (dropRange_sat E l 0 _ (hr.slots_at) (by simpa using hr.2.1)) ?_ ?_
  · intro _ s' ⟨g1, g2, _, _, g5⟩
    exact ⟨⟨g1, Nat.zero_le _, fun _ h => by simp at h⟩, g2, g5⟩
  · intro c s' ⟨g1, g2, _, g4⟩
    exact ⟨⟨g1, Nat.zero_le _, fun _ h => by simp at h⟩, g2, g4⟩

/-- `Drop for Map`: every live slot is dropped once, none is touched twice; never `ub`. -/
theorem dropMap_sat {s : St K V Q} {l : List (K × V)} (hr : Rep s.r l) :
    Sat (dropMap E) s
      (fun _ s' => s'.r.cap = s.r.cap ∧ (∀ j, j < l.length → s'.r.slots j = none) ∧
        (∀ j, l.length ≤ j → s'.r.slots j = s.r.slots j) ∧ WRel s.w s'.w (dropTrace E l))
      (fun c s' => s'.r.cap = s.r.cap ∧ (∀ j, l.length ≤ j → s'.r.slots j = s.r.slots j) ∧ InjPanic s s' c) := by
  unfold dropMap
  refine Sat.getLen_bind ?_
  rw [hr.1]
  refine Sat.mono (dropRange_sat E l 0 s (hr.slots_at) (by simpa using hr.2.1)) ?_ ?_
  · intro _ s' ⟨_, g2, g3, g4, g5⟩
    exact ⟨g2, fun j hj => g4 j (Nat.zero_le _) (by simpa using hj), fun j hj => g3 j (Or.inr (by simpa using hj)), g5⟩
  · intro c s' ⟨_, g2, g3, g4⟩
    exact ⟨g2, fun j hj => g3 j (Or.inr (by simpa using hj)), g4⟩

/-- `remove_index_drop`: compacts first, then drops the removed pair. -/
theorem remove_index_drop_sat {s : St K V Q} {l} (hr : Rep s.r l) {i} (hi : i < l.length) :
    Sat (remove_index_drop E i) s
      (fun _ s' => Rep s'.r (swapRemove l i) ∧ s'.r.cap = s.r.cap ∧
        WRel s.w s'.w (.dropK l[i].1 :: dropVTr E l[i].2))
      (fun c s' => Rep s'.r (swapRemove l i) ∧ s'.r.cap = s.r.cap ∧ InjPanic s s' c) := by
  unfold remove_index_drop
  refine Sat.bind (remove_index_read_sat hr hi) ?_
  rintro p s1 ⟨rfl, h2, h3, h4⟩
  exact Sat.mono (((dropPair_cb E l[i]).at s1).shift h4)
    (fun _ _ ⟨g1, g2, _⟩ => ⟨g1 ▸ h2, by rw [g1, h3], g2⟩) (fun _ _ ⟨g1, g2⟩ => ⟨g1 ▸ h2, by rw [g1, h3], g2⟩)

/-- what `retain` may do to the list: overwrite values and swap-remove entries, so it gets no
    longer and keys stay pairwise unequal. -/
def Shrinks (l l' : List (K × V)) : Prop :=
  l'.length ≤ l.length ∧ ∀ keq : K → K → Bool, EquivB keq → NodupKeys keq l → NodupKeys keq l'

theorem Shrinks.refl (l : List (K × V)) : Shrinks l l := ⟨Nat.le_refl _, fun _ _ h => h⟩

theorem Shrinks.trans {l l₁ l₂ : List (K × V)} (h₁ : Shrinks l l₁) (h₂ : Shrinks l₁ l₂) : Shrinks l l₂ :=
  ⟨Nat.le_trans h₂.1 h₁.1, fun keq h hn => h₂.2 keq h (h₁.2 keq h hn)⟩

theorem Shrinks.set {l : List (K × V)} {i} (hi : i < l.length) (v' : V) :
    Shrinks l (l.set i (l[i].1, v')) :=
  ⟨by simp, fun _ h hn => Dict.nodupKeys_set h hn hi _ _ (h.refl _)⟩

theorem Shrinks.swapRemove {l : List (K × V)} {i} (hi : i < l.length) : Shrinks l (swapRemove l i) :=
  ⟨by rw [Dict.swapRemove_length hi]; omega, fun _ h hn => Dict.nodupKeys_swapRemove h hn hi⟩

/-- `retain`: under any predicate (even one that changes its mind between calls) the loop stays
    inside the live prefix and leaves a well-formed map; for a predicate that is a function of the
    entry it computes `Dict.retainL`. -/
theorem retainLoop_sat (f : Nat → K → V → Bool × V) (f0 : K → V → Bool × V) (fuel : Nat) :
    ∀ (i : Nat) (s : St K V Q) (l : List (K × V)), Rep s.r l → i + fuel = l.length →
    Sat (retainLoop E f fuel i) s
      (fun _ s' => s'.r.cap = s.r.cap ∧ (∃ tr, WRel s.w s'.w tr) ∧ ∃ l', Rep s'.r l' ∧ Shrinks l l' ∧
        ((∀ n k v, f n k v = f0 k v) → l' = Dict.retainL f0 fuel i l))
      (fun c s' => s'.r.cap = s.r.cap ∧ InjPanic s s' c ∧ ∃ l', Rep s'.r l' ∧ Shrinks l l') := by
  induction fuel with
  | zero =>
    intro i s l hr hfl
    unfold retainLoop
    refine Sat.getLen_bind ?_
    rw [hr.1, if_neg (by omega)]
    exact Sat.pure ⟨rfl, ⟨_, WRel.refl _⟩, l, hr, .refl l, fun _ => rfl⟩
  | succ fuel ih =>
    intro i s l hr hfl
    have hi : i < l.length := by omega
    unfold retainLoop
    refine Sat.getLen_bind ?_
    rw [hr.1, if_pos hi]
    refine Sat.bind_ok (hr.itemRef_ok hi) ?_
    -- the closure runs; if it unwinds, the list is still `l`
    refine Sat.bind (Sat.mono ((callF_cb 0).at s) (fun _ _ h => h)
      fun _ _ ⟨h1, h2⟩ => ⟨by rw [h1], h2, l, h1 ▸ hr, .refl l⟩) ?_
    intro _ s1 ⟨h1, h2, _⟩
    have hr1 : Rep s1.r l := h1 ▸ hr
    have hc1 : s1.r.cap = s.r.cap := congrArg Raw.cap h1
    refine Sat.getS_bind ?_
    generalize hres : f s1.w.calls l[i].1 l[i].2 = res
    obtain ⟨keep, v'⟩ := res
    -- the value it left is written back; then the entry stays or goes
    refine Sat.bind_ok (hr1.valueReplace_ok hi v') ?_
    have hr2 := hr1.set hi (l[i].1, v')
    have hsh := Shrinks.set hi v'
    have hi2 : i < (l.set i (l[i].1, v')).length := by simpa using hi
    have hstep : (∀ n k v, f n k v = f0 k v) → Dict.retainL f0 (fuel + 1) i l =
        if keep then Dict.retainL f0 fuel (i + 1) (l.set i (l[i].1, v'))
        else Dict.retainL f0 fuel i (swapRemove (l.set i (l[i].1, v')) i) := fun hf => by
      rw [Dict.retainL_succ f0 fuel hi, ← hf s1.w.calls, hres]
    cases keep with
    | true =>
      refine Sat.mono (ih (i + 1) _ _ hr2 (by simp; omega)) ?_ ?_
      · rintro _ s3 ⟨g1, ⟨tr, g2⟩, l', g3, g4, g5⟩
        exact ⟨g1.trans hc1, ⟨_, h2.trans g2⟩, l', g3, hsh.trans g4, fun hf => (g5 hf).trans (hstep hf).symm⟩
      · rintro c s3 ⟨g1, g2, l', g3, g4⟩
        exact ⟨g1.trans hc1, g2.after h2, l', g3, hsh.trans g4⟩
    | false =>
      have hsh3 := hsh.trans (.swapRemove hi2)
      refine Sat.bind (Sat.mono (remove_index_drop_sat E hr2 hi2) (fun _ _ h => h)
        fun _ _ ⟨g1, g2, g3⟩ => ⟨g2.trans hc1, g3.after h2, _, g1, hsh3⟩) ?_
      intro _ s3 ⟨g1, g2, g3⟩
      refine Sat.mono (ih i s3 _ g1 (by rw [Dict.swapRemove_length hi2]; simp; omega)) ?_ ?_
      · rintro _ s4 ⟨k1, ⟨tr, k2⟩, l', k3, k4, k5⟩
        exact ⟨k1.trans (g2.trans hc1), ⟨_, (h2.trans g3).trans k2⟩, l', k3, hsh3.trans k4,
          fun hf => (k5 hf).trans (hstep hf).symm⟩
      · rintro c s4 ⟨k1, k2, l', k3, k4⟩
        exact ⟨k1.trans (g2.trans hc1), k2.after (h2.trans g3), l', k3, hsh3.trans k4⟩

theorem retain_sat (f : Nat → K → V → Bool × V) (f0 : K → V → Bool × V) {s : St K V Q} {l : List (K × V)}
    (hr : Rep s.r l) :
    Sat (retain E f) s
      (fun _ s' => s'.r.cap = s.r.cap ∧ (∃ tr, WRel s.w s'.w tr) ∧ ∃ l', Rep s'.r l' ∧ l'.length ≤ l.length ∧
        ((∀ n k v, f n k v = f0 k v) → l' = Dict.retainL f0 l.length 0 l) ∧
        (∀ keq : K → K → Bool, EquivB keq → NodupKeys keq l → NodupKeys keq l'))
      (fun c s' => s'.r.cap = s.r.cap ∧ InjPanic s s' c ∧ ∃ l', Rep s'.r l' ∧ l'.length ≤ l.length ∧
        (∀ keq : K → K → Bool, EquivB keq → NodupKeys keq l → NodupKeys keq l')) := by
  unfold retain
  refine Sat.getLen_bind ?_
  rw [hr.1]
  exact Sat.mono (retainLoop_sat E f f0 l.length 0 s l hr (by simp))
    (fun _ _ ⟨h1, h2, l', h3, h4, h5⟩ => ⟨h1, h2, l', h3, h4.1, h5, h4.2⟩) (fun _ _ h => h)

end Micromap
