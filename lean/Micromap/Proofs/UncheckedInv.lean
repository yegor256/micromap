/-
The system invariant (`SysInv`) along histories that DO contain the two `unsafe fn`s
(`insert_unchecked`, `get_disjoint_unchecked_mut`), provided every call meets the documented
contract in the state in which it is made (`Op.contractOk`, a predicate on the CURRENT system
state; `ContractAlong` for a history).  Only `insert_unchecked` has something to meet
(`Op.insertContractOk`, `InsertContractAlong`: the theorems are proved for this weaker hypothesis
and specialised to `contractOk`): `get_disjoint_unchecked_mut` keeps the invariant for any request
list.  Inside the contract a step (a history) with `insert_unchecked` IS the step (history) with
`insert` in its place.
-/
import Micromap.Proofs.SysInv
import Micromap.Proofs.Unchecked

namespace Micromap.UncheckedInv
open Micromap
variable {K V Q : Type} (E : Env K V Q)

/-- The contract of `insert_unchecked(k, _)` in state `s`, for ANY user equality: the map is not
    full, or the scan that `insert_i` performs for `k` from this state does not come back empty
    (it finds a slot — "the key is present" — or it unwinds from an injected panic before the
    write is reached).  This is exactly the hypothesis of `Unchecked.insert_unchecked_eq_insert`
    without its third alternative (`debug_assert!` compiled in). -/
def InsertContract (s : St K V Q) (k : K) : Prop :=
  s.r.len < s.r.cap ∨ ∀ s1, scan E (.key k) s ≠ .ok none s1

/-- the contract in the simple form used in the documentation of the crate ("not full, or the key
    is already present"), meaningful for a time-independent `==`. -/
def InsertContractPure (r : Raw K V) (k : K) : Prop :=
  r.len < r.cap ∨ findKey E r.abs (.key k : Probe K Q) ≠ none

theorem InsertContract.of_pure (hE : E.Pure) {s : St K V Q} (hs : Safe s.r) {k : K}
    (h : InsertContractPure E s.r k) : InsertContract E s k := by
  rcases h with h | h
  · exact Or.inl h
  · exact Or.inr (Unchecked.scan_ne_none_of_present E hE hs.rep k h)

theorem InsertContract.iff_pure (hE : E.Pure) {s : St K V Q} (hs : Safe s.r) (hb : Benign s.w) {k : K} :
    InsertContract E s k ↔ InsertContractPure E s.r k := by
  refine ⟨fun h => ?_, InsertContract.of_pure E hE hs⟩
  rcases h with h | h
  · exact Or.inl h
  · refine Or.inr (fun hf => ?_)
    obtain ⟨o, s1, h1, _, _, _, h2⟩ := (scan_cb' E hs.rep (.key k)).must_return (by
      intro c s' ⟨_, _, hi, _⟩; exact hi hb.1)
    have : o = none := by rw [h2 hE, hf]
    subst this
    exact h s1 h1

/-- inside the contract, or with `debug_assert!` compiled in (`profile = .debug`), the
    `insert_unchecked` line of `stepMapOp` IS its `insert` line. -/
theorem stepMapOp_insert_unchecked_eq (R : Render K V) (other : Nat → Raw K V) {s : St K V Q}
    (hs : Safe s.r) (k : K) (v : V) (hc : InsertContract E s k ∨ s.w.profile = .debug) :
    stepMapOp E R other (.insert_unchecked k v) s = stepMapOp E R other (.insert k v) s := by
  have hr := hs.rep
  have hc' : s.r.abs.length < s.r.cap ∨ (∀ s1, scan E (.key k) s ≠ .ok none s1) ∨ s.w.profile = .debug :=
    (or_assoc.mp hc).imp_left fun h => hr.1 ▸ h
  show (insert_unchecked E k v >>= _) s = (insert E k v >>= _) s
  simp only [bind_apply, Unchecked.insert_unchecked_eq_insert E hr k v hc']

/-- `insert_unchecked` inside its contract keeps the invariant of the container and its capacity,
    whether it returns or unwinds, and does not reach `ub` — any `==`, any injection point, either
    profile. -/
theorem insert_unchecked_inv_at (R : Render K V) (other : Nat → Raw K V) {s : St K V Q}
    (hs : Inv E s.r) (k : K) (v : V) (hc : InsertContract E s k ∨ s.w.profile = .debug) :
    OpInvAt E (stepMapOp E R other (.insert_unchecked k v)) s := by
  unfold OpInvAt Sat
  rw [stepMapOp_insert_unchecked_eq E R other hs.safe k v hc]
  exact (OpInv.bind (opInv_insert E k v) (fun o => by cases o <;> exact OpInv.pure _)) s hs

theorem stepMapOp_inv_at (R : Render K V) (other : Nat → Raw K V) (hother : ∀ o, Inv E (other o))
    (op : MapOp K V Q) {s : St K V Q} (hs : Inv E s.r)
    (hc : ∀ k v, op = .insert_unchecked k v → InsertContract E s k) :
    OpInvAt E (stepMapOp E R other op) s := by
  by_cases h : ∃ k v, op = .insert_unchecked k v
  · obtain ⟨k, v, rfl⟩ := h
    exact insert_unchecked_inv_at E R other hs k v (Or.inl (hc k v rfl))
  · exact stepMapOp_inv E R other hother op (fun k v e => h ⟨k, v, e⟩) s hs

/-- the system as `step` presents it to an operation: the per-step event log is empty. -/
def atStep (sys : Sys K V Q) : Sys K V Q := { sys with w := { sys.w with events := [] } }

/-- the state on which `step` runs an operation of map register `reg`. -/
def mapSt (sys : Sys K V Q) (reg : Nat) : St K V Q := ⟨sys.maps reg, { sys.w with events := [] }⟩

/-- the state on which `step` runs a `Map<K, (), N>` operation of set register `reg`. -/
def setSt (sys : Sys K V Q) (reg : Nat) : St K Unit Q := ⟨sys.sets reg, sys.w.toUnit⟩

theorem mapSt_atStep (sys : Sys K V Q) (reg : Nat) :
    (⟨(atStep sys).maps reg, (atStep sys).w⟩ : St K V Q) = mapSt sys reg := rfl

theorem setSt_atStep (sys : Sys K V Q) (reg : Nat) :
    (⟨(atStep sys).sets reg, (atStep sys).w.toUnit⟩ : St K Unit Q) = setSt sys reg := rfl

end Micromap.UncheckedInv

namespace Micromap
open Micromap.UncheckedInv
variable {K V Q : Type} (E : Env K V Q)

/-- **The contract of the two `unsafe fn`s, as a predicate on the current state.**
    * safe operations: nothing to meet;
    * `insert_unchecked(k, _)` on register `reg`: the register is not full (`len < cap`) or the
      key is present — in the form that makes sense for ANY user equality: the scan `insert_i`
      performs from this very state finds a match (`InsertContract`; for a pure `==` this is
      `findKey … ≠ none`, see `UncheckedInv.contractOk_of_pure`);
    * `get_disjoint_unchecked_mut(ks)`: the requests are pairwise different (`Disjoint.Unequal`:
      `k == k'` is false for every two of them, the condition the checked variant asserts).
    The `umap` cases are the same for the zero-sized-value shape `Map<K, (), N>`. -/
def Op.contractOk (sys : Sys K V Q) : Op K V Q → Prop
  | .map reg (.insert_unchecked k _) => InsertContract E (mapSt sys reg) k
  | .umap reg (.insert_unchecked k _) => InsertContract E.toUnit (setSt sys reg) k
  | .map _ (.get_disjoint_mut true _ ks) => Disjoint.Unequal E ks
  | .umap _ (.get_disjoint_mut true _ ks) => Disjoint.Unequal E.toUnit ks
  | _ => True

/-- the part of the contract that memory safety and the invariant actually DEPEND on: every
    `insert_unchecked(k, _)` is issued on a register that is not full or on which the scan for `k`
    does not come back empty (`InsertContract`).  Everything else — the safe API and, in this
    implementation, also `get_disjoint_unchecked_mut` with arbitrary requests — needs nothing. -/
def Op.insertContractOk (sys : Sys K V Q) : Op K V Q → Prop
  | .map reg (.insert_unchecked k _) => InsertContract E (mapSt sys reg) k
  | .umap reg (.insert_unchecked k _) => InsertContract E.toUnit (setSt sys reg) k
  | _ => True

/-- the documented form of the contract for a time-independent `==`: "not full, or the key is
    already present" on the abstract list of the register. -/
def Op.contractOkPure (sys : Sys K V Q) : Op K V Q → Prop
  | .map reg (.insert_unchecked k _) => InsertContractPure E (sys.maps reg) k
  | .umap reg (.insert_unchecked k _) => InsertContractPure E.toUnit (sys.sets reg) k
  | .map _ (.get_disjoint_mut true _ ks) => Disjoint.Unequal E ks
  | .umap _ (.get_disjoint_mut true _ ks) => Disjoint.Unequal E.toUnit ks
  | _ => True

end Micromap

namespace Micromap.UncheckedInv
open Micromap
variable {K V Q : Type} (E : Env K V Q) (R : Render K V)

/-! Each of the following goes by the cases of the definition it speaks of: the two
`insert_unchecked` lines, the two `get_disjoint_unchecked_mut` lines, everything else. -/

theorem contractOk_safe (sys : Sys K V Q) {op : Op K V Q} (hop : op.safeApi = true) :
    op.contractOk E sys := by
  unfold Op.contractOk
  split
  · cases hop
  · cases hop
  · cases hop
  · cases hop
  · trivial

theorem insertContractOk_of_contractOk (sys : Sys K V Q) {op : Op K V Q} (h : op.contractOk E sys) :
    op.insertContractOk E sys := by
  unfold Op.insertContractOk
  split
  · exact h
  · exact h
  · trivial

theorem Env.Pure.toUnit {E : Env K V Q} (h : E.Pure) : E.toUnit.Pure := ⟨h.k, h.q⟩

theorem contractOk_of_pure (hE : E.Pure) {sys : Sys K V Q} (hs : SysInv E sys) {op : Op K V Q}
    (h : op.contractOkPure E sys) : op.contractOk E sys := by
  unfold Op.contractOk
  split
  · exact InsertContract.of_pure E hE (s := mapSt sys _) (hs.1 _).safe h
  · exact InsertContract.of_pure E.toUnit (Env.Pure.toUnit hE) (s := setSt sys _) (hs.2 _).safe h
  · exact h
  · exact h
  · trivial

theorem contractOk_iff_pure (hE : E.Pure) {sys : Sys K V Q} (hs : SysInv E sys) (hb : Benign sys.w)
    (op : Op K V Q) : op.contractOk E sys ↔ op.contractOkPure E sys := by
  refine ⟨fun h => ?_, contractOk_of_pure E hE hs⟩
  unfold Op.contractOkPure
  split
  · exact (InsertContract.iff_pure E hE (s := mapSt sys _) (hs.1 _).safe ⟨hb.1, hb.2⟩).mp h
  · exact (InsertContract.iff_pure E.toUnit (Env.Pure.toUnit hE) (s := setSt sys _) (hs.2 _).safe
      ⟨hb.1, hb.2⟩).mp h
  · exact h
  · exact h
  · trivial

theorem stepCore_inv_insertContract {sys : Sys K V Q} (hs : SysInv E sys) (op : Op K V Q)
    (hc : op.insertContractOk E sys) : ResInv E (stepCore E R (atStep sys) op) := by
  have hs0 : SysInv E (atStep sys) := hs
  refine stepCore_inv_of E R hs0 op (fun reg mop h => ?_) (fun reg uop h => ?_) <;> subst h
  · exact stepMapOp_inv_at E R _ hs.1 mop (s := mapSt sys reg) (hs.1 reg) (fun k v e => by subst e; exact hc)
  · exact stepMapOp_inv_at E.toUnit R.toUnit _ hs.2 uop (s := setSt sys reg) (hs.2 reg)
      (fun k v e => by subst e; exact hc)

/-- **One step inside the contract** (weakest form of the hypothesis: only the calls of
    `insert_unchecked` have something to meet).  From registers that satisfy the invariant the
    operation does not reach `ub` and all registers satisfy the invariant afterwards — whether it
    returned, panicked by itself or unwound from an injected panic in user code; any `==`, any
    armed injection, either profile. -/
theorem step_inv_insertContract {sys : Sys K V Q} (hs : SysInv E sys) (op : Op K V Q)
    (hc : op.insertContractOk E sys) :
    (step E R sys op).2.outcome ≠ .ub ∧ SysInv E (step E R sys op).1 :=
  step_inv_of_core E R hs op (stepCore_inv_insertContract E R hs op hc)

/-- **One step inside the contract**, for ANY world (armed injections included), any `==`, either
    profile. -/
theorem step_inv_contract {sys : Sys K V Q} (hs : SysInv E sys) (op : Op K V Q)
    (hc : op.contractOk E sys) :
    (step E R sys op).2.outcome ≠ .ub ∧ SysInv E (step E R sys op).1 :=
  step_inv_insertContract E R hs op (insertContractOk_of_contractOk E sys hc)

/-- every operation of the history meets its contract IN THE STATE REACHED when it is issued
    (recursion over the history: the head in the current state, the tail from the state the
    head's step leaves). -/
def ContractAlong (sys : Sys K V Q) : List (Op K V Q) → Prop
  | [] => True
  | op :: ops => op.contractOk E sys ∧ ContractAlong (step E R sys op).1 ops

/-- the same for the part of the contract safety depends on (`Op.insertContractOk`). -/
def InsertContractAlong (sys : Sys K V Q) : List (Op K V Q) → Prop
  | [] => True
  | op :: ops => op.insertContractOk E sys ∧ InsertContractAlong (step E R sys op).1 ops

/-- the documented (pure-`==`) form along a history. -/
def ContractAlongPure (sys : Sys K V Q) : List (Op K V Q) → Prop
  | [] => True
  | op :: ops => op.contractOkPure E sys ∧ ContractAlongPure (step E R sys op).1 ops

theorem InsertContractAlong.of_contractAlong : ∀ (ops : List (Op K V Q)) (sys : Sys K V Q),
    ContractAlong E R sys ops → InsertContractAlong E R sys ops
  | [], _, _ => trivial
  | _ :: ops, _, h => ⟨insertContractOk_of_contractOk E _ h.1, of_contractAlong ops _ h.2⟩

theorem ContractAlong.of_safe : ∀ (ops : List (Op K V Q)) (sys : Sys K V Q),
    (∀ op, op ∈ ops → op.safeApi = true) → ContractAlong E R sys ops
  | [], _, _ => trivial
  | op :: ops, sys, h => ⟨contractOk_safe E sys (h op (List.mem_cons_self ..)),
      of_safe ops _ (fun o ho => h o (List.mem_cons_of_mem _ ho))⟩

/-- **Every history inside the contract** (weakest hypothesis).  No step reaches `ub` and the
    invariant holds at the end — hence, applied to prefixes, after every step. -/
theorem run_inv_insertContract : ∀ (ops : List (Op K V Q)) (sys : Sys K V Q), SysInv E sys →
    InsertContractAlong E R sys ops →
    (∀ o, o ∈ (run E R sys ops).2 → o.outcome ≠ .ub) ∧ SysInv E (run E R sys ops).1 :=
  run_inv_of E R (A := InsertContractAlong E R) fun _ op _ hs h =>
    ⟨step_inv_insertContract E R hs op h.1, h.2⟩

/-- **Every history inside the contract.**  For any list of operations — safe ones, and the two
    `unsafe fn`s each meeting its contract in the state reached when it is issued —, any user
    equality, any armed injections, either profile: no step reaches `ub` and `SysInv` holds at
    the end. -/
theorem run_inv_contract (ops : List (Op K V Q)) (sys : Sys K V Q) (hs : SysInv E sys)
    (hc : ContractAlong E R sys ops) :
    (∀ o, o ∈ (run E R sys ops).2 → o.outcome ≠ .ub) ∧ SysInv E (run E R sys ops).1 :=
  run_inv_insertContract E R ops sys hs (InsertContractAlong.of_contractAlong E R ops sys hc)

theorem ContractAlong.of_pure (hE : E.Pure) : ∀ (ops : List (Op K V Q)) (sys : Sys K V Q), SysInv E sys →
    ContractAlongPure E R sys ops → ContractAlong E R sys ops
  | [], _, _, _ => trivial
  | op :: ops, sys, hs, h => by
    have h1 := contractOk_of_pure E hE hs h.1
    exact ⟨h1, of_pure hE ops _ (step_inv_contract E R hs op h1).2 h.2⟩

theorem contractAlong_append : ∀ (ops₁ ops₂ : List (Op K V Q)) (sys : Sys K V Q),
    ContractAlong E R sys (ops₁ ++ ops₂) ↔
      ContractAlong E R sys ops₁ ∧ ContractAlong E R (run E R sys ops₁).1 ops₂
  | [], _, _ => by simp [ContractAlong, run]
  | op :: ops₁, ops₂, sys => by
    have ih := contractAlong_append ops₁ ops₂ (step E R sys op).1
    show _ ∧ ContractAlong E R _ (ops₁ ++ ops₂) ↔
      (_ ∧ _) ∧ ContractAlong E R (run E R (step E R sys op).1 ops₁).1 ops₂
    rw [ih]
    exact and_assoc.symm

theorem run_cons (sys : Sys K V Q) (op : Op K V Q) (ops : List (Op K V Q)) :
    run E R sys (op :: ops) =
      ((run E R (step E R sys op).1 ops).1, (step E R sys op).2 :: (run E R (step E R sys op).1 ops).2) := rfl

/-- replace every `insert_unchecked` by `insert`. -/
def toChecked : Op K V Q → Op K V Q
  | .map reg (.insert_unchecked k v) => .map reg (.insert k v)
  | .umap reg (.insert_unchecked k v) => .umap reg (.insert k v)
  | op => op

theorem step_insert_unchecked_eq' {sys : Sys K V Q} (reg : Nat) (hs : Inv E (sys.maps reg)) (k : K) (v : V)
    (hc : InsertContract E (mapSt sys reg) k ∨ sys.w.profile = .debug) :
    step E R sys (.map reg (.insert_unchecked k v)) = step E R sys (.map reg (.insert k v)) := by
  rw [step_map, step_map, stepCore_map E R _ reg rfl, stepCore_map E R _ reg rfl]
  exact congrArg (stepOut sys _)
    (runOnMap_congr _ reg (stepMapOp_insert_unchecked_eq E R _ (s := mapSt sys reg) hs.safe k v hc))

/-- **One step.**  Inside the contract (register not full, or the scan finds the key) a step with
    `insert_unchecked(k, v)` IS the step with `insert(k, v)`: the same output record (outcome,
    returned old value, events, number of callbacks, touched registers) and the same next system
    state — for ANY `==`, any armed injection, either profile. -/
theorem step_insert_unchecked_eq {sys : Sys K V Q} (reg : Nat) (hs : Inv E (sys.maps reg)) (k : K) (v : V)
    (hc : InsertContract E (mapSt sys reg) k) :
    step E R sys (.map reg (.insert_unchecked k v)) = step E R sys (.map reg (.insert k v)) :=
  step_insert_unchecked_eq' E R reg hs k v (Or.inl hc)

/-- the same for the zero-sized-value shape `Map<K, (), N>` (set registers). -/
theorem step_insert_unchecked_eq_umap {sys : Sys K V Q} (reg : Nat) (hs : Inv E.toUnit (sys.sets reg)) (k : K)
    (v : Unit) (hc : InsertContract E.toUnit (setSt sys reg) k) :
    step E R sys (.umap reg (.insert_unchecked k v)) = step E R sys (.umap reg (.insert k v)) := by
  rw [step_umap, step_umap, stepCore_umap E R _ reg rfl, stepCore_umap E R _ reg rfl]
  exact congrArg (fun r => stepOut sys (.umap reg (.insert k v)) (r.mapVal RV.castU)) (runOnSet_congr (atStep sys) reg
    (stepMapOp_insert_unchecked_eq E.toUnit R.toUnit _ (s := setSt sys reg) hs.safe k v (.inl hc)))

theorem step_toChecked_eq {sys : Sys K V Q} (hs : SysInv E sys) (op : Op K V Q)
    (hc : op.insertContractOk E sys) : step E R sys op = step E R sys (toChecked op) := by
  unfold toChecked
  split
  · exact step_insert_unchecked_eq E R _ (hs.1 _) _ _ hc
  · exact step_insert_unchecked_eq_umap E R _ (hs.2 _) _ _ hc
  · rfl

/-- **Histories.**  If every `insert_unchecked` of a history meets its contract in the state in
    which it is issued, the history produces exactly the outputs and the final system state of
    the history with `insert` in its place. -/
theorem run_toChecked_eq : ∀ (ops : List (Op K V Q)) (sys : Sys K V Q), SysInv E sys →
    InsertContractAlong E R sys ops → run E R sys ops = run E R sys (ops.map toChecked)
  | [], _, _, _ => rfl
  | op :: ops, sys, hs, hc => by
    have h1 := step_toChecked_eq E R hs op hc.1
    have h2 := run_toChecked_eq ops (step E R sys op).1 (step_inv_insertContract E R hs op hc.1).2 hc.2
    rw [List.map_cons, run_cons, run_cons (op := toChecked op), ← h1, h2]

/-- the checked form of a history goes through the safe API wherever the original did, and its
    `insert`s are safe: only `get_disjoint_unchecked_mut` calls remain outside `Op.safeApi`. -/
theorem toChecked_safe (op : Op K V Q) (h : ∀ reg g ks, op ≠ .map reg (.get_disjoint_mut true g ks))
    (h' : ∀ reg g ks, op ≠ .umap reg (.get_disjoint_mut true g ks)) : (toChecked op).safeApi = true := by
  cases op with
  | map reg mop =>
    cases mop with
    | get_disjoint_mut u g ks =>
      cases u with
      | true => exact absurd rfl (h reg g ks)
      | false => rfl
    | _ => rfl
  | umap reg mop =>
    cases mop with
    | get_disjoint_mut u g ks =>
      cases u with
      | true => exact absurd rfl (h' reg g ks)
      | false => rfl
    | _ => rfl
  | _ => rfl

end Micromap.UncheckedInv
