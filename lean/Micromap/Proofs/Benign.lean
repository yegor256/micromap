/-
The dictionary operations in a world without an armed fault and with a time-independent `==`:
each is determinate, and what it does is read off `findKey` (and, for the insertions, the fill
level).  Every statement is the corresponding triple with the impossible branches removed.
-/
import Micromap.Proofs.Bulk
import Micromap.Proofs.Bridge

namespace Micromap
open Dict (swapRemove)
variable {K V Q : Type} (E : Env K V Q) {s : St K V Q} {l : List (K × V)}

section pure
variable (hE : E.Pure) (hr : Rep s.r l) (hb : Benign s.w)
include hE hr hb

theorem scan_benign (pr : Probe K Q) :
    ∃ s', scan E pr s = .ok (findKey E l pr) s' ∧ s'.r = s.r ∧ WRel s.w s'.w [] := by
  obtain ⟨o, s', hm, hs, hw, hf⟩ := (scanR_cb E hr pr).benign hb
  exact ⟨s', hf.2 hE ▸ hm, hs, hw⟩

/-- `insert_ii` is the common core of `insert` and `insert_key_value`; `Set::replace` calls it
    directly. -/
theorem insert_ii_benign (k : K) (v : V) (upd : Bool) :
    match findKey E l (.key k) with
    | some i => ∃ (hi : i < l.length) (s' : St K V Q),
        insert_ii E k v upd s = .ok (i, some (if upd then l[i] else (k, l[i].2))) s' ∧
        Rep s'.r (l.set i (if upd then (k, v) else (l[i].1, v))) ∧ s'.r.cap = s.r.cap ∧ WRel s.w s'.w []
    | none =>
      (l.length < s.r.cap ∧ ∃ s', insert_ii E k v upd s = .ok (l.length, none) s' ∧
        Rep s'.r (l ++ [(k, v)]) ∧ s'.r.cap = s.r.cap ∧ WRel s.w s'.w []) ∨
      (l.length = s.r.cap ∧ ∃ c s', insert_ii E k v upd s = .panic c s' ∧ s'.r = s.r ∧
        OverflowPanic s c ∧ WRel s.w s'.w (dropVTr E v ++ [.dropK k])) := by
  rcases (insert_ii_sat E hr k v upd).cases with ⟨⟨j, old⟩, s', hm, hc, hw, hq⟩ | ⟨c, s', hm, hs, hq⟩
  · dsimp only at hq
    rcases hq with ⟨hj, rfl, hrep, hf⟩ | ⟨rfl, rfl, hroom, hrep, hf⟩
    · rw [hf hE]; exact ⟨hj, s', hm, hrep, hc, hw⟩
    · rw [hf hE]; exact Or.inl ⟨hroom, s', hm, hrep, hc, hw⟩
  · rcases hq with hi | ⟨ho, hfull, hf, hw⟩
    · exact (hi.not_benign hb).elim
    · rw [hf hE]; exact Or.inr ⟨hfull, c, s', hm, hs, ho, hw⟩

theorem insert_benign (k : K) (v : V) :
    match findKey E l (.key k) with
    | some i => ∃ (hi : i < l.length) (s' : St K V Q), insert E k v s = .ok (some l[i].2) s' ∧
        Rep s'.r (l.set i (l[i].1, v)) ∧ s'.r.cap = s.r.cap ∧ WRel s.w s'.w [.dropK k]
    | none =>
      (l.length < s.r.cap ∧ ∃ s', insert E k v s = .ok none s' ∧ Rep s'.r (l ++ [(k, v)]) ∧
        s'.r.cap = s.r.cap ∧ WRel s.w s'.w []) ∨
      (l.length = s.r.cap ∧ ∃ c s', insert E k v s = .panic c s' ∧ s'.r = s.r ∧ OverflowPanic s c ∧
        WRel s.w s'.w (dropVTr E v ++ [.dropK k])) := by
  rcases (insert_sat E hr k v).cases with ⟨a, s', hm, hc, hq⟩ | ⟨c, s', hm, _, hq⟩
  · rcases hq with ⟨j, hj, rfl, hrep, hw, hf⟩ | ⟨rfl, hroom, hrep, hw, hf⟩
    · rw [hf hE]; exact ⟨hj, s', hm, hrep, hc, hw⟩
    · rw [hf hE]; exact Or.inl ⟨hroom, s', hm, hrep, hc, hw⟩
  · rcases hq with ⟨hi, _⟩ | ⟨hs, ho, hfull, hf, hw⟩
    · exact (hi.not_benign hb).elim
    · rw [hf hE]; exact Or.inr ⟨hfull, c, s', hm, hs, ho, hw⟩

theorem insert_key_value_benign (k : K) (v : V) :
    match findKey E l (.key k) with
    | some i => ∃ (hi : i < l.length) (s' : St K V Q), insert_key_value E k v s = .ok (some l[i]) s' ∧
        Rep s'.r (l.set i (k, v)) ∧ s'.r.cap = s.r.cap ∧ WRel s.w s'.w []
    | none =>
      (l.length < s.r.cap ∧ ∃ s', insert_key_value E k v s = .ok none s' ∧ Rep s'.r (l ++ [(k, v)]) ∧
        s'.r.cap = s.r.cap ∧ WRel s.w s'.w []) ∨
      (l.length = s.r.cap ∧ ∃ c s', insert_key_value E k v s = .panic c s' ∧ s'.r = s.r ∧
        OverflowPanic s c ∧ WRel s.w s'.w (dropVTr E v ++ [.dropK k])) := by
  rcases (insert_key_value_sat E hr k v).cases with ⟨a, s', hm, hc, hw, hq⟩ | ⟨c, s', hm, hs, hq⟩
  · rcases hq with ⟨j, hj, rfl, hrep, hf⟩ | ⟨rfl, hroom, hrep, hf⟩
    · rw [hf hE]; exact ⟨hj, s', hm, hrep, hc, hw⟩
    · rw [hf hE]; exact Or.inl ⟨hroom, s', hm, hrep, hc, hw⟩
  · rcases hq with hi | ⟨ho, hfull, hf, hw⟩
    · exact (hi.not_benign hb).elim
    · rw [hf hE]; exact Or.inr ⟨hfull, c, s', hm, hs, ho, hw⟩

/-- `checked_insert` never unwinds: on a full container an absent key is refused with `None`. -/
theorem checked_insert_benign (k : K) (v : V) :
    match findKey E l (.key k) with
    | some i => ∃ (hi : i < l.length) (s' : St K V Q),
        checked_insert E k v s = .ok (some (some l[i].2)) s' ∧
        Rep s'.r (l.set i (l[i].1, v)) ∧ s'.r.cap = s.r.cap ∧ WRel s.w s'.w [.dropK k]
    | none =>
      (l.length < s.r.cap ∧ ∃ s', checked_insert E k v s = .ok (some none) s' ∧
        Rep s'.r (l ++ [(k, v)]) ∧ s'.r.cap = s.r.cap ∧ WRel s.w s'.w []) ∨
      (l.length = s.r.cap ∧ ∃ s', checked_insert E k v s = .ok none s' ∧ s'.r = s.r ∧
        WRel s.w s'.w (dropVTr E v ++ [.dropK k])) := by
  obtain ⟨a, s', hm, hc, hq⟩ := (checked_insert_sat E hr k v).must_return
    fun _ _ h => h.2.1.not_benign hb
  rcases hq with ⟨j, hj, rfl, hrep, hw, hf⟩ | ⟨rfl, hroom, hrep, hw, hf⟩ | ⟨rfl, hfull, hs, hw, hf⟩
  · rw [hf hE]; exact ⟨hj, s', hm, hrep, hc, hw⟩
  · rw [hf hE]; exact Or.inl ⟨hroom, s', hm, hrep, hc, hw⟩
  · rw [hf hE]; exact Or.inr ⟨hfull, s', hm, hs, hw⟩

/-- the replace-only path behind `checked_insert` on a full container. -/
theorem insert_ii_for_full_benign (k : K) (v : V) (upd : Bool) :
    match findKey E l (.key k) with
    | some i => ∃ (hi : i < l.length) (s' : St K V Q),
        insert_ii_for_full E k v upd s = .ok (some (i, if upd then l[i] else (k, l[i].2))) s' ∧
        Rep s'.r (l.set i (if upd then (k, v) else (l[i].1, v))) ∧ s'.r.cap = s.r.cap ∧ WRel s.w s'.w []
    | none => ∃ s', insert_ii_for_full E k v upd s = .ok none s' ∧ s'.r = s.r ∧
        WRel s.w s'.w (dropVTr E v ++ [.dropK k]) := by
  obtain ⟨a, s', hm, hc, hq⟩ := (insert_ii_for_full_sat E hr k v upd).must_return
    fun _ _ h => h.2.not_benign hb
  rcases hq with ⟨j, hj, rfl, hrep, hw, hf⟩ | ⟨rfl, hs, hw, hf⟩
  · rw [hf hE]; exact ⟨hj, s', hm, hrep, hc, hw⟩
  · rw [hf hE]; exact ⟨s', hm, hs, hw⟩

theorem contains_key_benign (pr : Probe K Q) :
    ∃ s', contains_key E pr s = .ok (findKey E l pr).isSome s' ∧ s'.r = s.r ∧ WRel s.w s'.w [] := by
  obtain ⟨b, s', hm, hs, hw, hf⟩ := (contains_key_cb E hr pr).must_return fun _ _ h => h.2.not_benign hb
  exact ⟨s', hf hE ▸ hm, hs, hw⟩

theorem get_benign (pr : Probe K Q) :
    match findKey E l pr with
    | some i => ∃ (hi : i < l.length) (s' : St K V Q), get E pr s = .ok (some (i, l[i])) s' ∧
        s'.r = s.r ∧ WRel s.w s'.w []
    | none => ∃ s', get E pr s = .ok none s' ∧ s'.r = s.r ∧ WRel s.w s'.w [] := by
  obtain ⟨o, s', hm, hs, hw, ho, hf⟩ := (get_sat E hr pr).must_return fun _ _ h => h.2.not_benign hb
  rw [← hf hE]
  cases o with
  | none => exact ⟨s', hm, hs, hw⟩
  | some x =>
    obtain ⟨i, p⟩ := x
    obtain ⟨hi, rfl⟩ := ho i p rfl
    exact ⟨hi, s', hm, hs, hw⟩

theorem get_mut_benign (pr : Probe K Q) (g : V → V) :
    match findKey E l pr with
    | some i => ∃ (hi : i < l.length) (s' : St K V Q),
        get_mut E pr g s = .ok (some (i, (l[i].1, g l[i].2))) s' ∧
        Rep s'.r (l.set i (l[i].1, g l[i].2)) ∧ s'.r.cap = s.r.cap ∧ WRel s.w s'.w []
    | none => ∃ s', get_mut E pr g s = .ok none s' ∧ s'.r = s.r ∧ WRel s.w s'.w [] := by
  obtain ⟨o, s', hm, hc, hw, ho, hf⟩ := (get_mut_sat E hr pr g).must_return
    fun _ _ h => h.2.not_benign hb
  rw [← hf hE]
  rcases ho with ⟨rfl, hs⟩ | ⟨i, hi, rfl, hrep⟩
  · exact ⟨s', hm, hs, hw⟩
  · exact ⟨hi, s', hm, hrep, hc, hw⟩

theorem index_benign (pr : Probe K Q) :
    match findKey E l pr with
    | some i => ∃ (hi : i < l.length) (s' : St K V Q), index E pr s = .ok (i, l[i]) s' ∧
        s'.r = s.r ∧ WRel s.w s'.w []
    | none => ∃ s', index E pr s = .panic .noentry s' ∧ s'.r = s.r ∧ WRel s.w s'.w [] := by
  rcases (index_sat E hr pr).cases with ⟨a, s', hm, hs, hw, ⟨hi, ha⟩, hf⟩ | ⟨c, s', hm, hs, hq⟩
  · rw [hf hE]; exact ⟨hi, s', by rw [hm, ← ha], hs, hw⟩
  · rcases hq with hi | ⟨rfl, hw, hf⟩
    · exact (hi.not_benign hb).elim
    · rw [hf hE]; exact ⟨s', hm, hs, hw⟩

theorem remove_entry_benign (pr : Probe K Q) :
    match findKey E l pr with
    | some i => ∃ (hi : i < l.length) (s' : St K V Q), remove_entry E pr s = .ok (some l[i]) s' ∧
        Rep s'.r (swapRemove l i) ∧ s'.r.cap = s.r.cap ∧ WRel s.w s'.w []
    | none => ∃ s', remove_entry E pr s = .ok none s' ∧ s'.r = s.r ∧ WRel s.w s'.w [] := by
  obtain ⟨o, s', hm, hc, hw, ho, hf⟩ := (remove_entry_sat E hr pr).must_return
    fun _ _ h => h.2.not_benign hb
  rcases ho with ⟨rfl, hs⟩ | ⟨i, hi, rfl, hrep, hfi⟩
  · rw [Option.eq_none_of_isNone (Option.isSome_eq_false_iff.mp (hf hE).symm)]; exact ⟨s', hm, hs, hw⟩
  · rw [hfi hE]; exact ⟨hi, s', hm, hrep, hc, hw⟩

theorem remove_benign (pr : Probe K Q) :
    match findKey E l pr with
    | some i => ∃ (hi : i < l.length) (s' : St K V Q), remove E pr s = .ok (some l[i].2) s' ∧
        Rep s'.r (swapRemove l i) ∧ s'.r.cap = s.r.cap ∧ WRel s.w s'.w [.dropK l[i].1]
    | none => ∃ s', remove E pr s = .ok none s' ∧ s'.r = s.r ∧ WRel s.w s'.w [] := by
  obtain ⟨o, s', hm, hc, ho, hf⟩ := (remove_sat E hr pr).must_return fun _ _ h => h.2.1.not_benign hb
  rcases ho with ⟨rfl, hs, hw⟩ | ⟨i, hi, rfl, hrep, hw, hfi⟩
  · rw [Option.eq_none_of_isNone (Option.isSome_eq_false_iff.mp (hf hE).symm)]; exact ⟨s', hm, hs, hw⟩
  · rw [hfi hE]; exact ⟨hi, s', hm, hrep, hc, hw⟩

end pure

/-- no assumption on `==`: `clear` never calls it. -/
theorem clear_benign (hr : Rep s.r l) (hb : Benign s.w) :
    ∃ s', clear E s = .ok () s' ∧ Rep s'.r [] ∧ s'.r.cap = s.r.cap ∧ WRel s.w s'.w (dropTrace E l) := by
  obtain ⟨_, s', hm, h⟩ := (clear_sat E hr).must_return fun _ _ h => h.2.2.not_benign hb
  exact ⟨s', hm, h⟩

theorem retain_benign (f : Nat → K → V → Bool × V) (f0 : K → V → Bool × V) (hf : ∀ n k v, f n k v = f0 k v)
    (hr : Rep s.r l) (hb : Benign s.w) :
    ∃ s', retain E f s = .ok () s' ∧ Rep s'.r (Dict.retainL f0 l.length 0 l) ∧ s'.r.cap = s.r.cap ∧
      ∃ tr, WRel s.w s'.w tr := by
  obtain ⟨_, s', hm, hc, hw, l', hrep, _, hl', _⟩ := (retain_sat E f f0 hr).must_return
    fun _ _ h => h.2.1.not_benign hb
  exact ⟨s', hm, hl' hf ▸ hrep, hc, hw⟩

theorem dropMap_benign (hr : Rep s.r l) (hb : Benign s.w) :
    ∃ s', dropMap E s = .ok () s' ∧ s'.r.cap = s.r.cap ∧ (∀ j, j < l.length → s'.r.slots j = none) ∧
      (∀ j, l.length ≤ j → s'.r.slots j = s.r.slots j) ∧ WRel s.w s'.w (dropTrace E l) := by
  obtain ⟨_, s', hm, h⟩ := (dropMap_sat E hr).must_return fun _ _ h => h.2.2.not_benign hb
  exact ⟨s', hm, h⟩

theorem get_of_hit (hE : E.Lawful) (hr : Rep s.r l) (hn : SetAlg.NodupKeys E.keq l) (hb : Benign s.w)
    (pr : Probe K Q) {i} (hi : i < l.length) (hh : E.hitP pr l[i].1 = true) :
    ∃ s', get E pr s = .ok (some (i, l[i])) s' ∧ s'.r = s.r ∧ WRel s.w s'.w [] := by
  have h := get_benign E hE.toPure hr hb pr
  rw [(findKey_some_iff hE hn pr).mpr ⟨hi, hh⟩] at h
  exact h.2

end Micromap
