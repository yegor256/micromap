/-
Laws of the list-level set algebra.  Pure list reasoning over a Boolean equivalence; no model,
no monad.
-/
import Micromap.Spec.SetAlg

namespace Micromap.SetAlg
variable {K : Type} {keq : K → K → Bool}

theorem memB_eq_true {x : K} {l : List K} :
    memB keq x l = true ↔ ∃ y, y ∈ l ∧ keq y x = true := by
  simp [memB, List.any_eq_true]

theorem memB_eq_false {x : K} {l : List K} :
    memB keq x l = false ↔ ∀ y, y ∈ l → keq y x = false := by
  simp [memB, List.any_eq_false]

theorem mem_diffL {x : K} {a b : List K} :
    x ∈ diffL keq a b ↔ x ∈ a ∧ memB keq x b = false := by
  simp [diffL, List.mem_filter]

theorem mem_interL {x : K} {a b : List K} :
    x ∈ interL keq a b ↔ x ∈ a ∧ memB keq x b = true := by
  simp [interL, List.mem_filter]

theorem keq_congr_right (h : EquivB keq) {x y : K} (hxy : keq x y = true) (z : K) :
    keq z x = keq z y := by
  rw [Bool.eq_iff_iff]
  constructor
  · intro hz; exact h.trans _ _ _ hz hxy
  · intro hz
    have hyx : keq y x = true := by rw [h.symm]; exact hxy
    exact h.trans _ _ _ hz hyx

theorem memB_congr (h : EquivB keq) {x y : K} (hxy : keq x y = true) (l : List K) :
    memB keq x l = memB keq y l := by
  have hf : (fun z => keq z x) = (fun z => keq z y) := by
    funext z; exact keq_congr_right h hxy z
  unfold memB
  rw [hf]

theorem memB_filter (x : K) (a : List K) (p : K → Bool) (hp : ∀ y, keq y x = true → p y = p x) :
    memB keq x (a.filter p) = (memB keq x a && p x) := by
  rw [Bool.eq_iff_iff, Bool.and_eq_true, memB_eq_true, memB_eq_true]
  constructor
  · rintro ⟨y, hy, hyx⟩
    rw [List.mem_filter] at hy
    exact ⟨⟨y, hy.1, hyx⟩, hp y hyx ▸ hy.2⟩
  · rintro ⟨⟨y, hya, hyx⟩, hpx⟩
    exact ⟨y, List.mem_filter.mpr ⟨hya, (hp y hyx).trans hpx⟩, hyx⟩

theorem memB_diff (h : EquivB keq) (x : K) (a b : List K) :
    memB keq x (diffL keq a b) = (memB keq x a && !memB keq x b) :=
  memB_filter x a _ fun y hyx => by rw [memB_congr h hyx b]

theorem memB_inter (h : EquivB keq) (x : K) (a b : List K) :
    memB keq x (interL keq a b) = (memB keq x a && memB keq x b) :=
  memB_filter x a _ fun y hyx => memB_congr h hyx b

theorem memB_append (x : K) (a b : List K) :
    memB keq x (a ++ b) = (memB keq x a || memB keq x b) := by
  simp [memB, List.any_append]

theorem memB_union (h : EquivB keq) (x : K) (a b : List K) :
    memB keq x (unionL keq a b) = (memB keq x a || memB keq x b) := by
  unfold unionL
  rw [memB_append, memB_diff h]
  cases memB keq x a <;> cases memB keq x b <;> rfl

theorem memB_symm (h : EquivB keq) (x : K) (a b : List K) :
    memB keq x (symmL keq a b) = ((memB keq x a && !memB keq x b) || (memB keq x b && !memB keq x a)) := by
  unfold symmL
  rw [memB_append, memB_diff h, memB_diff h]

theorem nodup_diff (a b : List K) (ha : NodupB keq a) : NodupB keq (diffL keq a b) := by
  unfold NodupB diffL at *
  exact ha.filter _

theorem nodup_inter (a b : List K) (ha : NodupB keq a) : NodupB keq (interL keq a b) := by
  unfold NodupB interL at *
  exact ha.filter _

theorem nodup_union (_h : EquivB keq) (a b : List K) (ha : NodupB keq a) (hb : NodupB keq b) :
    NodupB keq (unionL keq a b) := by
  have hd := nodup_diff (keq := keq) a b ha
  unfold NodupB unionL at *
  rw [List.pairwise_append]
  refine ⟨hb, hd, ?_⟩
  intro y hy x hx
  rw [mem_diffL] at hx
  exact memB_eq_false.mp hx.2 y hy

theorem nodup_symm (h : EquivB keq) (a b : List K) (ha : NodupB keq a) (hb : NodupB keq b) :
    NodupB keq (symmL keq a b) := by
  have hd := nodup_diff (keq := keq) a b ha
  have hd' := nodup_diff (keq := keq) b a hb
  unfold NodupB symmL at *
  rw [List.pairwise_append]
  refine ⟨hd, hd', ?_⟩
  intro x hx y hy
  rw [mem_diffL] at hx hy
  rw [h.symm]
  exact memB_eq_false.mp hx.2 y hy.1

theorem diff_sublist (a b : List K) : (diffL keq a b).Sublist a := by
  unfold diffL; exact List.filter_sublist

theorem inter_sublist (a b : List K) : (interL keq a b).Sublist a := by
  unfold interL; exact List.filter_sublist

theorem pigeon (h : EquivB keq) (a b : List K) (ha : NodupB keq a)
    (hsub : ∀ x, x ∈ a → memB keq x b = true) : a.length ≤ b.length := by
  induction a generalizing b with
  | nil => simp
  | cons x a ih =>
    unfold NodupB at ha
    rw [List.pairwise_cons] at ha
    obtain ⟨hx, ha⟩ := ha
    obtain ⟨y, hyb, hyx⟩ := memB_eq_true.mp (hsub x (List.mem_cons_self))
    obtain ⟨b₁, b₂, rfl⟩ := List.append_of_mem hyb
    have hxy : keq x y = true := by rw [h.symm]; exact hyx
    have hsub' : ∀ z, z ∈ a → memB keq z (b₁ ++ b₂) = true := fun z hz => by
      obtain ⟨w, hw, hwz⟩ := memB_eq_true.mp (hsub z (List.mem_cons_of_mem _ hz))
      -- the witness is not `y`: that would make `x` equal to `z`
      have hwy : w ≠ y := fun e => by
        have := h.trans _ _ _ hxy (e ▸ hwz); rw [hx z hz] at this; cases this
      exact memB_eq_true.mpr ⟨w, by simpa [hwy] using hw, hwz⟩
    have := ih (b₁ ++ b₂) ha hsub'
    simp only [List.length_append, List.length_cons] at this ⊢
    omega

theorem pigeon_lt (h : EquivB keq) (a b : List K) (ha : NodupB keq a)
    (hsub : ∀ x, x ∈ a → memB keq x b = true) (y : K) (hyb : y ∈ b)
    (hya : memB keq y a = false) : a.length < b.length := by
  -- `y :: a` is still pairwise unequal and still inside `b`
  refine pigeon h (y :: a) b (List.pairwise_cons.mpr ⟨fun z hz => ?_, ha⟩) fun x hx => ?_
  · rw [h.symm]; exact memB_eq_false.mp hya z hz
  · rcases List.mem_cons.mp hx with rfl | hx
    · exact memB_eq_true.mpr ⟨x, hyb, h.refl x⟩
    · exact hsub x hx

theorem subsetB_iff (a b : List K) :
    subsetB keq a b = true ↔ ∀ x, x ∈ a → memB keq x b = true := by
  unfold subsetB
  rw [List.all_eq_true]

theorem disjointB_iff (a b : List K) :
    disjointB keq a b = true ↔ ∀ x, x ∈ a → memB keq x b = false := by
  unfold disjointB
  rw [List.all_eq_true]
  simp only [Bool.not_eq_true']

/-- the length shortcut of `is_subset` is sound for duplicate-free sets. -/
theorem isSubsetCode_eq (h : EquivB keq) (a b : List K) (ha : NodupB keq a) :
    isSubsetCode keq a b = subsetB keq a b := by
  unfold isSubsetCode
  by_cases hl : a.length ≤ b.length
  · rw [if_pos hl]; rfl
  · rw [if_neg hl]
    cases hs : subsetB keq a b with
    | false => rfl
    | true =>
      exact absurd (pigeon h a b ha ((subsetB_iff a b).mp hs)) hl

/-- disjointness is symmetric, so iterating the shorter operand is sound. -/
theorem disjointB_symm (h : EquivB keq) (a b : List K) : disjointB keq a b = disjointB keq b a := by
  have key : ∀ a b : List K, (∀ x, x ∈ a → memB keq x b = false) → ∀ y, y ∈ b → memB keq y a = false := by
    intro a b H y hy
    rw [memB_eq_false]
    intro x hx
    rw [h.symm]
    exact memB_eq_false.mp (H x hx) y hy
  rw [Bool.eq_iff_iff, disjointB_iff, disjointB_iff]
  exact ⟨key a b, key b a⟩

theorem isDisjointCode_eq (h : EquivB keq) (a b : List K) :
    isDisjointCode keq a b = disjointB keq a b := by
  unfold isDisjointCode
  by_cases hl : a.length ≤ b.length
  · rw [if_pos hl]; rfl
  · rw [if_neg hl]
    exact (disjointB_symm h a b).symm

theorem length_inter_add_diff (a b : List K) :
    (interL keq a b).length + (diffL keq a b).length = a.length := by
  unfold interL diffL
  induction a with
  | nil => rfl
  | cons x a ih =>
    simp only [List.filter_cons]
    cases memB keq x b <;> simp <;> omega

theorem length_inter_le_right (h : EquivB keq) (a b : List K) (ha : NodupB keq a) :
    (interL keq a b).length ≤ b.length :=
  pigeon h _ b (nodup_inter a b ha) (fun _ hx => (mem_interL.mp hx).2)

/-- `Difference::size_hint`: with `rest` the not-yet-visited suffix of the left operand. -/
theorem diff_hint_brackets (h : EquivB keq) (rest b : List K) (hr : NodupB keq rest) :
    rest.length - b.length ≤ (diffL keq rest b).length ∧ (diffL keq rest b).length ≤ rest.length := by
  have h1 := length_inter_add_diff (keq := keq) rest b
  have h2 := length_inter_le_right h rest b hr
  omega

theorem inter_hint_brackets (h : EquivB keq) (rest b : List K) (hr : NodupB keq rest) :
    (interL keq rest b).length ≤ min rest.length b.length := by
  have h1 := length_inter_add_diff (keq := keq) rest b
  have h2 := length_inter_le_right h rest b hr
  omega

end Micromap.SetAlg
