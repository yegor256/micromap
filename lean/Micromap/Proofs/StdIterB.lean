/-
std's provided `nth` / `last` on the BORROWING iterators and on the lazy set operations
(`Model/StdIterB.lean`; the `nth` step of `iterScriptX` is in `Proofs/Iters.lean`).

The borrowing-iterator statements hold for every `Env` and every world: these iterators make no
callback.  The set-algebra statements are `Alg.Quiet` triples (any oracle, any injected panic), with
the functional result under `E.Pure`, relative to `Alg.algRest` exactly as `Alg.nextN_quiet` /
`Alg.algFold_quiet` are.
-/
import Micromap.Proofs.Iters
import Micromap.Proofs.Alg
import Micromap.Model.StdIterB

namespace Micromap.StdIterB
open Micromap Micromap.Iters
variable {K V Q : Type}
variable {r : Raw K V} {s : St K V Q} {l : List (K × V)}
variable (R : Render K V) (kind : IterKind) (g : V → V)

/-- what `last()` returns from position `j`: the last entry with its slot `|l| - 1` if anything is
    left, else the accumulator it started with (`None`). -/
def lastItem (l : List (K × V)) (j : Nat) (acc : Option (Nat × (K × V))) : Option (Nat × (K × V)) :=
  if j < l.length then l.getLast?.map fun p => (l.length - 1, p) else acc

theorem lastItem_lt {j : Nat} (h : j < l.length) (acc : Option (Nat × (K × V))) :
    lastItem l j acc = some (l.length - 1, l[l.length - 1]) := by
  rw [lastItem, if_pos h, List.getLast?_eq_getElem?, List.getElem?_eq_getElem (by omega)]; rfl

theorem lastItem_ge {j : Nat} (h : l.length ≤ j) (acc : Option (Nat × (K × V))) :
    lastItem l j acc = acc := by
  rw [lastItem, if_neg (Nat.not_lt.mpr h)]

theorem iterLastR_rep (hr : Rep r l) (s : St K V Q) (fuel : Nat) :
    ∀ j acc, j ≤ l.length → l.length - j < fuel →
    iterLastR r fuel ⟨j, l.length⟩ acc s = .ok (lastItem l j acc, ⟨l.length, l.length⟩) s := by
  induction fuel with
  | zero => intro j acc _ hf; omega
  | succ fuel ih =>
    intro j acc hj hf
    by_cases hlt : j < l.length
    · have ih := ih (j + 1) (some (j, l[j])) hlt (by omega)
      simp only [iterLastR, bind_apply, iterNextR_lt hr hlt s, ih]
      congr 2
      rw [lastItem_lt hlt]
      by_cases hlt' : j + 1 < l.length
      · rw [lastItem_lt hlt']
      · rw [lastItem_ge (by omega)]
        have : j = l.length - 1 := by omega
        subst this; rfl
    · have hjl : j = l.length := by omega
      have hend : ¬ (⟨j, l.length⟩ : SliceIt).lo < (⟨j, l.length⟩ : SliceIt).hi := hlt
      simp only [iterLastR, bind_apply, iterNextR_end r hend s, pure_apply]
      rw [lastItem_ge (by omega), hjl]

/-- `last()` inside a script: the script ends (the clones taken before are still run out).  For the
    `*_mut` kinds exactly the last entry is rewritten — and only if it was received —, for the
    shared kinds nothing. -/
theorem iterScriptX_last (cs : List IterCmdX)
    (forks : List SliceIt) (hr : Rep s.r l) {j : Nat}
    (hj : j ≤ l.length) :
    ∃ s1 : St K V Q, s1.w = s.w ∧ s1.r.cap = s.r.cap ∧ (¬ IsMut kind → s1 = s) ∧
      Rep s1.r (if IsMut kind ∧ j < l.length then mapRange (wr g) (l.length - 1) l.length l else l) ∧
      iterScriptX R kind g (.last :: cs) ⟨j, l.length⟩ forks s =
        (iterRunForks kind forks >>= fun rest =>
          pure ((if j < l.length then nextOut kind g l (l.length - 1) 0 else RV.none) :: rest)) s1 := by
  have hrun := iterLastR_rep hr s ((⟨j, l.length⟩ : SliceIt).len + 1) j none hj (by simp [SliceIt.len])
  by_cases hlt : j < l.length
  · obtain ⟨s1, e, h1, h2, h3, h4⟩ := iterYield_at kind g hr (l.length - 1)
    have hidx : l[l.length - 1]?.map (fun p => (l.length - 1, p)) = lastItem l j none := by
      rw [lastItem_lt hlt, List.getElem?_eq_getElem (by omega : l.length - 1 < l.length)]; rfl
    rw [hidx] at e
    refine ⟨s1, h1, h2, h3, ?_, ?_⟩
    · have : l.length - 1 + 1 = l.length := by omega
      rw [this] at h4
      by_cases hm : IsMut kind
      · simpa [written, hm, hlt] using h4
      · simpa [written, hm] using h4
    · simp only [iterScriptX, bind_apply, getS, hrun, e, hlt, if_true]
  · refine ⟨s, rfl, rfl, fun _ => rfl, by simp [hlt, hr], ?_⟩
    simp only [iterScriptX, bind_apply, getS, hrun, lastItem_ge (Nat.not_lt.mp hlt), iterYield, hlt,
      if_false, pure_apply]

/-- ANY extended script over a borrowing iterator standing at `k ≤ |l|`: it runs to completion — no
    panic, no `ub` (in particular the loop bound of `last()` is never hit) — in every world; the
    world and the capacity are untouched; the kinds handing out `&V` leave the whole state as it
    was; `iter_mut` / `values_mut` change values only: same keys in the same slots, same length. -/
theorem iterScriptX_spec (cs : List IterCmdX) :
    ∀ (k : Nat) (forks : List SliceIt) (s : St K V Q) (l : List (K × V)),
    Rep s.r l → k ≤ l.length → (∀ f ∈ forks, f.lo ≤ l.length ∧ f.hi = l.length) →
    ∃ l', Runs kind (iterScriptX R kind g cs ⟨k, l.length⟩ forks) s l' ∧ l'.map (·.1) = l.map (·.1) := by
  induction cs with
  | nil =>
    intro k forks s l hr hk hf
    exact ⟨l, by rw [iterScriptX]; exact Runs.forks hr hf, rfl⟩
  | cons c cs ih =>
    intro k forks s l hr hk hf
    -- `nth n`, which also serves `next` (= `nth 0`)
    have hnth : ∀ n, ∃ l', Runs kind (iterScriptX R kind g (.nth n :: cs) ⟨k, l.length⟩ forks) s l' ∧
        l'.map (·.1) = l.map (·.1) := by
      intro n
      obtain ⟨s1, h1, h2, h3, h4, e⟩ := iterScriptX_nth R kind g n hr hk
      obtain ⟨l', h, g5⟩ := ih (min (k + n + 1) l.length) forks s1 _ h4 (by rw [written_length]; omega)
        (by rw [written_length]; exact hf)
      rw [written_length] at h
      exact ⟨l', h.step (e cs forks) h1 h2 h3, g5.trans (written_keys ..)⟩
    -- a command that leaves iterator and state alone and adds to the report what `wrap` says
    have hskip : ∀ (wrap : List (RV K V) → List (RV K V)) (forks' : List SliceIt),
        (∀ f ∈ forks', f.lo ≤ l.length ∧ f.hi = l.length) →
        (∀ o s', iterScriptX R kind g cs ⟨k, l.length⟩ forks' s = .ok o s' →
          iterScriptX R kind g (c :: cs) ⟨k, l.length⟩ forks s = .ok (wrap o) s') →
        ∃ l', Runs kind (iterScriptX R kind g (c :: cs) ⟨k, l.length⟩ forks) s l' ∧
          l'.map (·.1) = l.map (·.1) := by
      intro wrap forks' hf' hc
      obtain ⟨l', h, g5⟩ := ih k forks' s l hr hk hf'
      exact ⟨l', h.map wrap hc, g5⟩
    cases c with
    | nth n => exact hnth n
    | last =>
      obtain ⟨s1, h1, h2, h3, h4, e⟩ := iterScriptX_last R kind g cs forks hr hk
      have hw : ∃ l1 : List (K × V), Rep s1.r l1 ∧ l1.length = l.length ∧ l1.map (·.1) = l.map (·.1) := by
        by_cases hc : IsMut kind ∧ k < l.length
        · rw [if_pos hc] at h4
          have := written_keys kind g (l.length - 1) l.length l
          have hl := written_length kind g (l.length - 1) l.length l
          simp only [written, if_pos hc.1] at this hl
          exact ⟨_, h4, hl, this⟩
        · rw [if_neg hc] at h4; exact ⟨l, h4, rfl, rfl⟩
      obtain ⟨l1, hr1, hl1, hk1⟩ := hw
      exact ⟨l1, (Runs.forks hr1 (by rw [hl1]; exact hf)).step e h1 h2 h3, hk1⟩
    | base c =>
      cases c with
      | next => rw [iterScriptX_next_eq_nth0]; exact hnth 0
      | len =>
        exact hskip (RV.nat (SliceIt.len ⟨k, l.length⟩) :: ·) forks hf fun o s' e => by
          simp only [iterScriptX, bind_apply, pure_apply, e]
      | hint =>
        exact hskip (RV.hint (SliceIt.len ⟨k, l.length⟩) (some (SliceIt.len ⟨k, l.length⟩)) :: ·) forks hf
          fun o s' e => by simp only [iterScriptX, bind_apply, pure_apply, e]
      | debug =>
        exact hskip (RV.str (renderRest R kind false (l.drop k)) :: ·) forks hf fun o s' e => by
          simp only [iterScriptX, bind_apply, pure_apply, getS, restR_rep hr hk s, e]
      | debugAlt =>
        exact hskip (RV.str (renderRest R kind true (l.drop k)) :: ·) forks hf fun o s' e => by
          simp only [iterScriptX, bind_apply, pure_apply, getS, restR_rep hr hk s, e]
      | clone =>
        by_cases hm : kind = IterKind.iter_mut ∨ kind = IterKind.values_mut
        · exact hskip id forks hf fun o s' e => by simp only [iterScriptX, hm, if_true, e, id]
        · refine hskip id (forks ++ [⟨k, l.length⟩]) (fun f hfm => ?_) fun o s' e => by
            simp only [iterScriptX, hm, if_false, e, id]
          rcases List.mem_append.mp hfm with h | h
          · exact hf f h
          · simp at h; subst h; exact ⟨hk, rfl⟩
      | count | fold =>
        exact ⟨l, (Runs.forks hr hf).map (RV.nat (SliceIt.len ⟨k, l.length⟩) :: ·) fun o s' e => by
          simp only [iterScriptX, bind_apply, pure_apply, e], rfl⟩

theorem iterOpX_spec (script : List IterCmdX) (hr : Rep s.r l) :
    ∃ out s' l', iterOpX R kind g script s = .ok out s' ∧ s'.w = s.w ∧ s'.r.cap = s.r.cap ∧
      (¬ IsMut kind → s' = s) ∧ Rep s'.r l' ∧ l'.map (·.1) = l.map (·.1) := by
  obtain ⟨l', ⟨o, s', e, h1, h2, h3, h4⟩, h5⟩ :=
    iterScriptX_spec R kind g script 0 [] s l hr (Nat.zero_le _) (fun _ h => by simp at h)
  exact ⟨o, s', l', by simp only [iterOpX, getS, bind_apply, hr.iterStartR_ok s, e], h1, h2, h3, h4, h5⟩

section
variable {K Q : Type} (E : Env K Unit Q)

theorem algScriptX_base (dbg : Bool → K → String) (a b : Raw K Unit) :
    ∀ (cs : List IterCmd) (it : AlgIt) (forks : List AlgIt),
    algScriptX E dbg a b (cs.map .base) it forks = algScript E dbg a b cs it forks := by
  intro cs
  induction cs with
  | nil => intro it forks; rw [algScript]; rfl
  | cons c cs ih =>
    intro it forks
    cases c with
    | next =>
      simp only [List.map_cons, algScriptX, algScript]
      refine congrArg (fun f => algNext E a b it >>= f) (funext fun x => ?_)
      obtain ⟨o, it'⟩ := x
      simp only [ih it' forks]
      cases o <;> rfl
    | len | hint | debug | debugAlt => simp only [List.map_cons, algScriptX, algScript, ih it forks]
    | clone => simp only [List.map_cons, algScriptX, algScript, ih it (forks ++ [it])]
    | count | fold =>
      simp only [List.map_cons, algScriptX]
      conv => rhs; rw [algScript]
      simp only [algScript]

theorem algOpX_base (dbg : Bool → K → String) (kind : AlgKind) (a b : Raw K Unit) (cs : List IterCmd) :
    algOpX E dbg kind a b (cs.map .base) = algOp E dbg kind a b cs := by
  simp only [algOpX, algOp, algScriptX_base]

end

section
open Micromap.Alg
variable {K V Q : Type} (E : Env K V Q)

/-- std's `advance_by(k)`: the Boolean answers whether `k` more items were there. -/
theorem algSkip_quiet {a b : Raw K V} {la lb : List (K × V)} (hra : Rep a la) (hrb : Rep b lb)
    (k : Nat) (s : AlgIt) (hs : AlgInv la.length lb.length s) :
    Quiet (algSkip E a b k s) (fun res =>
      res.2.kind = s.kind ∧ AlgInv la.length lb.length res.2 ∧ meas res.2 ≤ meas s ∧
      (E.Pure → res.1 = decide (k ≤ (algRest E.keq la lb s).length) ∧
        algRest E.keq la lb res.2 = (algRest E.keq la lb s).drop k)) := by
  induction k generalizing s with
  | zero => exact Quiet.pure ⟨rfl, hs, Nat.le_refl _, fun _ => ⟨by simp, rfl⟩⟩
  | succ k ih =>
    unfold algSkip
    refine Quiet.bind (algNext_quiet E hra hrb s hs) ?_
    rintro ⟨o, s'⟩ ⟨k1, k2, k3, _, k5⟩
    simp only at k1 k2 k3 k5
    cases o with
    | none =>
      refine Quiet.pure ⟨k1, k2, k3, fun hp => ?_⟩
      obtain ⟨h1, h2⟩ := k5 hp
      have hnil := eq_nil_of_head?_none h1
      simp only [hnil, List.tail_nil] at h2 ⊢
      exact ⟨by simp, by simp [h2]⟩
    | some x =>
      refine Quiet.mono (ih s' k2) ?_
      rintro ⟨ok, s''⟩ ⟨m1, m2, m3, m5⟩
      simp only at m1 m2 m3 m5
      refine ⟨m1.trans k1, m2, Nat.le_trans m3 k3, fun hp => ?_⟩
      obtain ⟨h1, h2⟩ := k5 hp
      obtain ⟨g1, g2⟩ := m5 hp
      have hc := cons_of_head? h1
      simp only
      rw [g1, g2, h2, hc]
      simp

/-- `nth(k)` from ANY well-formed state: under any oracle a returned item is a reference to a live
    slot of an operand, the state stays well formed and of the same kind. -/
theorem algNth_quiet {a b : Raw K V} {la lb : List (K × V)} (hra : Rep a la) (hrb : Rep b lb)
    (k : Nat) (s : AlgIt) (hs : AlgInv la.length lb.length s) :
    Quiet (algNth E a b k s) (fun res =>
      res.2.kind = s.kind ∧ AlgInv la.length lb.length res.2 ∧ meas res.2 ≤ meas s ∧
      (∀ x, res.1 = some x → ItemOf la lb x) ∧
      (E.Pure → res.1 = (algRest E.keq la lb s)[k]? ∧
        algRest E.keq la lb res.2 = (algRest E.keq la lb s).drop (k + 1))) := by
  unfold algNth
  refine Quiet.bind (algSkip_quiet E hra hrb k s hs) ?_
  rintro ⟨ok, s'⟩ ⟨k1, k2, k3, k5⟩
  simp only at k1 k2 k3 k5
  cases ok with
  | true =>
    simp only [if_true]
    refine Quiet.mono (algNext_quiet E hra hrb s' k2) ?_
    rintro ⟨o, s''⟩ ⟨m1, m2, m3, m4, m5⟩
    simp only at m1 m2 m3 m4 m5
    refine ⟨m1.trans k1, m2, Nat.le_trans m3 k3, fun x hx => (m4 x hx).2, fun hp => ?_⟩
    obtain ⟨_, g2⟩ := k5 hp
    obtain ⟨h1, h2⟩ := m5 hp
    simp only
    rw [h1, h2, g2, List.head?_drop, List.tail_drop]
    exact ⟨rfl, rfl⟩
  | false =>
    simp only [Bool.false_eq_true, if_false]
    refine Quiet.pure ⟨k1, k2, k3, fun x hx => (by cases hx), fun hp => ?_⟩
    obtain ⟨g1, g2⟩ := k5 hp
    have hlt : (algRest E.keq la lb s).length < k := by
      have := g1.symm; simpa using this
    simp only
    rw [g2, List.getElem?_eq_none (by omega), List.drop_eq_nil_of_le (by omega),
      List.drop_eq_nil_of_le (by omega)]
    exact ⟨rfl, rfl⟩

/-- `last()` from ANY well-formed state (through the crate's `fold`): under any oracle a returned
    item is a reference to a live slot of an operand. -/
theorem algLast_quiet {a b : Raw K V} {la lb : List (K × V)} (hra : Rep a la) (hrb : Rep b lb)
    (s : AlgIt) (hs : AlgInv la.length lb.length s) :
    Quiet (algLast E a b s) (fun res =>
      (∀ x, res = some x → ItemOf la lb x) ∧ (E.Pure → res = (algRest E.keq la lb s).getLast?)) := by
  unfold algLast
  refine Quiet.bind (algFold_quiet E hra hrb s hs) ?_
  intro l ⟨h1, h2⟩
  exact Quiet.pure ⟨fun x hx => h1 x (List.mem_of_getLast? hx), fun hp => by rw [h2 hp]⟩

end

section
open Micromap.Alg
variable {K Q : Type} (E : Env K Unit Q)

/-- well-formed iterator states reachable in a script: the windows lie inside the operands and the
    number of items still to come is bounded by `|a| + |b|` (so the fuel of `algRunOut` suffices). -/
def ItOK (na nb : Nat) (f : AlgIt) : Prop := AlgInv na nb f ∧ meas f ≤ na + nb

theorem algRunForks_quiet {a b : Raw K Unit} {la lb : List (K × Unit)} (hra : Rep a la) (hrb : Rep b lb)
    (forks : List AlgIt) (h : ∀ f ∈ forks, ItOK la.length lb.length f) :
    Quiet (algRunForks E a b forks) (fun _ => True) := by
  induction forks with
  | nil => exact Quiet.pure trivial
  | cons f fs ih =>
    obtain ⟨h1, h2⟩ := h f List.mem_cons_self
    unfold algRunForks
    exact (algRunOut_quiet E hra hrb (a.len + b.len + 1) f h1 (by rw [hra.1, hrb.1]; omega)).bind fun _ _ =>
      (ih fun f' hf' => h f' (List.mem_cons_of_mem _ hf')).map fun _ _ => trivial

/-- ANY extended script (any mixture of `next`, `nth`, `last`, `size_hint`, `Debug`, `clone`,
    `count`, `fold`) over any of the four lazy set operations, from any well-formed state, under ANY
    `==` and any injected panic: it never reaches `ub` (no loop bound is hit), frames the
    container, has no effect but comparisons and can unwind only by an injected panic. -/
theorem algScriptX_quiet {a b : Raw K Unit} {la lb : List (K × Unit)} (hra : Rep a la) (hrb : Rep b lb)
    (dbg : Bool → K → String) (cs : List IterCmdX) (it : AlgIt) (forks : List AlgIt)
    (hit : ItOK la.length lb.length it) (hf : ∀ f ∈ forks, ItOK la.length lb.length f) :
    Quiet (algScriptX E dbg a b cs it forks) (fun _ => True) := by
  induction cs generalizing it forks with
  | nil => exact algRunForks_quiet E hra hrb forks hf
  | cons c cs ih =>
    have hfuel : meas it < a.len + b.len + 1 := by rw [hra.1, hrb.1]; have := hit.2; omega
    -- the report of the rest of the script from a state `it'` no further from its end, or of the forks
    have rest : ∀ it' (g : List (RV K Unit) → List (RV K Unit)), AlgInv la.length lb.length it' →
        meas it' ≤ meas it → Quiet (algScriptX E dbg a b cs it' forks >>= fun r => pure (g r)) (fun _ => True) :=
      fun it' _ k2 k3 => (ih it' forks ⟨k2, Nat.le_trans k3 hit.2⟩ hf).map fun _ _ => trivial
    have ends : ∀ g : List (RV K Unit) → List (RV K Unit),
        Quiet (algRunForks E a b forks >>= fun r => pure (g r)) (fun _ => True) :=
      fun _ => (algRunForks_quiet E hra hrb forks hf).map fun _ _ => trivial
    unfold algScriptX
    cases c with
    | nth k => exact (algNth_quiet E hra hrb k it hit.1).bind fun x h => rest x.2 _ h.2.1 h.2.2.1
    | last => exact (algLast_quiet E hra hrb it hit.1).bind fun _ _ => ends _
    | base c =>
      cases c with
      | next => exact (algNext_quiet E hra hrb it hit.1).bind fun x h => rest x.2 _ h.2.1 h.2.2.1
      | len => exact ih it forks hit hf
      | hint => exact rest it _ hit.1 (Nat.le_refl _)
      | debug | debugAlt => exact (algRunOut_quiet E hra hrb _ it hit.1 hfuel).bind fun _ _ => rest it _ hit.1 (Nat.le_refl _)
      | clone =>
        exact ih it (forks ++ [it]) hit fun f hfm =>
          (List.mem_append.mp hfm).elim (hf f) fun h => List.mem_singleton.mp h ▸ hit
      | count | fold => exact (algFold_quiet E hra hrb it hit.1).bind fun _ _ => ends _

theorem algOpX_quiet {a b : Raw K Unit} {la lb : List (K × Unit)} (hra : Rep a la) (hrb : Rep b lb)
    (dbg : Bool → K → String) (kind : AlgKind) (script : List IterCmdX) :
    Quiet (algOpX E dbg kind a b script) (fun _ => True) := by
  unfold algOpX
  refine (Quiet.of_ok (Qv := (· = startIt la.length lb.length kind)) (algStart_eq hra hrb kind) rfl).bind ?_
  rintro _ rfl
  exact algScriptX_quiet E hra hrb dbg script _ [] ⟨startIt_inv _ _ _, startIt_meas _ _ _⟩ (fun _ h => nomatch h)

end

end Micromap.StdIterB
