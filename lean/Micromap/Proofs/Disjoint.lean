/-
`get_disjoint_mut` / `get_disjoint_unchecked_mut`.  For any `==` and any injection point: the
pairwise overlap pre-check, the pass over the map that fills the index stack, the (immaterial)
sort and the back-to-front `split_at_mut` leave the container alone and return live, pairwise
distinct slots.  Under a pure `==` the outcome is a function of the two lists (`Unequal`,
`Overfull`, `resSpec`); for a lawful `==` and unique stored keys it is what the linear scan finds,
request by request.  Last, the writes through the returned references (`writeSlots` / `writeL`).

The model functions mirror `map.rs`: `overlapCheck` the two `for` loops around
`assert!(k != k_behind, "Overlapping keys")`; `positionOf` the `ks.iter().position(..)`;
`disjointCollect` the `for pair_i in 0..self.len` loop with its checked `stack[stack_top] = ..`;
`sortStack` the `sort_unstable_by_key`; `disjointSplit` the loop of `split_at_mut`s from the back.
For `J = 0` and `J = 1` the crate returns early (`ret[0] = self.get_mut(ks[0])`), which is the
first branch of `resSpec`.
-/
import Micromap.Proofs.MapApi
import Micromap.Proofs.Bridge
import Micromap.Proofs.SetAlgLaws

namespace Micromap.Disjoint
variable {K V Q : Type} (E : Env K V Q)

/-- `k.borrow() == p.0.borrow()`: request on the left, stored key on the right.  This is
    `Env.hit` (the scan's `p.0.borrow() == k`) with the operands of `==` swapped, so the two agree
    only for a symmetric `==`. -/
def rhit (stored : K) : Probe K Q → Bool
  | .key k => E.keq k stored
  | .q q => E.qeq q (E.borrow stored)

theorem rhit_eq_hit (hE : E.Lawful) (stored : K) : ∀ k : Probe K Q, rhit E stored k = E.hit stored k
  | .key k => hE.symm k stored
  | .q q => hE.qsymm q (E.borrow stored)

/-- `k == k_behind` between two requests. -/
def reqHit : Probe K Q → Probe K Q → Bool
  | .key a, .key b => E.keq a b
  | .q a, .q b => E.qeq a b
  | .key a, .q b => E.qeq (E.borrow a) b
  | .q a, .key b => E.qeq a (E.borrow b)

/-- the requests are pairwise different (what the pre-check asserts). -/
def Unequal (ks : List (Probe K Q)) : Prop := ks.Pairwise fun a b => reqHit E a b = false

theorem reqEq_cb : ∀ a b : Probe K Q,
    CbOk (reqEq E a b) (fun _ => []) (fun _ r => E.Pure → r = reqHit E a b)
  | .key a, .key b => eqK_pure_cb E a b
  | .q a, .q b => eqQ_pure_cb E a b
  | .key a, .q b => eqQ_pure_cb E (E.borrow a) b
  | .q a, .key b => eqQ_pure_cb E a (E.borrow b)

theorem reqEqStored_cb (stored : K) : ∀ k : Probe K Q,
    CbOk (reqEqStored E stored k) (fun _ => []) (fun _ r => E.Pure → r = rhit E stored k)
  | .key k => eqK_pure_cb E k stored
  | .q q => eqQ_pure_cb E q (E.borrow stored)

theorem assertP_true (c : PanicClass) (s : St K V Q) : assertP true c s = .ok () s := rfl
theorem assertP_false (c : PanicClass) (s : St K V Q) : assertP false c s = .panic c s := rfl

theorem sliceToLen_rep {s : St K V Q} {l : List (K × V)} (hr : Rep s.r l) :
    sliceToLen s = .ok l.length s := by
  unfold sliceToLen
  rw [if_pos (hr.1 ▸ hr.2.1 : s.r.len ≤ s.r.cap), hr.1]

/-- `m` run from `s` leaves the container alone and has no effect; it unwinds by an injected panic
    or by its own check (class `cls`), equally quietly.  `Qv`: what is known of the result,
    `Pv`: what is known when the check fails.  (`Alg.Quiet` is the same frame for runs that have
    no check of their own.) -/
def QuietAt (m : SM K V Q α) (s : St K V Q) (cls : PanicClass) (Qv : α → Prop) (Pv : Prop) : Prop :=
  Sat m s (fun a s' => s'.r = s.r ∧ WRel s.w s'.w [] ∧ Qv a)
    (fun c s' => s'.r = s.r ∧ (InjPanic s s' c ∨ (c = cls ∧ WRel s.w s'.w [] ∧ Pv)))

section
variable {α β : Type} {m : SM K V Q α} {s : St K V Q} {cls : PanicClass} {Qv : α → Prop} {Pv : Prop}

theorem QuietAt.pure {a : α} (h : Qv a) : QuietAt (pure a : SM K V Q α) s cls Qv Pv :=
  ⟨rfl, WRel.refl _, h⟩

theorem QuietAt.mono {Qv' : α → Prop} {Pv' : Prop} (h : QuietAt m s cls Qv Pv)
    (hq : ∀ a, Qv a → Qv' a) (hp : Pv → Pv') : QuietAt m s cls Qv' Pv' :=
  Sat.mono h (fun a _ ⟨h1, h2, h3⟩ => ⟨h1, h2, hq a h3⟩)
    (fun _ _ ⟨h1, h2⟩ => ⟨h1, h2.imp_right fun ⟨g1, g2, g3⟩ => ⟨g1, g2, hp g3⟩⟩)

theorem QuietAt.bind {f : α → SM K V Q β} {Q₁ : α → Prop} {Qv : β → Prop} (hm : QuietAt m s cls Q₁ Pv)
    (hf : ∀ a s1, s1.r = s.r → WRel s.w s1.w [] → Q₁ a → QuietAt (f a) s1 cls Qv Pv) :
    QuietAt (m >>= f) s cls Qv Pv :=
  Sat.bind hm fun a s1 ⟨h1, h2, h3⟩ =>
    Sat.mono (hf a s1 h1 h2 h3) (fun _ _ ⟨g1, g2, g3⟩ => ⟨g1.trans h1, h2.trans g2, g3⟩)
      (fun _ _ ⟨g1, g2⟩ => ⟨g1.trans h1,
        g2.imp (fun g => g.after h2) fun ⟨k1, k2, k3⟩ => ⟨k1, h2.trans k2, k3⟩⟩)

theorem QuietAt.bind_ok {f : α → SM K V Q β} {a : α} {Qv : β → Prop} (hm : m s = .ok a s)
    (h : QuietAt (f a) s cls Qv Pv) : QuietAt (m >>= f) s cls Qv Pv := Sat.bind_ok hm h

theorem QuietAt.of_cb (h : CbAt m s (fun _ => []) Qv) : QuietAt m s cls Qv Pv :=
  Sat.mono h (fun _ _ h' => h') (fun _ _ ⟨h1, h2⟩ => ⟨h1, Or.inl h2⟩)

end

theorem QuietAt.assert (p : Prop) [Decidable p] (s : St K V Q) (cls : PanicClass) {Pv : Prop}
    (hp : ¬ p → Pv) : QuietAt (assertP (decide p) cls : SM K V Q Unit) s cls (fun _ => p) Pv := by
  unfold assertP
  by_cases h : p
  · rw [decide_eq_true h]; exact ⟨rfl, WRel.refl _, h⟩
  · rw [decide_eq_false h]; exact ⟨rfl, Or.inr ⟨rfl, WRel.refl _, hp h⟩⟩

theorem overlapInner_quiet (k : Probe K Q) (rest : List (Probe K Q)) (s : St K V Q) :
    QuietAt (overlapInner E k rest) s .overlap (fun _ => E.Pure → ∀ kb, kb ∈ rest → reqHit E k kb = false)
      (E.Pure → ¬ ∀ kb, kb ∈ rest → reqHit E k kb = false) := by
  induction rest generalizing s with
  | nil => exact QuietAt.pure fun _ kb h => nomatch h
  | cons kb rest ih =>
    unfold overlapInner
    refine QuietAt.bind (QuietAt.of_cb ((reqEq_cb E k kb).at s)) fun e s1 _ _ he => ?_
    cases e with
    | true => exact ⟨rfl, Or.inr ⟨rfl, WRel.refl _, fun hp hall =>
        Bool.false_ne_true ((hall kb List.mem_cons_self).symm.trans (he hp).symm)⟩⟩
    | false =>
      exact (ih s1).mono (fun _ g hp => List.forall_mem_cons.2 ⟨(he hp).symm, g hp⟩)
        fun g hp hall => g hp fun x hx => hall x (List.mem_cons_of_mem _ hx)

theorem overlapCheck_sat (ks : List (Probe K Q)) (s : St K V Q) :
    Sat (overlapCheck E ks) s
      (fun _ s' => s'.r = s.r ∧ WRel s.w s'.w [] ∧ (E.Pure → Unequal E ks))
      (fun c s' => s'.r = s.r ∧ (InjPanic s s' c ∨
        (c = .overlap ∧ WRel s.w s'.w [] ∧ (E.Pure → ¬ Unequal E ks)))) := by
  show QuietAt _ s .overlap (fun _ => E.Pure → Unequal E ks) (E.Pure → ¬ Unequal E ks)
  induction ks generalizing s with
  | nil => exact QuietAt.pure fun _ => List.Pairwise.nil
  | cons k rest ih =>
    unfold overlapCheck
    exact QuietAt.bind ((overlapInner_quiet E k rest s).mono (fun _ h => h)
        fun hp hpu hu => hp hpu (List.pairwise_cons.1 hu).1)
      fun _ s1 _ _ h3 => (ih s1).mono (fun _ g hp => List.pairwise_cons.2 ⟨h3 hp, g hp⟩)
        fun g hp hu => g hp (List.pairwise_cons.1 hu).2

/-- the first request equal to the stored key (time-independent reading of `position`). -/
def posSpec (stored : K) (ks : List (Probe K Q)) : Option Nat := ks.findIdx? fun k => rhit E stored k

/-- `position` is `findIdx?` with its counter spelled out. -/
theorem positionOf_cb (stored : K) (ks : List (Probe K Q)) (t : Nat) :
    CbOk (positionOf E stored ks t) (fun _ => [])
      (fun _ o => (∀ j, o = some j → j < t + ks.length) ∧
        (E.Pure → o = List.findIdx?.go (rhit E stored) ks t)) := by
  induction ks generalizing t with
  | nil => exact fun s => CbAt.pure ⟨fun j h => (nomatch h), fun _ => rfl⟩
  | cons k rest ih =>
    intro s
    unfold positionOf
    refine ((reqEqStored_cb E stored k).at s).bind (t₂ := fun _ => []) fun b s1 _ _ h3 => ?_
    have hgo : E.Pure → List.findIdx?.go (rhit E stored) (k :: rest) t =
        if b then some t else List.findIdx?.go (rhit E stored) rest (t + 1) := fun hp => h3 hp ▸ rfl
    cases b with
    | true => exact CbAt.pure ⟨fun j hj => by cases hj; simp, fun hp => (hgo hp).symm⟩
    | false =>
      refine ((ih (t + 1)).at s1).mono (fun _ _ => rfl) fun o ⟨g3, g4⟩ =>
        ⟨fun j hj => ?_, fun hp => (g4 hp).trans (hgo hp).symm⟩
      have := g3 j hj; simp only [List.length_cons]; omega

/-- what the pass pushes for the slots `[i, i + n)` under a pure `==`. -/
def collectSpec (l : List (K × V)) (ks : List (Probe K Q)) : Nat → Nat → List (Nat × Nat)
  | 0, _ => []
  | n + 1, i =>
    (match l[i]? with
      | some p => (match posSpec E p.1 ks with
        | some t => [(i, t)]
        | none => [])
      | none => []) ++ collectSpec l ks n (i + 1)

/-- invariant of the index stack of (slot position, request position) pairs; `m` is the number
    of requests. -/
def StackOK (bound m : Nat) (st : List (Nat × Nat)) : Prop :=
  st.Pairwise (fun a b => a.1 < b.1) ∧ (∀ x, x ∈ st → x.1 < bound ∧ x.2 < m) ∧ st.length ≤ m

theorem StackOK.nil {m : Nat} : StackOK 0 m [] := ⟨.nil, fun _ h => (nomatch h), Nat.zero_le _⟩

theorem StackOK.mono {bound bound' m : Nat} {st} (h : StackOK bound m st) (hb : bound ≤ bound') :
    StackOK bound' m st :=
  ⟨h.1, fun x hx => ⟨Nat.lt_of_lt_of_le (h.2.1 x hx).1 hb, (h.2.1 x hx).2⟩, h.2.2⟩

theorem StackOK.push {i m : Nat} {st} (h : StackOK i m st) {t} (ht : t < m) (hl : st.length < m) :
    StackOK (i + 1) m (st ++ [(i, t)]) := by
  refine ⟨?_, ?_, by simp; omega⟩
  · rw [List.pairwise_append]
    refine ⟨h.1, by simp, fun a ha b hb => ?_⟩
    simp at hb; subst hb
    exact (h.2.1 a ha).1
  · intro x hx
    rcases List.mem_append.1 hx with hx | hx
    · exact ⟨Nat.lt_succ_of_lt (h.2.1 x hx).1, (h.2.1 x hx).2⟩
    · simp at hx; subst hx; exact ⟨Nat.lt_succ_self _, ht⟩

theorem collectSpec_succ {l : List (K × V)} {i : Nat} (hi : i < l.length) (ks : List (Probe K Q)) (n : Nat) :
    collectSpec E l ks (n + 1) i =
      (match posSpec E l[i].1 ks with
        | some t => [(i, t)]
        | none => []) ++ collectSpec E l ks n (i + 1) := by
  rw [collectSpec, List.getElem?_eq_getElem hi]

/-- whatever `==` answers, the stack stays strictly increasing in the slot position (each slot
    is pushed at most once) and never grows beyond the number of requests (the checked index
    `stack[stack_top]` panics first). -/
theorem disjointCollect_sat {l : List (K × V)} (ks : List (Probe K Q)) (n i : Nat)
    (stack : List (Nat × Nat)) (s : St K V Q) (hr : Rep s.r l) (hn : i + n = l.length)
    (hst : StackOK i ks.length stack) {spec : List (Nat × Nat)}
    (hspec : E.Pure → stack ++ collectSpec E l ks n i = spec) :
    QuietAt (disjointCollect E ks n i stack) s .oob
      (fun st => StackOK l.length ks.length st ∧ (E.Pure → st = spec))
      (E.Pure → ks.length < spec.length) := by
  induction n generalizing i stack s with
  | zero =>
    exact QuietAt.pure ⟨(by omega : i = l.length) ▸ hst, fun hp => (List.append_nil _).symm.trans (hspec hp)⟩
  | succ n ih =>
    have hlt : i < l.length := by omega
    unfold disjointCollect
    refine QuietAt.bind_ok (hr.itemRef_ok hlt) ?_
    refine QuietAt.bind (QuietAt.of_cb ((positionOf_cb E l[i].1 ks 0).at s)) fun o s1 h1 _ ⟨h3, h4⟩ => ?_
    have hr1 : Rep s1.r l := h1 ▸ hr
    -- under a pure `==` the answer is `posSpec`, so what this slot pushes is the head of `collectSpec`
    have hspec' : E.Pure → stack ++ (match (generalizing := false) o with
          | some t => [(i, t)]
          | none => []) ++ collectSpec E l ks n (i + 1) = spec := fun hp => by
      rw [← hspec hp, collectSpec_succ E hlt, show posSpec E l[i].1 ks = o from (h4 hp).symm,
        List.append_assoc]
    cases o with
    | some t =>
      have ht : t < ks.length := by simpa using h3 t rfl
      refine QuietAt.bind (QuietAt.assert (stack.length < ks.length) s1 .oob fun hfull hp => ?_)
        fun _ s2 g1 _ hroom =>
          ih (i + 1) (stack ++ [(i, t)]) s2 (g1 ▸ hr1) (by omega) (hst.push ht hroom) hspec'
      rw [← hspec' hp]
      simp only [List.length_append, List.length_singleton]
      omega
    | none =>
      rw [List.append_nil] at hspec'
      exact ih (i + 1) stack s1 hr1 (by omega) (hst.mono (Nat.le_succ _)) hspec'

theorem sortStack_id (st : List (Nat × Nat)) (h : st.Pairwise (fun a b => a.1 < b.1)) :
    sortStack st = st := by
  induction st with
  | nil => rfl
  | cons x xs ih =>
    have ⟨h1, h2⟩ := List.pairwise_cons.1 h
    rw [sortStack, ih h2]
    cases xs with
    | nil => rfl
    | cons y ys => exact if_pos (Nat.le_of_lt (h1 y List.mem_cons_self))

theorem pairwise_lt_inj {st : List (Nat × Nat)} (h : st.Pairwise (fun a b => a.1 < b.1)) {x y}
    (hx : x ∈ st) (hy : y ∈ st) (hxy : x.1 = y.1) : x = y := by
  obtain ⟨i, hi, rfl⟩ := List.mem_iff_getElem.1 hx
  obtain ⟨j, hj, rfl⟩ := List.mem_iff_getElem.1 hy
  rw [List.pairwise_iff_getElem] at h
  rcases Nat.lt_trichotomy i j with hlt | heq | hgt
  · have := h i j hi hj hlt; omega
  · subst heq; rfl
  · have := h j i hj hi hgt; omega

/-- `ret[ks_i] = Some(slot pair_i)` for every stack entry, in order. -/
def splitSpec : List (Nat × Nat) → List (Option Nat) → List (Option Nat)
  | [], ret => ret
  | x :: rest, ret => splitSpec rest (ret.set x.2 (some x.1))

theorem disjointSplit_eq {s : St K V Q} {l : List (K × V)} (hr : Rep s.r l) (st : List (Nat × Nat))
    (restLen : Nat) (ret : List (Option Nat)) (hl : restLen ≤ l.length)
    (hp : st.Pairwise (fun a b => b.1 < a.1)) (hb : ∀ x, x ∈ st → x.1 < restLen ∧ x.2 < ret.length) :
    disjointSplit st restLen ret s = .ok (splitSpec st ret) s := by
  induction st generalizing restLen ret with
  | nil => rfl
  | cons x rest ih =>
    have ⟨hp1, hp2⟩ := List.pairwise_cons.1 hp
    have ⟨hb1, hb2⟩ := hb x List.mem_cons_self
    unfold disjointSplit
    refine (bind_ok (assertP_of (Nat.le_of_lt hb1) _ s)).trans ?_
    refine (bind_ok (assertP_of hb1 _ s)).trans ?_
    refine (bind_ok (hr.itemRef_ok (Nat.lt_of_lt_of_le hb1 hl))).trans ?_
    refine (bind_ok (assertP_of hb2 _ s)).trans ?_
    exact ih x.1 _ (Nat.le_trans (Nat.le_of_lt hb1) hl) hp2 fun y hy =>
      ⟨hp1 y hy, by rw [List.length_set]; exact (hb y (List.mem_cons_of_mem _ hy)).2⟩

theorem splitSpec_length (st : List (Nat × Nat)) (ret : List (Option Nat)) :
    (splitSpec st ret).length = ret.length := by
  induction st generalizing ret with
  | nil => rfl
  | cons x rest ih => rw [splitSpec, ih, List.length_set]

theorem splitSpec_not_mem {t : Nat} (st : List (Nat × Nat)) (ret : List (Option Nat))
    (h : ∀ x, x ∈ st → x.2 ≠ t) : (splitSpec st ret)[t]? = ret[t]? := by
  induction st generalizing ret with
  | nil => rfl
  | cons x rest ih =>
    rw [splitSpec, ih _ fun y hy => h y (List.mem_cons_of_mem _ hy),
      List.getElem?_set_ne (h x List.mem_cons_self)]

theorem splitSpec_some {t j : Nat} (st : List (Nat × Nat)) (ret : List (Option Nat))
    (h : (splitSpec st ret)[t]? = some (some j)) : ret[t]? = some (some j) ∨ (j, t) ∈ st := by
  induction st generalizing ret with
  | nil => exact Or.inl h
  | cons x rest ih =>
    rcases ih _ h with h1 | h1
    · by_cases hx : x.2 = t
      · rw [List.getElem?_set, if_pos hx] at h1
        split at h1
        · have : x.1 = j := by simpa using h1
          right; rw [← this, ← hx]; exact List.mem_cons_self
        · cases h1
      · rw [List.getElem?_set_ne hx] at h1; exact Or.inl h1
    · exact Or.inr (List.mem_cons_of_mem _ h1)

theorem splitSpec_mem {t j : Nat} (st : List (Nat × Nat)) (ret : List (Option Nat)) (ht : t < ret.length)
    (hm : (j, t) ∈ st) (hu : ∀ x, x ∈ st → x.2 = t → x.1 = j) :
    (splitSpec st ret)[t]? = some (some j) := by
  induction st generalizing ret with
  | nil => cases hm
  | cons x rest ih =>
    rw [splitSpec]
    by_cases hr : (j, t) ∈ rest
    · exact ih _ (by rwa [List.length_set]) hr fun y hy => hu y (List.mem_cons_of_mem _ hy)
    · obtain rfl : (j, t) = x := (List.mem_cons.1 hm).resolve_right hr
      rw [splitSpec_not_mem rest _ fun y hy hy2 => hr
        ((Prod.ext (hu y (List.mem_cons_of_mem _ hy) hy2) hy2 : y = (j, t)) ▸ hy)]
      exact List.getElem?_set_self ht

/-- no two returned references point at the same slot. -/
def NoAlias (res : List (Option Nat)) : Prop :=
  ∀ (t₁ t₂ j : Nat), res[t₁]? = some (some j) → res[t₂]? = some (some j) → t₁ = t₂

/-- the result under a pure `==`: one scan for `J ≤ 1`, the stack machinery otherwise. -/
def resSpec (l : List (K × V)) (ks : List (Probe K Q)) : List (Option Nat) :=
  if ks.length ≤ 1 then ks.map (findKey E l)
  else splitSpec (collectSpec E l ks l.length 0).reverse (ks.map fun _ => none)

/-- more slots match than there are requests (impossible for a lawful `==` and unique keys). -/
def Overfull (l : List (K × V)) (ks : List (Probe K Q)) : Prop :=
  2 ≤ ks.length ∧ ks.length < (collectSpec E l ks l.length 0).length

theorem not_overfull_of_le_one {l : List (K × V)} {ks : List (Probe K Q)} (h : ks.length ≤ 1) :
    ¬ Overfull E l ks := fun ho => Nat.not_succ_le_self 1 (Nat.le_trans ho.1 h)

theorem NoAlias.of_length_le_one {res : List (Option Nat)} (h : res.length ≤ 1) : NoAlias res := by
  intro t₁ t₂ j h1 h2
  have := (List.getElem?_eq_some_iff.1 h1).1
  have := (List.getElem?_eq_some_iff.1 h2).1
  omega

theorem mem_of_splitSpec_init {st : List (Nat × Nat)} {ks : List (Probe K Q)} {t j : Nat}
    (h : (splitSpec st.reverse (ks.map fun _ => none))[t]? = some (some j)) : (j, t) ∈ st :=
  List.mem_reverse.1 <| (splitSpec_some _ _ h).resolve_left <| by
    rw [List.getElem?_map]; cases ks[t]? <;> exact nofun

theorem split_props {n m : Nat} {st : List (Nat × Nat)} (h : StackOK n m st) (ks : List (Probe K Q)) :
    (∀ (t j : Nat), (splitSpec st.reverse (ks.map fun _ => none))[t]? = some (some j) → j < n) ∧
    NoAlias (splitSpec st.reverse (ks.map fun _ => none)) :=
  ⟨fun t j hj => (h.2.1 _ (mem_of_splitSpec_init hj)).1, fun t₁ t₂ j h1 h2 =>
    (Prod.mk.inj (pairwise_lt_inj h.1 (mem_of_splitSpec_init h1) (mem_of_splitSpec_init h2) rfl)).2⟩

/-- `get_disjoint_unchecked_mut`, any oracle, any injection point: never UB, the container is
    never changed, one result per request, every returned slot is live, no two returned slots
    coincide.  It can only unwind by an injected panic or by the checked stack index (`.oob`). -/
theorem unchecked_sat {s : St K V Q} {l : List (K × V)} (hr : Rep s.r l) (ks : List (Probe K Q)) :
    Sat (get_disjoint_unchecked_mut E ks) s
      (fun res s' => s'.r = s.r ∧ WRel s.w s'.w [] ∧ res.length = ks.length ∧
        (∀ (t j : Nat), res[t]? = some (some j) → j < l.length) ∧ NoAlias res ∧
        (E.Pure → res = resSpec E l ks ∧ ¬ Overfull E l ks))
      (fun c s' => s'.r = s.r ∧ (InjPanic s s' c ∨
        (c = .oob ∧ WRel s.w s'.w [] ∧ (E.Pure → Overfull E l ks)))) := by
  show QuietAt _ s .oob
    (fun res => res.length = ks.length ∧ (∀ (t j : Nat), res[t]? = some (some j) → j < l.length) ∧
      NoAlias res ∧ (E.Pure → res = resSpec E l ks ∧ ¬ Overfull E l ks))
    (E.Pure → Overfull E l ks)
  unfold get_disjoint_unchecked_mut
  split
  · exact QuietAt.pure ⟨rfl, fun t j h => by simp at h, .of_length_le_one (Nat.zero_le _),
      fun _ => ⟨rfl, not_overfull_of_le_one E (Nat.zero_le _)⟩⟩
  · rename_i k
    refine QuietAt.bind (QuietAt.of_cb (scan_at E hr k)) fun o s1 h1 _ ⟨h3, h4⟩ => ?_
    have hres : (match o with
        | none => pure [none]
        | some i => itemRef i >>= fun _ => pure [some i] : SM K V Q _) s1 = .ok [o] s1 := by
      cases o with
      | none => rfl
      | some i => exact bind_ok ((h1 ▸ hr : Rep s1.r l).itemRef_ok (h3 i rfl))
    exact Sat.of_ok hres ⟨rfl, WRel.refl _, rfl,
      fun t j ht => h3 j (List.mem_singleton.1 (List.mem_of_getElem? ht)).symm,
      .of_length_le_one (Nat.le_refl 1), fun hp => ⟨h4 hp ▸ rfl, not_overfull_of_le_one E (Nat.le_refl 1)⟩⟩
  · rename_i hnil hone
    have hlen2 : 2 ≤ ks.length := match ks, hnil, hone with
      | [], h, _ => (h rfl).elim
      | [k], _, h => (h k rfl).elim
      | _ :: _ :: _, _, _ => Nat.le_add_left 2 _
    refine QuietAt.bind_ok (show getLen s = .ok l.length s from hr.1 ▸ rfl) ?_
    refine QuietAt.bind ((disjointCollect_sat E ks l.length 0 [] s hr (Nat.zero_add _) .nil fun _ => rfl).mono
      (fun _ h => h) fun hp hpu => ⟨hlen2, hp hpu⟩) fun st s1 h1 _ ⟨h3, h4⟩ => ?_
    have hr1 : Rep s1.r l := h1 ▸ hr
    simp only [sortStack_id st h3.1]
    refine QuietAt.bind_ok (sliceToLen_rep hr1) ?_
    have heq := disjointSplit_eq (s := s1) hr1 st.reverse l.length (ks.map fun _ => none)
      (Nat.le_refl _) (List.pairwise_reverse.2 h3.1) fun x hx => by
        rw [List.length_map]; exact h3.2.1 x (List.mem_reverse.1 hx)
    obtain ⟨p1, p2⟩ := split_props h3 ks
    refine Sat.of_ok heq ⟨rfl, WRel.refl _, by rw [splitSpec_length, List.length_map], p1, p2, fun hp => ?_⟩
    have hst : st = collectSpec E l ks l.length 0 := h4 hp
    exact ⟨by rw [resSpec, if_neg (by omega), hst], fun ho => Nat.not_lt.2 (hst ▸ h3.2.2) ho.2⟩

theorem get_disjoint_mut_nil : get_disjoint_mut E ([] : List (Probe K Q)) = pure [] := rfl

theorem get_disjoint_mut_eq (ks : List (Probe K Q)) :
    get_disjoint_mut E ks = (overlapCheck E ks >>= fun _ => get_disjoint_unchecked_mut E ks) := by
  cases ks <;> rfl

/-- `get_disjoint_mut`, any oracle, any injection point: never UB, the container is never
    changed (on return and on unwinding), one result per request, returned slots are live and
    pairwise distinct.  It unwinds only by an injected panic, `.overlap` (the pre-check) or
    `.oob` (the checked stack index). -/
theorem checked_sat {s : St K V Q} {l : List (K × V)} (hr : Rep s.r l) (ks : List (Probe K Q)) :
    Sat (get_disjoint_mut E ks) s
      (fun res s' => s'.r = s.r ∧ WRel s.w s'.w [] ∧ res.length = ks.length ∧
        (∀ (t j : Nat), res[t]? = some (some j) → j < l.length) ∧ NoAlias res ∧
        (E.Pure → res = resSpec E l ks ∧ ¬ Overfull E l ks ∧ Unequal E ks))
      (fun c s' => s'.r = s.r ∧ (InjPanic s s' c ∨
        (c = .oob ∧ WRel s.w s'.w [] ∧ (E.Pure → Overfull E l ks ∧ Unequal E ks)) ∨
        (c = .overlap ∧ WRel s.w s'.w [] ∧ (E.Pure → ¬ Unequal E ks)))) := by
  rw [get_disjoint_mut_eq]
  refine Sat.bind (Sat.mono (overlapCheck_sat E ks s) (fun _ _ h => h)
    fun c s' ⟨h1, h2⟩ => ⟨h1, h2.imp_right .inr⟩) fun _ s1 ⟨h1, h2, h3⟩ => ?_
  exact Sat.mono (unchecked_sat E (h1 ▸ hr : Rep s1.r l) ks)
    (fun res s2 ⟨g1, g2, g3, g4, g5, g6⟩ =>
      ⟨g1.trans h1, h2.trans g2, g3, g4, g5, fun hp => ⟨(g6 hp).1, (g6 hp).2, h3 hp⟩⟩)
    fun c s2 ⟨g1, g2⟩ => ⟨g1.trans h1, g2.imp (·.after h2) fun ⟨gc, gw, gp⟩ =>
      .inl ⟨gc, h2.trans gw, fun hp => ⟨gp hp, h3 hp⟩⟩⟩

theorem unchecked_pure (hE : E.Pure) {s : St K V Q} {l : List (K × V)} (hr : Rep s.r l)
    (hb : Benign s.w) (ks : List (Probe K Q)) :
    ∃ s', s'.r = s.r ∧ WRel s.w s'.w [] ∧
      (Overfull E l ks → get_disjoint_unchecked_mut E ks s = .panic .oob s') ∧
      (¬ Overfull E l ks → get_disjoint_unchecked_mut E ks s = .ok (resSpec E l ks) s') := by
  rcases (unchecked_sat E hr ks).cases with ⟨res, s', h1, hs, hw, _, _, _, hp⟩ | ⟨c, s', h1, hs, h2⟩
  · exact ⟨s', hs, hw, fun ho => ((hp hE).2 ho).elim, fun _ => (hp hE).1 ▸ h1⟩
  · rcases h2 with h2 | ⟨rfl, hw, ho⟩
    · exact (h2.not_benign hb).elim
    · exact ⟨s', hs, hw, fun _ => h1, fun hn => (hn (ho hE)).elim⟩

theorem checked_pure (hE : E.Pure) {s : St K V Q} {l : List (K × V)} (hr : Rep s.r l)
    (hb : Benign s.w) (ks : List (Probe K Q)) :
    ∃ s', s'.r = s.r ∧ WRel s.w s'.w [] ∧
      (¬ Unequal E ks → get_disjoint_mut E ks s = .panic .overlap s') ∧
      (Unequal E ks → Overfull E l ks → get_disjoint_mut E ks s = .panic .oob s') ∧
      (Unequal E ks → ¬ Overfull E l ks → get_disjoint_mut E ks s = .ok (resSpec E l ks) s') := by
  rcases (checked_sat E hr ks).cases with ⟨res, s', h1, hs, hw, _, _, _, hp⟩ | ⟨c, s', h1, hs, h2⟩
  · obtain ⟨rfl, hno, hu⟩ := hp hE
    exact ⟨s', hs, hw, fun hn => (hn hu).elim, fun _ ho => (hno ho).elim, fun _ _ => h1⟩
  · rcases h2 with h2 | ⟨rfl, hw, ho⟩ | ⟨rfl, hw, hn⟩
    · exact (h2.not_benign hb).elim
    · exact ⟨s', hs, hw, fun hn => (hn (ho hE).2).elim, fun _ _ => h1, fun _ hn => (hn (ho hE).1).elim⟩
    · exact ⟨s', hs, hw, fun _ => h1, fun hu => (hn hE hu).elim, fun hu => (hn hE hu).elim⟩

theorem reqHit_of_hits (hE : E.Lawful) {a : K} {k₁ k₂ : Probe K Q} (h₁ : E.hit a k₁ = true)
    (h₂ : E.hit a k₂ = true) : reqHit E k₁ k₂ = true := by
  cases k₁ with
  | key x =>
    cases k₂ with
    | key y => exact hE.trans x a y (by rw [hE.symm]; exact h₁) h₂
    | q y =>
      have h₁' : E.qeq (E.borrow a) (E.borrow x) = true := by rw [hE.borrow]; exact h₁
      exact hE.qtrans _ _ _ (by rw [hE.qsymm]; exact h₁') h₂
  | q x =>
    cases k₂ with
    | key y =>
      have h₂' : E.qeq (E.borrow a) (E.borrow y) = true := by rw [hE.borrow]; exact h₂
      exact hE.qtrans _ _ _ (by rw [hE.qsymm]; exact h₁) h₂'
    | q y => exact hE.qtrans _ _ _ (by rw [hE.qsymm]; exact h₁) h₂

variable {l : List (K × V)} {ks : List (Probe K Q)}

theorem posSpec_some {stored : K} {t} (h : posSpec E stored ks = some t) :
    ∃ ht : t < ks.length, rhit E stored ks[t] = true := by
  unfold posSpec at h
  rw [List.findIdx?_eq_some_iff_getElem] at h
  obtain ⟨ht, h1, _⟩ := h
  exact ⟨ht, h1⟩

theorem posSpec_of_hit (hE : E.Lawful) {stored : K} (hu : Unequal E ks) {t}
    (ht : t < ks.length) (h : rhit E stored ks[t] = true) : posSpec E stored ks = some t :=
  List.findIdx?_eq_some_iff_getElem.2 ⟨ht, h, fun t' ht' hc =>
    have hne := List.pairwise_iff_getElem.1 hu t' t (Nat.lt_trans ht' ht) ht ht'
    Bool.false_ne_true (hne.symm.trans
      (reqHit_of_hits E hE ((rhit_eq_hit E hE _ _).symm.trans hc) ((rhit_eq_hit E hE _ _).symm.trans h)))⟩

/-- what the pass pushes for slot `j`. -/
def hitAt (l : List (K × V)) (ks : List (Probe K Q)) (j : Nat) : Option (Nat × Nat) :=
  l[j]?.bind fun p => (posSpec E p.1 ks).map fun t => (j, t)

theorem collectSpec_eq (l : List (K × V)) (ks : List (Probe K Q)) (n i : Nat) :
    collectSpec E l ks n i = (List.range' i n).filterMap (hitAt E l ks) := by
  induction n generalizing i with
  | zero => rfl
  | succ n ih =>
    rw [collectSpec, ih, List.range'_succ, List.filterMap_cons]
    unfold hitAt
    cases l[i]? with
    | none => rfl
    | some p => cases hq : posSpec E p.1 ks <;> simp [hq]

theorem mem_collectSpec {j t : Nat} (n i : Nat) :
    (j, t) ∈ collectSpec E l ks n i ↔
      i ≤ j ∧ j < i + n ∧ ∃ p, l[j]? = some p ∧ posSpec E p.1 ks = some t := by
  rw [collectSpec_eq, List.mem_filterMap]
  simp only [List.mem_range'_1, hitAt, Option.bind_eq_some_iff, Option.map_eq_some_iff, Prod.mk.injEq]
  constructor
  · rintro ⟨a, ⟨h1, h2⟩, p, hp, t', ht, rfl, rfl⟩; exact ⟨h1, h2, p, hp, ht⟩
  · rintro ⟨h1, h2, p, hp, ht⟩; exact ⟨j, ⟨h1, h2⟩, p, hp, t, ht, rfl, rfl⟩

theorem collectSpec_pairwise (n i : Nat) :
    (collectSpec E l ks n i).Pairwise fun a b => a.1 < b.1 := by
  rw [collectSpec_eq]
  refine List.Pairwise.filterMap _ (fun a a' h b hb b' hb' => ?_) (List.pairwise_lt_range' (s := i) (n := n))
  simp only [hitAt, Option.bind_eq_some_iff, Option.map_eq_some_iff] at hb hb'
  obtain ⟨_, _, _, _, rfl⟩ := hb
  obtain ⟨_, _, _, _, rfl⟩ := hb'
  exact h

theorem hit_of_mem_collectSpec {j t : Nat} (h : (j, t) ∈ collectSpec E l ks l.length 0) :
    ∃ (hj : j < l.length) (ht : t < ks.length), rhit E l[j].1 ks[t] = true := by
  obtain ⟨_, _, p, hp1, hp2⟩ := (mem_collectSpec E _ _).1 h
  obtain ⟨hj, rfl⟩ := List.getElem?_eq_some_iff.1 hp1
  obtain ⟨ht, g⟩ := posSpec_some E hp2
  exact ⟨hj, ht, g⟩

theorem resSpec_lt {t j : Nat} (h : (resSpec E l ks)[t]? = some (some j)) : j < l.length := by
  unfold resSpec at h
  split at h
  · rw [List.getElem?_map] at h
    obtain ⟨k, _, hk⟩ := Option.map_eq_some_iff.1 h
    exact findKey_lt E hk
  · obtain ⟨hj, _⟩ := hit_of_mem_collectSpec E (mem_of_splitSpec_init h)
    exact hj

theorem findKey_of_mem_collectSpec (hE : E.Lawful) (hn : SetAlg.NodupKeys E.keq l) {j t : Nat}
    (h : (j, t) ∈ collectSpec E l ks l.length 0) : ∃ ht : t < ks.length, findKey E l ks[t] = some j :=
  have ⟨hj, ht, g⟩ := hit_of_mem_collectSpec E h
  ⟨ht, (findKey_some_iff hE hn ks[t]).2 ⟨hj, (rhit_eq_hit E hE _ _).symm.trans g⟩⟩

theorem mem_collectSpec_of_findKey (hE : E.Lawful) (hn : SetAlg.NodupKeys E.keq l) (hu : Unequal E ks)
    {j t : Nat} (ht : t < ks.length) (h : findKey E l ks[t] = some j) :
    (j, t) ∈ collectSpec E l ks l.length 0 :=
  have ⟨hj, hh⟩ := (findKey_some_iff hE hn ks[t]).1 h
  (mem_collectSpec E _ _).2 ⟨Nat.zero_le _, by omega, l[j], List.getElem?_eq_getElem hj,
    posSpec_of_hit E hE hu ht ((rhit_eq_hit E hE _ _).trans hh)⟩

theorem collectSpec_inj (hE : E.Lawful) (hn : SetAlg.NodupKeys E.keq l) {j j' t : Nat}
    (h : (j, t) ∈ collectSpec E l ks l.length 0) (h' : (j', t) ∈ collectSpec E l ks l.length 0) :
    j = j' :=
  have ⟨_, g⟩ := findKey_of_mem_collectSpec E hE hn h
  have ⟨_, g'⟩ := findKey_of_mem_collectSpec E hE hn h'
  Option.some.inj (g.symm.trans g')

/-- lawful `==`, unique keys: the checked stack index `stack[stack_top]` cannot fail. -/
theorem not_overfull (hE : E.Lawful) (hn : SetAlg.NodupKeys E.keq l)
    (ks : List (Probe K Q)) : ¬ Overfull E l ks := by
  intro ⟨_, h⟩
  have hp := collectSpec_pairwise E (l := l) (ks := ks) l.length 0
  have hnd : SetAlg.NodupB (fun a b : Nat => a == b) ((collectSpec E l ks l.length 0).map (·.2)) := by
    unfold SetAlg.NodupB
    rw [List.pairwise_map]
    refine List.Pairwise.imp_of_mem (fun {a b} ha hb hab => beq_false_of_ne fun h2 => ?_) hp
    have hb' : (b.1, a.2) ∈ collectSpec E l ks l.length 0 := h2 ▸ hb
    exact Nat.ne_of_lt hab (collectSpec_inj E hE hn (j := a.1) ha hb')
  have hnat : SetAlg.EquivB (fun a b : Nat => a == b) :=
    ⟨fun _ => BEq.rfl, fun _ _ => BEq.comm, fun _ _ _ => BEq.trans⟩
  have := SetAlg.pigeon hnat _ (List.range ks.length) hnd (by
    intro x hx
    rw [SetAlg.memB_eq_true]
    obtain ⟨y, hy, rfl⟩ := List.mem_map.1 hx
    obtain ⟨_, ht, _⟩ := hit_of_mem_collectSpec E (j := y.1) (t := y.2) hy
    exact ⟨y.2, List.mem_range.2 ht, by simp⟩)
  simp at this
  omega

/-- lawful `==`, unique stored keys, pairwise unequal requests: position by position the result
    is what the linear scan (`get_mut`) finds for that request. -/
theorem resSpec_lawful (hE : E.Lawful) (hn : SetAlg.NodupKeys E.keq l) (hu : Unequal E ks) :
    resSpec E l ks = ks.map (findKey E l) := by
  unfold resSpec
  split
  · rfl
  apply List.ext_getElem?
  intro t
  by_cases ht : t < ks.length
  · have hst : ∀ x, x ∈ (collectSpec E l ks l.length 0).reverse → x.2 = t →
        (x.1, t) ∈ collectSpec E l ks l.length 0 := fun x hx hx2 => hx2 ▸ List.mem_reverse.1 hx
    rw [List.getElem?_map, List.getElem?_eq_getElem ht, Option.map_some]
    cases hf : findKey E l ks[t] with
    | some j =>
      have hm := mem_collectSpec_of_findKey E hE hn hu ht hf
      exact splitSpec_mem _ _ (by rwa [List.length_map]) (List.mem_reverse.2 hm)
        fun x hx hx2 => collectSpec_inj E hE hn (hst x hx hx2) hm
    | none =>
      have hno : ∀ x, x ∈ (collectSpec E l ks l.length 0).reverse → x.2 ≠ t := fun x hx hx2 => by
        obtain ⟨_, h⟩ := findKey_of_mem_collectSpec E hE hn (hst x hx hx2)
        rw [hf] at h; cases h
      rw [splitSpec_not_mem _ _ hno, List.getElem?_map, List.getElem?_eq_getElem ht]; rfl
  · rw [List.getElem?_eq_none (by rw [splitSpec_length, List.length_map]; omega),
      List.getElem?_eq_none (by rw [List.length_map]; omega)]

/-- list-level effect of `*r = g(*r)` through every returned reference, in order. -/
def writeL (g : V → V) : List (Option Nat) → List (K × V) → List (K × V)
  | [], l => l
  | none :: rest, l => writeL g rest l
  | some i :: rest, l =>
    writeL g rest (match l[i]? with
      | some p => l.set i (p.1, g p.2)
      | none => l)

theorem writeL_length (g : V → V) (res : List (Option Nat)) (l : List (K × V)) :
    (writeL g res l).length = l.length := by
  induction res generalizing l with
  | nil => rfl
  | cons o rest ih =>
    cases o with
    | none => exact ih l
    | some i => rw [writeL, ih]; cases l[i]? <;> simp

theorem writeSlots_eq (g : V → V) (res : List (Option Nat)) (s : St K V Q) (l : List (K × V))
    (hr : Rep s.r l) (hb : ∀ (t j : Nat), res[t]? = some (some j) → j < l.length) :
    ∃ s', writeSlots g res s = .ok () s' ∧ Rep s'.r (writeL g res l) ∧ s'.w = s.w ∧ s'.r.cap = s.r.cap := by
  induction res generalizing s l with
  | nil => exact ⟨s, rfl, hr, rfl, rfl⟩
  | cons o rest ih =>
    have hb' : ∀ (t j : Nat), rest[t]? = some (some j) → j < l.length := fun t j h => hb (t + 1) j h
    cases o with
    | none => exact ih s l hr hb'
    | some i =>
      have hi : i < l.length := hb 0 i rfl
      obtain ⟨s', h1, h2, h3, h4⟩ := ih { s with r := setSlot s.r i (some (l[i].1, g l[i].2)) } _
        (hr.set hi _) (by rwa [List.length_set])
      refine ⟨s', ?_, ?_, h3, h4⟩
      · exact (bind_ok (hr.itemRef_ok hi)).trans ((bind_ok (hr.valueReplace_ok hi _)).trans h1)
      · rw [writeL, List.getElem?_eq_getElem hi]; exact h2

theorem NoAlias.tail {o : Option Nat} {rest : List (Option Nat)} (h : NoAlias (o :: rest)) :
    NoAlias rest := fun t₁ t₂ j h1 h2 => Nat.succ.inj (h (t₁ + 1) (t₂ + 1) j h1 h2)

theorem NoAlias.head_not_mem {i : Nat} {rest : List (Option Nat)} (h : NoAlias (some i :: rest)) :
    some i ∉ rest := fun hm =>
  have ⟨t, ht⟩ := List.getElem?_of_mem hm
  Nat.succ_ne_zero t (h (t + 1) 0 i ht rfl)

/-- with non-aliasing references `g` is applied exactly once to every returned slot. -/
theorem writeL_getElem? (g : V → V) (res : List (Option Nat)) (l : List (K × V)) (j : Nat)
    (h : NoAlias res) :
    (writeL g res l)[j]? = if some j ∈ res then (l[j]?).map (fun p => (p.1, g p.2)) else l[j]? := by
  induction res generalizing l with
  | nil => rw [if_neg List.not_mem_nil]; rfl
  | cons o rest ih =>
    cases o with
    | none => rw [writeL, ih l h.tail]; simp
    | some i =>
      rw [writeL, ih _ h.tail]
      by_cases hji : j = i
      · subst hji
        rw [if_neg h.head_not_mem, if_pos List.mem_cons_self]
        cases hl : l[j]? with
        | none => exact hl
        | some p => exact List.getElem?_set_self (List.getElem?_eq_some_iff.1 hl).1
      · have hset : (match l[i]? with
            | some p => l.set i (p.1, g p.2)
            | none => l)[j]? = l[j]? := by
          cases l[i]? with
          | none => rfl
          | some p => exact List.getElem?_set_ne (Ne.symm hji)
        have hm : (some j ∈ some i :: rest) ↔ some j ∈ rest := by simp [hji]
        simp only [hm, hset]

end Micromap.Disjoint
