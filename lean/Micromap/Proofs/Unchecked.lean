/-
The unsafe fast paths against their safe counterparts: `insert_i` (behind `insert_unchecked`)
performs the same callbacks in the same order as `insert_ii` and, inside its contract, ends in
the same state; `get_disjoint_unchecked_mut` is `get_disjoint_mut` without the pre-check.
-/
import Micromap.Proofs.MapApi
import Micromap.Proofs.Disjoint

namespace Micromap.Unchecked
variable {K V Q : Type} (E : Env K V Q)

theorem setSlot_setSlot (r : Raw K V) (i : Nat) (o o' : Option (K × V)) :
    setSlot (setSlot r i o) i o' = setSlot r i o' := by
  unfold setSlot
  congr 1
  funext j
  by_cases h : j = i <;> simp [h]

theorem scan_eq {s : St K V Q} {l : List (K × V)} (hr : Rep s.r l) (pr : Probe K Q) :
    scan E pr s = scanFromR E s.r pr l.length 0 s := by
  unfold scan scanR
  rw [if_pos hr.len_le_cap, hr.1]

/-- the hand-rolled loop of `insert_i` is the library scan (same comparisons, same order)
    followed by moving the found pair out of its slot. -/
theorem loop_eq {l : List (K × V)} (k : K) : ∀ (n i : Nat) (s : St K V Q), Rep s.r l →
    i + n = l.length →
    insert_i_loop E k n i s =
      match scanFromR E s.r (.key k) n i s with
      | .ok none s' => .ok none s'
      | .ok (some j) s' =>
        (match itemRead j s' with
          | .ok old s'' => .ok (some (j, old)) s''
          | .panic c s'' => .panic c s''
          | .ub => .ub)
      | .panic c s' => .panic c s'
      | .ub => .ub
  | 0, i, s, _, _ => rfl
  | n + 1, i, s, hr, hn => by
    have hlt : i < l.length := by omega
    have href : itemRef i s = .ok l[i] s := hr.itemRef_ok hlt
    have hrefR : itemRefR s.r i s = .ok l[i] s := href
    unfold insert_i_loop scanFromR
    simp only [bind_apply, href, hrefR]
    have hpe : probeEq E l[i].1 (.key k : Probe K Q) = eqK E l[i].1 k := rfl
    rw [hpe]
    have hcb := eqK_cb E l[i].1 k s
    cases he : eqK E l[i].1 k s with
    | ub => rfl
    | panic c s1 => rfl
    | ok b s1 =>
      have hs1 : s1.r = s.r := (hcb.ok_of he).1
      cases b with
      | true =>
        simp only [if_true, pure_apply, bind_apply]
        cases itemRead i s1 <;> rfl
      | false =>
        simp only [Bool.false_eq_true, if_false]
        rw [loop_eq k n (i + 1) s1 (hs1 ▸ hr) (by omega), hs1]

theorem unwindWith_congr {α} {c : SM K V Q Unit} {b₁ b₂ : SM K V Q α} {s : St K V Q}
    (h : b₁ s = b₂ s) : Micromap.unwindWith c b₁ s = Micromap.unwindWith c b₂ s := by
  unfold Micromap.unwindWith; rw [h]

/-- `insert_i` = `insert_ii` as outcomes (result, final state — container and world —, or the
    same panic in the same state), for ANY `==` and ANY injection point, provided the call is
    inside the contract of `insert_unchecked` — there is room, or the scan finds the key — or
    the build has `debug_assert!` enabled. -/
theorem insert_i_eq_insert_ii {s : St K V Q} {l : List (K × V)} (hr : Rep s.r l) (k : K) (v : V)
    (upd : Bool)
    (hc : l.length < s.r.cap ∨ (∀ s1, scan E (.key k) s ≠ .ok none s1) ∨ s.w.profile = .debug) :
    insert_i E k v upd s = insert_ii E k v upd s := by
  unfold insert_i insert_ii
  apply unwindWith_congr
  have hlen : getLen s = .ok l.length s := by unfold getLen; rw [hr.1]
  have hcap : getCap s = .ok s.r.cap s := rfl
  simp only [bind_apply, hlen, hcap]
  rw [loop_eq E k l.length 0 s hr (by omega)]
  have hsc : ∀ o s1, scanFromR E s.r (.key k) l.length 0 s = .ok o s1 →
      s1.r = s.r ∧ WRel s.w s1.w [] ∧ (∀ j, o = some j → j < l.length) ∧
        (E.Pure → o = findKey E l (.key k)) :=
    fun o s1 h => (scan_cb' E hr (.key k)).ok_of (by rw [scan_eq E hr]; exact h)
  rw [scan_eq E hr] at hc ⊢
  cases hscan : scanFromR E s.r (.key k) l.length 0 s with
  | ub => rfl
  | panic c s1 => rfl
  | ok o s1 =>
    obtain ⟨h1, h2, h3, _⟩ := hsc _ _ hscan
    have hr1 : Rep s1.r l := h1 ▸ hr
    cases o with
    | none =>
      have hlen1 : getLen s1 = .ok l.length s1 := by unfold getLen; rw [hr1.1]
      have hcap1 : getCap s1 = .ok s.r.cap s1 := by unfold getCap; rw [h1]
      by_cases hroom : l.length < s.r.cap
      · have hda : debugAssert (decide (l.length < s.r.cap)) .overflow s1 = .ok () s1 := by
          rw [decide_eq_true hroom]; exact debugAssert_true _ s1
        have hc1 : l.length < s1.r.cap := by rw [h1]; exact hroom
        -- a dead slot may hold a stale pair, which the write leaks; either way both sides do the same
        cases hsl : s1.r.slots l.length <;>
        · simp only [bind_apply, pure_apply, hlen1, hcap1, hda, setLen, modS, checkedWrite, itemWrite,
            hc1, hsl, if_true]
          rfl
      · rcases hc with hc | hc | hc
        · exact (hroom hc).elim
        · exact (hc s1 hscan).elim
        · have hprof : s1.w.profile = .debug := by rw [h2.profile]; exact hc
          have hda : debugAssert (decide (l.length < s.r.cap)) .overflow s1 = .panic .overflow s1 := by
            rw [decide_eq_false hroom]; exact debugAssert_false_debug _ hprof
          simp only [bind_apply, hlen1, hcap1, hda]
    | some j =>
      have hj := h3 j rfl
      have hrd : itemRead j s1 = .ok l[j] { s1 with r := setSlot s1.r j none } :=
        itemRead_ok (hr1.cap_lt hj) (hr1.slot hj)
      have hw : ∀ p : K × V, itemWrite j p { s1 with r := setSlot s1.r j none } =
          .ok () { s1 with r := setSlot s1.r j (some p) } := by
        intro p
        unfold itemWrite
        have : j < s1.r.cap := hr1.cap_lt hj
        simp [this, setSlot_setSlot]
      simp only [hrd]
      cases upd with
      | true =>
        simp only [bind_apply, Bool.not_true, Bool.false_eq_true, if_false, if_true, hw, pure_apply,
          pairReplace_ok (s := s1) (k, v) (hr1.cap_lt hj) (hr1.slot hj)]
      | false =>
        simp only [bind_apply, Bool.not_false, Bool.false_eq_true, if_false, if_true, hw, pure_apply,
          valueReplace_ok (s := s1) v (hr1.cap_lt hj) (hr1.slot hj)]

theorem insert_unchecked_eq_insert {s : St K V Q} {l : List (K × V)} (hr : Rep s.r l) (k : K) (v : V)
    (hc : l.length < s.r.cap ∨ (∀ s1, scan E (.key k) s ≠ .ok none s1) ∨ s.w.profile = .debug) :
    insert_unchecked E k v s = insert E k v s := by
  unfold insert_unchecked insert
  simp only [bind_apply, insert_i_eq_insert_ii E hr k v false hc]

theorem scan_ne_none_of_present (hE : E.Pure) {s : St K V Q} {l : List (K × V)} (hr : Rep s.r l) (k : K)
    (hp : findKey E l (.key k) ≠ none) : ∀ s1, scan E (.key k) s ≠ .ok none s1 := by
  intro s1 h
  have := ((scan_cb' E hr (.key k)).ok_of h).2.2.2 hE
  exact hp this.symm

/-- outside the contract — full map, the scan finds nothing, `debug_assert!` compiled out — the
    model of `insert_i` writes past the array: UB (documented on `insert_unchecked`). -/
theorem insert_i_ub_outside {s s1 : St K V Q} {l : List (K × V)} (hr : Rep s.r l) (k : K) (v : V)
    (upd : Bool) (hfull : l.length = s.r.cap) (hrel : s.w.profile = .release)
    (hscan : scan E (.key k) s = .ok none s1) : insert_i E k v upd s = .ub := by
  obtain ⟨h1, h2, _, _⟩ := (scan_cb' E hr (.key k)).ok_of hscan
  have hprof : s1.w.profile = .release := by rw [h2.profile]; exact hrel
  rw [scan_eq E hr] at hscan
  have hlen : getLen s = .ok l.length s := by unfold getLen; rw [hr.1]
  have hcap : getCap s = .ok s.r.cap s := rfl
  have hda : debugAssert (decide (l.length < s.r.cap)) .overflow s1 = .ok () s1 :=
    debugAssert_release _ _ hprof
  have hnc : ¬ l.length < s1.r.cap := by rw [h1]; omega
  unfold insert_i Micromap.unwindWith
  simp only [bind_apply, hlen, hcap]
  rw [loop_eq E k l.length 0 s hr (by omega), hscan]
  simp only [bind_apply, hda, setLen, modS, itemWrite, hnc, if_false]

/-- when the pre-check passes, `get_disjoint_mut` IS `get_disjoint_unchecked_mut`, run from
    the state the pre-check leaves (same container, no effects: only comparisons were made). -/
theorem get_disjoint_mut_of_check_ok {s s1 : St K V Q} (ks : List (Probe K Q))
    (h : overlapCheck E ks s = .ok () s1) :
    get_disjoint_mut E ks s = get_disjoint_unchecked_mut E ks s1 := by
  rw [Disjoint.get_disjoint_mut_eq]
  simp only [bind_apply, h]

end Micromap.Unchecked
