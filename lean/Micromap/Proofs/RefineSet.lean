/-
Sets are maps with `V = ()`: the reference finite set, and its relation to the reference
dictionary at `V = Unit`, so that `Refine.sim_step` carries over to every `Set` operation.
-/
import Micromap.Proofs.RefineStep

namespace Micromap.RefineSet
open Refine
variable {K Q : Type}

/-- the `Set` operations of property C07 (each forwards to the `Map<T, (), N>` method shown in
    `toD`, exactly as `src/set/methods.rs` does). -/
inductive SOp (K Q : Type) where
  | insert (k : K)
  | replace (k : K)
  | contains (pr : Probe K Q)
  | get (pr : Probe K Q)
  | remove (pr : Probe K Q)
  | take (pr : Probe K Q)
  | retain (f : K → Bool)
  | clear
  | len
  | is_empty
  | iter

inductive SOut (K : Type) where
  | unit
  | bool (b : Bool)
  | nat (n : Nat)
  | optK (o : Option K)
  | list (l : List K)

def toD : SOp K Q → DOp K Unit Q
  | .insert k => .insert k ()
  | .replace k => .insert_key_value k ()
  | .contains pr => .contains_key pr
  | .get pr => .get pr
  | .remove pr => .remove pr
  | .take pr => .remove_entry pr
  | .retain f => .retain fun k u => (f k, u)
  | .clear => .clear
  | .len => .len
  | .is_empty => .is_empty
  | .iter => .iter

/-- what the `Set` method makes of the map method's result (`.is_none()`, `.is_some()`,
    `.map(|p| p.0)` …). -/
def outS : SOp K Q → DOut K Unit → SOut K
  | .insert _, .optV o => .bool o.isNone
  | .replace _, .optKV o => .optK (o.map (·.1))
  | .contains _, .bool b => .bool b
  | .get _, .optKV o => .optK (o.map (·.1))
  | .remove _, .optV o => .bool o.isSome
  | .take _, .optKV o => .optK (o.map (·.1))
  | .len, .nat n => .nat n
  | .is_empty, .bool b => .bool b
  | .iter, .list l => .list (l.map (·.1))
  | _, _ => .unit

variable (F : Env K Unit Q)

def smrun (op : SOp K Q) : SM K Unit Q (SOut K) := do
  let o ← mrun F (toD op)
  pure (outS op o)

/-- the ideal finite set of capacity `cap`, as a duplicate-free list of elements. -/
def sset (op : SOp K Q) (ks : List K) (cap : Nat) : RefDict.Res (SOut K) (List K) :=
  match op with
  | .insert k =>
    if ks.any (F.hitP (.key k)) then .ok (.bool false) ks
    else if ks.length < cap then .ok (.bool true) (ks ++ [k]) else .overflow
  | .replace k =>
    match ks.find? (F.hitP (.key k)) with
    | some old => .ok (.optK (some old)) (ks.map fun x => if F.hitP (.key k) x then k else x)
    | none => if ks.length < cap then .ok (.optK none) (ks ++ [k]) else .overflow
  | .contains pr => .ok (.bool (ks.any (F.hitP pr))) ks
  | .get pr => .ok (.optK (ks.find? (F.hitP pr))) ks
  | .remove pr => .ok (.bool (ks.any (F.hitP pr))) (ks.filter fun x => !F.hitP pr x)
  | .take pr => .ok (.optK (ks.find? (F.hitP pr))) (ks.filter fun x => !F.hitP pr x)
  | .retain f => .ok .unit (ks.filter f)
  | .clear => .ok .unit []
  | .len => .ok (.nat ks.length) ks
  | .is_empty => .ok (.bool (ks.length == 0)) ks
  | .iter => .ok (.list ks) ks

def SOutRel : SOut K → SOut K → Prop
  | .list a, .list b => a.Perm b
  | x, y => x = y

theorem SOutRel.refl : (x : SOut K) → SOutRel x x
  | .list l => List.Perm.refl l
  | .unit | .bool _ | .nat _ | .optK _ => rfl

theorem SOutRel.eq_of {x y : SOut K} (h : SOutRel x y) (hy : ∀ l, y ≠ .list l) : x = y := by
  cases y with
  | list l => exact absurd rfl (hy l)
  | _ => cases x <;> first | exact h | (simp only [SOutRel] at h)

/-- no `Set` method indexes. -/
theorem srun_toD_ne_noentry (op : SOp K Q) (d : List (K × Unit)) (cap : Nat) :
    srun F (toD op) d cap ≠ .noentry := by
  cases op with
  | insert k | replace k =>
    simp only [toD, srun]
    split
    · nofun
    · split <;> nofun
  | _ => intro h; cases h

theorem find_map_fst (hit : K → Bool) (d : List (K × Unit)) :
    (d.map (·.1)).find? hit = (RefDict.find hit d).map (·.1) := by
  unfold RefDict.find; rw [List.find?_map]; rfl

theorem any_map_fst (hit : K → Bool) (d : List (K × Unit)) :
    (d.map (·.1)).any hit = (RefDict.find hit d).isSome := by
  unfold RefDict.find
  induction d with
  | nil => rfl
  | cons p d ih =>
    simp only [List.map_cons, List.any_cons, List.find?_cons]
    cases hit p.1 <;> simp [ih]

theorem setVal_unit (hit : K → Bool) (d : List (K × Unit)) : RefDict.setVal hit () d = d :=
  (List.map_congr_left fun q _ => by split <;> rfl).trans (List.map_id d)

theorem setPair_map_fst (hit : K → Bool) (k : K) (d : List (K × Unit)) :
    (RefDict.setPair hit k () d).map (·.1) = (d.map (·.1)).map fun x => if hit x then k else x := by
  unfold RefDict.setPair
  rw [List.map_map, List.map_map]
  exact List.map_congr_left fun q _ => by simp only [Function.comp]; split <;> rfl

theorem erase_map_fst (hit : K → Bool) (d : List (K × Unit)) :
    (RefDict.erase hit d).map (·.1) = (d.map (·.1)).filter fun x => !hit x := by
  unfold RefDict.erase; rw [List.filter_map]; rfl

theorem retain_map_fst (f : K → Bool) (d : List (K × Unit)) :
    (RefDict.retain (fun k u => (f k, u)) d).map (·.1) = (d.map (·.1)).filter f := by
  unfold RefDict.retain
  induction d with
  | nil => rfl
  | cons p d ih =>
    simp only [List.filterMap_cons, List.map_cons, List.filter_cons]
    cases f p.1 <;> simp [ih]

theorem sset_eq_srun (op : SOp K Q) (d : List (K × Unit)) (cap : Nat) :
    sset F op (d.map (·.1)) cap =
      match srun F (toD op) d cap with
      | .ok o d' => .ok (outS op o) (d'.map (·.1))
      | .overflow => .overflow
      | .noentry => .noentry := by
  cases op with
  | insert k =>
    simp only [sset, srun, toD, any_map_fst, List.length_map]
    cases hf : RefDict.find (F.hitP (.key k)) d with
    | some p => simp [outS, setVal_unit]
    | none =>
      simp only [Option.isSome_none, Bool.false_eq_true, if_false]
      split <;> simp [outS]
  | replace k =>
    simp only [sset, srun, toD, find_map_fst, List.length_map]
    cases hf : RefDict.find (F.hitP (.key k)) d with
    | some p => simp [outS, setPair_map_fst]
    | none =>
      simp only [Option.map_none]
      split <;> simp [outS]
  | contains pr => simp only [sset, srun, toD, outS, any_map_fst]
  | get pr => simp only [sset, srun, toD, outS, find_map_fst]
  | remove pr =>
    simp only [sset, srun, toD, outS, any_map_fst, erase_map_fst]
    cases RefDict.find (F.hitP pr) d <;> rfl
  | take pr => simp only [sset, srun, toD, outS, find_map_fst, erase_map_fst]
  | retain f => simp [sset, srun, toD, outS, retain_map_fst]
  | clear => simp [sset, srun, toD, outS]
  | len => simp [sset, srun, toD, outS]
  | is_empty => simp [sset, srun, toD, outS]
  | iter => simp [sset, srun, toD, outS]

end Micromap.RefineSet
