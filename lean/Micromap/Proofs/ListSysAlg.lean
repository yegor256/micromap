/-
The lazy set operations: `algOp` (scripts over `difference` / `intersection` / `union` /
`symmetric_difference`) computes `lAlgScript`; the set predicates compute the list-level codes.
All of them are read-only (`QEx`).
-/
import Micromap.Proofs.ListSysBase

namespace Micromap.ListSys
open Micromap Alg
variable {K V Q : Type}

/-- `Quiet` speaks of every state, so both triples are run from one benign dummy state and the two
    results compared. -/
theorem QEx.transfer {α : Type} {m : SM K V Q α} {x : α} {Qv : α → Prop} (h : QEx m x)
    (hq : Alg.Quiet m Qv) : Qv x := by
  have hb : Benign (⟨Raw.new 0, {}⟩ : St K V Q).w := ⟨rfl, rfl⟩
  obtain ⟨a, s1, h1, _, _, ha⟩ := Alg.Quiet.run h hb
  obtain ⟨a', s2, h2, _, _, ha'⟩ := Alg.Quiet.run hq hb
  rw [h1] at h2
  cases h2
  subst ha
  exact ha'

variable (E : Env K V Q)

section halves
variable (hE : E.Pure) {a b : Raw K V} {la lb : List (K × V)} (hra : Rep a la) (hrb : Rep b lb)
include hE hra hrb

theorem filtNextR_qex (want : Bool) : ∀ n lo, (0 < n → lo + n ≤ la.length) →
    QEx (filtNextR E a b want n lo) (lFiltNextR E la lb want n lo)
  | 0, lo, _ => QEx.pure _
  | n + 1, lo, hn => by
    have hn := hn (Nat.succ_pos n)
    have hl : lo < la.length := by omega
    unfold filtNextR
    simp only [lFiltNextR, List.getElem?_eq_getElem hl]
    refine QEx.bind (QEx.itemRefR hra hl) ?_
    refine QEx.bind (QEx.scanR E hE hrb _) ?_
    exact QEx.ite (fun _ => QEx.pure _)
      (fun _ => filtNextR_qex want n (lo + 1) (fun _ => by omega))

theorem filtNext_qex (want : Bool) (it : SliceIt) (hit : it.hi ≤ la.length) :
    QEx (filtNext E a b want it) (lFiltNext E la lb want it) := by
  unfold filtNext lFiltNext
  exact QEx.bind (filtNextR_qex E hE hra hrb want it.len it.lo
    (fun h => by unfold SliceIt.len at *; omega)) (QEx.pure _)

end halves

theorem iterNextR_qex {r : Raw K V} {l : List (K × V)} (hr : Rep r l) (it : SliceIt) (hit : it.hi ≤ l.length) :
    QEx (iterNextR r it : SM K V Q _) (lIterNext l it) := by
  unfold iterNextR lIterNext
  by_cases h : it.lo < it.hi
  · have hl : it.lo < l.length := by omega
    simp only [h, if_true, List.getElem?_eq_getElem hl]
    exact QEx.bind (QEx.itemRefR hr hl) (QEx.pure _)
  · simp only [h, if_false]
    exact QEx.pure _

section next
variable (hE : E.Pure) {a b : Raw K V} {la lb : List (K × V)} (hra : Rep a la) (hrb : Rep b lb)
include hE hra hrb

theorem algFstNext_qex (kind : AlgKind) (it : SliceIt)
    (hit : it.hi ≤ (if kind = .union then lb.length else la.length)) :
    QEx (algFstNext E a b kind it) (lAlgFstNext E la lb kind it) := by
  cases kind <;> simp only [algFstNext, lAlgFstNext]
  · exact QEx.bind (filtNext_qex E hE hra hrb false it (by simpa using hit)) (QEx.pure _)
  · exact QEx.bind (filtNext_qex E hE hra hrb true it (by simpa using hit)) (QEx.pure _)
  · exact QEx.bind (iterNextR_qex hrb it (by simpa using hit)) (QEx.pure _)
  · exact QEx.bind (filtNext_qex E hE hra hrb false it (by simpa using hit)) (QEx.pure _)

theorem algSndNext_qex (kind : AlgKind) (it : SliceIt)
    (hit : it.hi ≤ (if kind = .union then la.length else lb.length)) :
    QEx (algSndNext E a b kind it) (lAlgSndNext E la lb kind it) := by
  cases kind <;> simp only [algSndNext, lAlgSndNext]
  · exact QEx.bind (filtNext_qex E hE hrb hra false it (by simpa using hit)) (QEx.pure _)
  · exact QEx.bind (filtNext_qex E hE hrb hra false it (by simpa using hit)) (QEx.pure _)
  · exact QEx.bind (filtNext_qex E hE hra hrb false it (by simpa using hit)) (QEx.pure _)
  · exact QEx.bind (filtNext_qex E hE hrb hra false it (by simpa using hit)) (QEx.pure _)

theorem algNext_plain_qex (kind : AlgKind) (hk : kind = .difference ∨ kind = .intersection)
    (fst snd : Option SliceIt) (hs : AlgInv la.length lb.length ⟨kind, fst, snd⟩) :
    QEx (algNext E a b ⟨kind, fst, snd⟩) (lAlgNext E la lb ⟨kind, fst, snd⟩) := by
  have hku : kind ≠ .union := by rcases hk with rfl | rfl <;> simp
  cases fst with
  | none => rcases hk with rfl | rfl <;> exact QEx.pure _
  | some it =>
    have hit := hs.fst it rfl
    simp only [hku, if_false] at hit
    have h := algFstNext_qex E hE hra hrb kind it (by simpa [hku] using hit)
    rcases hk with rfl | rfl <;> exact QEx.bind h (QEx.pure _)

theorem algNext_chain_qex (kind : AlgKind) (hk : kind = .union ∨ kind = .symmetric_difference)
    (fst snd : Option SliceIt) (hs : AlgInv la.length lb.length ⟨kind, fst, snd⟩) :
    QEx (algNext E a b ⟨kind, fst, snd⟩) (lAlgNext E la lb ⟨kind, fst, snd⟩) := by
  -- the second half, from a state whose first half did not yield
  have hsnd : ∀ fst' : Option SliceIt,
      QEx (match (generalizing := false) snd with
          | some it => algSndNext E a b kind it >>= fun x =>
              pure (x.1, ({ kind := kind, fst := fst', snd := some x.2 } : AlgIt))
          | none => pure (none, ⟨kind, fst', snd⟩))
        (match (generalizing := false) snd with
          | some it =>
            ((lAlgSndNext E la lb kind it).1,
              ({ kind := kind, fst := fst', snd := some (lAlgSndNext E la lb kind it).2 } : AlgIt))
          | none => (none, ⟨kind, fst', snd⟩)) := by
    intro fst'
    cases snd with
    | none => exact QEx.pure _
    | some it =>
      have hit := hs.snd it rfl
      refine QEx.bind (algSndNext_qex E hE hra hrb kind it hit) ?_
      exact QEx.pure _
  cases fst with
  | none => rcases hk with rfl | rfl <;> exact QEx.bind (QEx.pure _) (hsnd none)
  | some it =>
    -- the first half: `and_then_or_clear`
    have h1 : QEx (algFstNext E a b kind it >>= fun x =>
          (match x.fst with
            | some y => pure (some y, ({ kind := kind, fst := some x.snd, snd := snd } : AlgIt))
            | none => pure (none, ({ kind := kind, fst := none, snd := snd } : AlgIt)) :
            SM K V Q (Option (AlgItem K) × AlgIt)))
        (match (lAlgFstNext E la lb kind it).fst with
          | some y => (some y, ({ kind := kind, fst := some (lAlgFstNext E la lb kind it).snd, snd := snd } : AlgIt))
          | none => (none, ({ kind := kind, fst := none, snd := snd } : AlgIt))) := by
      refine QEx.bind (algFstNext_qex E hE hra hrb kind it (hs.fst it rfl)) ?_
      cases (lAlgFstNext E la lb kind it).fst <;> exact QEx.pure _
    rcases hk with rfl | rfl <;>
    · simp only [lAlgNext]
      refine QEx.bind h1 ?_
      cases (lAlgFstNext E la lb _ it).fst with
      | some x => exact QEx.pure _
      | none => exact hsnd none

theorem algNext_qex (s : AlgIt) (hs : AlgInv la.length lb.length s) :
    QEx (algNext E a b s) (lAlgNext E la lb s) := by
  obtain ⟨kind, fst, snd⟩ := s
  cases kind with
  | difference => exact algNext_plain_qex E hE hra hrb _ (Or.inl rfl) fst snd hs
  | intersection => exact algNext_plain_qex E hE hra hrb _ (Or.inr rfl) fst snd hs
  | union => exact algNext_chain_qex E hE hra hrb _ (Or.inl rfl) fst snd hs
  | symmetric_difference => exact algNext_chain_qex E hE hra hrb _ (Or.inr rfl) fst snd hs

theorem lAlgNext_post (s : AlgIt) (hs : AlgInv la.length lb.length s) :
    NextPost E.keq la lb E.Pure s (lAlgNext E la lb s) :=
  (algNext_qex E hE hra hrb s hs).transfer (algNext_quiet E hra hrb s hs)

end next

theorem algHint_eq (a b : Raw K V) (s : AlgIt) : algHint a b s = lAlgHint a.len b.len s := by
  obtain ⟨kind, fst, snd⟩ := s
  cases kind <;> cases fst <;> cases snd <;> rfl

section script
variable {K Q : Type} (F : Env K Unit Q) (hF : F.Pure) {a b : Raw K Unit} {la lb : List (K × Unit)}
  (hra : Rep a la) (hrb : Rep b lb)

/-- a well-formed iterator state over the two operands, with the bound that makes the model's
    fuel `|a| + |b| + 1` sufficient. -/
def ItOK (na nb : Nat) (it : AlgIt) : Prop := AlgInv na nb it ∧ meas it ≤ na + nb

include hF hra hrb

theorem algRunOut_qex (it : AlgIt) (h : ItOK la.length lb.length it) :
    QEx (algRunOut F a b (a.len + b.len + 1) it) (algRest F.keq la lb it) :=
  QEx.of_quiet (algRunOut_quiet F hra hrb _ it h.1 (by rw [hra.1, hrb.1]; have := h.2; omega))
    (fun _ hr => hr.2.2 hF)

theorem algFold_qex (it : AlgIt) (h : ItOK la.length lb.length it) :
    QEx (algFold F a b it) (algRest F.keq la lb it) :=
  QEx.of_quiet (algFold_quiet F hra hrb it h.1) (fun _ hr => hr.2 hF)

theorem algRunForks_qex : ∀ (forks : List AlgIt), (∀ f ∈ forks, ItOK la.length lb.length f) →
    QEx (algRunForks F a b forks) (forks.map fun f => RV.list ((algRest F.keq la lb f).map algItemRV))
  | [], _ => QEx.pure _
  | f :: fs, h => by
    unfold algRunForks
    refine QEx.bind (algRunOut_qex F hF hra hrb f (h f (by simp))) ?_
    refine QEx.bind (algRunForks_qex fs (fun f' hf' => h f' (by simp [hf']))) ?_
    exact QEx.pure _

theorem algScript_qex (dbg : Bool → K → String) : ∀ (cs : List IterCmd) (it : AlgIt) (forks : List AlgIt),
    ItOK la.length lb.length it → (∀ f ∈ forks, ItOK la.length lb.length f) →
    QEx (algScript F dbg a b cs it forks) (lAlgScript F dbg la lb cs it forks)
  | [], it, forks, _, hf => by
    simp only [algScript, lAlgScript]
    exact algRunForks_qex F hF hra hrb forks hf
  | c :: cs, it, forks, h, hf => by
    cases c with
    | next =>
      simp only [algScript, lAlgScript]
      have hp := lAlgNext_post F hF hra hrb it h.1
      refine QEx.bind (algNext_qex F hF hra hrb it h.1) ?_
      generalize lAlgNext F la lb it = r at hp ⊢
      obtain ⟨o, it'⟩ := r
      have h' : ItOK la.length lb.length it' := ⟨hp.2.1, Nat.le_trans hp.2.2.1 h.2⟩
      exact QEx.bind (algScript_qex dbg cs it' forks h' hf) (QEx.pure _)
    | hint =>
      simp only [algScript, lAlgScript, algHint_eq, hra.1, hrb.1]
      exact QEx.bind (algScript_qex dbg cs it forks h hf) (QEx.pure _)
    | len =>
      simp only [algScript, lAlgScript]
      exact algScript_qex dbg cs it forks h hf
    | debug | debugAlt =>
      simp only [algScript, lAlgScript]
      refine QEx.bind (algRunOut_qex F hF hra hrb it h) ?_
      exact QEx.bind (algScript_qex dbg cs it forks h hf) (QEx.pure _)
    | clone =>
      simp only [algScript, lAlgScript]
      refine algScript_qex dbg cs it (forks ++ [it]) h (fun f hfm => ?_)
      rcases List.mem_append.mp hfm with h1 | h1
      · exact hf f h1
      · simp at h1; subst h1; exact h
    | count | fold =>
      simp only [algScript, lAlgScript]
      refine QEx.bind (algFold_qex F hF hra hrb it h) ?_
      exact QEx.bind (algRunForks_qex F hF hra hrb forks hf) (QEx.pure _)

theorem algOp_qex (dbg : Bool → K → String) (kind : AlgKind) (script : List IterCmd) :
    QEx (algOp F dbg kind a b script)
      (lAlgScript F dbg la lb script (startIt la.length lb.length kind) []) := by
  unfold algOp
  refine QEx.bind (QEx.of_eq (algStart_eq hra hrb kind)) ?_
  exact algScript_qex F hF hra hrb dbg script _ []
    ⟨startIt_inv _ _ kind, startIt_meas _ _ kind⟩ (fun _ h => by simp at h)

theorem is_subset_qex :
    QEx (is_subset F a b) (SetAlg.isSubsetCode F.keq (la.map (·.1)) (lb.map (·.1))) :=
  QEx.of_quiet (is_subset_quiet F hra hrb) (fun _ h => h hF)

theorem is_superset_qex :
    QEx (is_superset F a b) (SetAlg.isSubsetCode F.keq (lb.map (·.1)) (la.map (·.1))) :=
  QEx.of_quiet (is_superset_quiet F hra hrb) (fun _ h => h hF)

theorem is_disjoint_qex :
    QEx (is_disjoint F a b) (SetAlg.isDisjointCode F.keq (la.map (·.1)) (lb.map (·.1))) :=
  QEx.of_quiet (is_disjoint_quiet F hra hrb) (fun _ h => h hF)

end script

end Micromap.ListSys
