/-
Bridge between the L0 triples (stated with `findKey`, the time-independent reading of the
scan) and the list-level dictionary laws of `DictLaws` / `SetAlgLaws` (stated with
`Dict.findIdxP` / `Dict.lookupP` over a Boolean equivalence).
-/
import Micromap.Proofs.Lookup
import Micromap.Proofs.DictLaws

namespace Micromap
open SetAlg Dict
variable {K V Q : Type} (E : Env K V Q)

theorem Env.Lawful.equivB {E : Env K V Q} (hE : E.Lawful) : EquivB E.keq :=
  ⟨hE.refl, hE.symm, hE.trans⟩

theorem Env.Lawful.qequivB {E : Env K V Q} (hE : E.Lawful) : EquivB E.qeq :=
  ⟨hE.qrefl, hE.qsymm, hE.qtrans⟩

theorem Env.Lawful.probeOK {E : Env K V Q} (hE : E.Lawful) (pr : Probe K Q) :
    ProbeOK E.keq (E.hitP pr) := by
  cases pr with
  | key k => exact hE.equivB.probeOK k
  | q q =>
    -- the same fact for `qeq`, pulled back along `borrow`
    have h := hE.qequivB.probeOK q
    exact ⟨fun a b hab => h.congr _ _ (by rw [hE.borrow]; exact hab),
      fun a b ha hb => by rw [← hE.borrow]; exact h.single _ _ ha hb⟩

/-- The stored key is on the left, as in `lookupL`. -/
theorem Env.hitP_key (k : K) : E.hitP (.key k : Probe K Q) = fun a => E.keq a k := rfl

theorem findKey_eq_findIdxP (l : List (K × V)) (pr : Probe K Q) :
    findKey E l pr = findIdxP (E.hitP pr) l := by
  unfold findKey findIdxP
  rw [findFrom_eq_findIdx E l pr l.length 0 (by omega)]
  simp

theorem findKey_some_iff {E : Env K V Q} (hE : E.Lawful) {l : List (K × V)} (hn : NodupKeys E.keq l)
    (pr : Probe K Q) {i} :
    findKey E l pr = some i ↔ ∃ hi : i < l.length, E.hitP pr l[i].1 = true := by
  rw [findKey_eq_findIdxP]
  constructor
  · intro h
    obtain ⟨hi, _, hh⟩ := lookupP_eq_of_findIdxP h
    exact ⟨hi, hh⟩
  · rintro ⟨hi, hh⟩
    exact findIdxP_unique hE.equivB (hE.probeOK pr) hn hi hh

theorem findKey_none_iff {l : List (K × V)} (pr : Probe K Q) :
    findKey E l pr = none ↔ ∀ p, p ∈ l → E.hitP pr p.1 = false := by
  rw [findKey_eq_findIdxP]; exact findIdxP_none_iff

theorem findKey_isSome_eq_memB (l : List (K × V)) (x : K) :
    (findKey E l (.key x)).isSome = memB E.keq x (l.map (·.1)) := by
  rw [findKey_eq_findIdxP]
  unfold findIdxP memB
  rw [List.findIdx?_isSome, List.any_map]
  rfl

theorem hitP_borrow {E : Env K V Q} (hE : E.Lawful) (k : K) :
    E.hitP (.q (E.borrow k) : Probe K Q) = E.hitP (.key k) := by
  funext a
  show E.qeq (E.borrow a) (E.borrow k) = E.keq a k
  exact hE.borrow a k

end Micromap
