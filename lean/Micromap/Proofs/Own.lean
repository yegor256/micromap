/-
An ownership logic for the slot machine: the judgment `ConsAt P w m s inn own pown` says that the
run of `m` from `s` conserves objects — for the weighting `w : Obj → Nat`,

    live slots + passed in + created  =  live slots' + owned result + dropped + leaked

where "live slots" are ALL ghost-live slots below `cap` (stored entries and the unreachable ones at
or beyond `len`), "created" / "dropped" are read off the events the run appends to the world and
"leaked" is what it appends to `World.leaked`.  The judgment is unconditional (no invariant on the
container, any world, any user equality): a run that reaches `ub` satisfies it vacuously, memory
safety is the business of `OpInv`.  `pown` is what the enclosing frames still own when the run
unwinds (`none`: the run unwinds only by an injected panic, and a triple stated for `none` holds
for every `pown`: `ConsAt.of_inj`).  Sequencing is `ConsAt.bind`; `bind_inj`, `bind_some`, `bind_all`,
`bind0`, `bind0_inj`, `map` are its instances for the shapes of first step that occur.
-/
import Micromap.Proofs.Ledger

namespace Micromap.Own
open Micromap Ledger
variable {K V Q : Type}

/-- the objects a trace creates: the results of `clone`. -/
def createdOf : List (Event K V Q) → List (Obj K V)
  | [] => []
  | .cloneK _ b :: t => .k b :: createdOf t
  | .cloneV _ b :: t => .v b :: createdOf t
  | _ :: t => createdOf t

theorem createdOf_append : ∀ (a b : List (Event K V Q)), createdOf (a ++ b) = createdOf a ++ createdOf b
  | [], _ => rfl
  | e :: a, b => by
    cases e <;> simp [createdOf, createdOf_append a b]

theorem createdOf_filter : ∀ (a : List (Event K V Q)), createdOf (a.filter Event.isEff) = createdOf a
  | [] => rfl
  | e :: a => by
    cases e <;> simp [createdOf, Event.isEff, List.filter_cons, createdOf_filter a]

theorem droppedOf_filter : ∀ (a : List (Event K V Q)), droppedOf (a.filter Event.isEff) = droppedOf a
  | [] => rfl
  | e :: a => by
    cases e <;> simp [droppedOf, Event.isEff, List.filter_cons, droppedOf_filter a]

def notClone : Event K V Q → Prop
  | .cloneK _ _ => False
  | .cloneV _ _ => False
  | _ => True

theorem createdOf_notClone : ∀ (ev : List (Event K V Q)), (∀ e ∈ ev, notClone e) → createdOf ev = []
  | [], _ => rfl
  | e :: ev, h => by
    have h1 := h e (List.mem_cons_self ..)
    have h2 := createdOf_notClone ev (fun e' he' => h e' (List.mem_cons_of_mem _ he'))
    cases e <;> simp [createdOf, h2, notClone] at h1 ⊢

/-- a class of events that contains at least everything but the clone results: the events a
    piece of code may append to the world (`notClone` for code that does not clone,
    `fun _ => True` for code that does). -/
class EvP (P : Event K V Q → Prop) : Prop where
  of_notClone : ∀ e, notClone e → P e

instance : EvP (notClone (K := K) (V := V) (Q := Q)) := ⟨fun _ h => h⟩
instance : EvP (fun _ : Event K V Q => True) := ⟨fun _ _ => trivial⟩

/-- `w'` is a later world of the same run: like `WRel`, but with ALL events in between (`ev`, all
    of them in the class `P`) and the objects recorded as leaked in between (`lk`). -/
structure WExt (P : Event K V Q → Prop) (w w' : World K V Q) (ev : List (Event K V Q)) (lk : List (Obj K V)) :
    Prop where
  profile : w'.profile = w.profile
  unw : w'.unwinding = w.unwinding
  inj : w.inject = none → w'.inject = none
  events : w'.events = w.events ++ ev
  leaked : w'.leaked = w.leaked ++ lk
  evP : ∀ e ∈ ev, P e

variable {P : Event K V Q → Prop}

theorem WExt.refl (w : World K V Q) : WExt P w w [] [] := ⟨rfl, rfl, id, by simp, by simp, by simp⟩

theorem WExt.trans {w w' w'' : World K V Q} {e₁ e₂ l₁ l₂} (h₁ : WExt P w w' e₁ l₁) (h₂ : WExt P w' w'' e₂ l₂) :
    WExt P w w'' (e₁ ++ e₂) (l₁ ++ l₂) :=
  ⟨h₂.profile.trans h₁.profile, h₂.unw.trans h₁.unw, fun h => h₂.inj (h₁.inj h),
   by rw [h₂.events, h₁.events, List.append_assoc], by rw [h₂.leaked, h₁.leaked, List.append_assoc],
   fun e he => by
     rcases List.mem_append.mp he with h | h
     · exact h₁.evP e h
     · exact h₂.evP e h⟩

theorem WExt.toWRel {w w' : World K V Q} {ev lk} (h : WExt P w w' ev lk) :
    WRel w w' (ev.filter Event.isEff) :=
  ⟨h.profile, h.unw, h.inj, by simp [World.trace, h.events]⟩

theorem WExt.through_unw {s' s'' : St K V Q} {ev lk} (h : WExt P (s'.setUnw true).w s''.w ev lk) :
    WExt P s'.w (s''.setUnw s'.w.unwinding).w ev lk :=
  ⟨by simpa using h.profile, rfl, fun hi => by simpa using h.inj (by simpa using hi),
   by simpa using h.events, by simpa using h.leaked, h.evP⟩

variable (P) (w : Obj K V → Nat)

def wp (p : K × V) : Nat := w (.k p.1) + w (.v p.2)

def wo : Option (K × V) → Nat
  | none => 0
  | some p => w (.k p.1) + w (.v p.2)

def wov : Option V → Nat
  | none => 0
  | some v => w (.v v)

@[simp] theorem wo_none : wo w (none : Option (K × V)) = 0 := rfl
@[simp] theorem wo_some (p : K × V) : wo w (some p) = w (.k p.1) + w (.v p.2) := rfl
@[simp] theorem wov_none : wov w (none : Option V) = 0 := rfl
@[simp] theorem wov_some (v : V) : wov w (some v) = w (.v v) := rfl
@[simp] theorem wp_def (p : K × V) : wp w p = w (.k p.1) + w (.v p.2) := rfl

/-- weight of all ghost-live slots of a container (below `cap`): the stored entries and the
    unreachable ones at or beyond `len`. -/
def live (r : Raw K V) : Nat := wsum w (liveObjs r r.cap)

theorem wsum_liveObjs_succ (r : Raw K V) (n : Nat) :
    wsum w (liveObjs r (n + 1)) = wsum w (liveObjs r n) + wo w (r.slots n) := by
  simp only [liveObjs, wsum_append]
  cases r.slots n <;> simp

theorem wsum_liveObjs_setSlot (r : Raw K V) (i : Nat) (o : Option (K × V)) : ∀ n,
    wsum w (liveObjs (setSlot r i o) n) + (if i < n then wo w (r.slots i) else 0) =
      wsum w (liveObjs r n) + (if i < n then wo w o else 0)
  | 0 => by simp [liveObjs]
  | n + 1 => by
    have ih := wsum_liveObjs_setSlot r i o n
    rw [wsum_liveObjs_succ, wsum_liveObjs_succ]
    by_cases hin : i = n
    · subst hin
      have hs : (setSlot r i o).slots i = o := by simp [setSlot]
      rw [hs]
      simp only [Nat.lt_irrefl, if_false, Nat.lt_succ_self, if_true] at ih ⊢
      omega
    · have hs : (setSlot r i o).slots n = r.slots n := by simp [setSlot, Ne.symm hin]
      rw [hs]
      by_cases hlt : i < n
      · have : i < n + 1 := by omega
        simp only [hlt, this, if_true] at ih ⊢
        omega
      · have : ¬ i < n + 1 := by omega
        simp only [hlt, this, if_false] at ih ⊢
        omega

theorem live_setSlot {r : Raw K V} {i : Nat} (hi : i < r.cap) (o : Option (K × V)) :
    live w (setSlot r i o) + wo w (r.slots i) = live w r + wo w o := by
  have := wsum_liveObjs_setSlot w r i o r.cap
  simpa [live, setSlot, hi] using this

theorem wsum_liveObjs_congr {r r' : Raw K V} (h : r'.slots = r.slots) : ∀ n,
    liveObjs r' n = liveObjs r n
  | 0 => rfl
  | n + 1 => by simp [liveObjs, wsum_liveObjs_congr h n, h]

@[simp] theorem live_setLen (r : Raw K V) (n : Nat) : live w { r with len := n } = live w r := by
  unfold live
  rw [wsum_liveObjs_congr (r' := { r with len := n }) (r := r) rfl]

theorem liveObjs_new (cap : Nat) : ∀ n, liveObjs (Raw.new cap : Raw K V) n = []
  | 0 => rfl
  | n + 1 => by
    show liveObjs (Raw.new cap : Raw K V) n ++ _ = []
    rw [liveObjs_new cap n]; rfl

@[simp] theorem live_new (cap : Nat) : live w (Raw.new cap : Raw K V) = 0 := by
  unfold live
  rw [liveObjs_new]; rfl

theorem bind_eq_ok {α β : Type} {m : SM K V Q α} {f : α → SM K V Q β} {s s' : St K V Q} {b : β}
    (h : (m >>= f) s = .ok b s') : ∃ a s1, m s = .ok a s1 ∧ f a s1 = .ok b s' := by
  rw [bind_apply] at h
  cases hm : m s with
  | ok a s1 => rw [hm] at h; exact ⟨a, s1, rfl, h⟩
  | panic c s1 => rw [hm] at h; cases h
  | ub => rw [hm] at h; cases h

/-- the balance between two worlds of one run, `l0` / `l1` being the weight of whatever is live
    before / after: `Bal` (one register) is this with the live slots of the register; the balances
    of several registers (`OwnSys.SBal`, `OwnSys.PBal`) are this with their sums. -/
def WBal (P : Event K V Q → Prop) (w : Obj K V → Nat) (w0 w1 : World K V Q) (l0 l1 inn out : Nat) : Prop :=
  ∃ ev lk, WExt P w0 w1 ev lk ∧
    l0 + inn + wsum w (createdOf ev) = l1 + out + wsum w (droppedOf ev) + wsum w lk

def Bal (s s' : St K V Q) (inn out : Nat) : Prop :=
  ∃ ev lk, WExt P s.w s'.w ev lk ∧
    live w s.r + inn + wsum w (createdOf ev) = live w s'.r + out + wsum w (droppedOf ev) + wsum w lk

variable {P} {w}

section wbal
variable {w0 w1 w2 : World K V Q} {l0 l1 i o : Nat}

theorem WBal.refl (w0 : World K V Q) (l n : Nat) : WBal P w w0 w0 l l n n :=
  ⟨[], [], WExt.refl _, by simp [createdOf, droppedOf]⟩

/-- any rearrangement of the four numbers that keeps the difference of the two sides. -/
theorem WBal.of_eq {l0' l1' i' o' : Nat} (h : WBal P w w0 w1 l0 l1 i o) (he : l0' + i' + l1 + o = l0 + i + l1' + o') :
    WBal P w w0 w1 l0' l1' i' o' := by
  obtain ⟨ev, lk, hx, heq⟩ := h
  exact ⟨ev, lk, hx, by omega⟩

theorem WBal.append {a b i' o' : Nat} (h1 : WBal P w w0 w1 l0 l1 i o) (h2 : WBal P w w1 w2 a b i' o') :
    WBal P w w0 w2 (l0 + a) (l1 + b) (i + i') (o + o') := by
  obtain ⟨e1, k1, a1, a2⟩ := h1
  obtain ⟨e2, k2, b1, b2⟩ := h2
  refine ⟨e1 ++ e2, k1 ++ k2, a1.trans b1, ?_⟩
  simp only [createdOf_append, droppedOf_append, wsum_append]
  omega

theorem WBal.trans {l2 o' : Nat} (h1 : WBal P w w0 w1 l0 l1 i o) (h2 : WBal P w w1 w2 l1 l2 o o') :
    WBal P w w0 w2 l0 l2 i o' :=
  (h1.append h2).of_eq (by omega)

/-- a balance of a clean-up, which runs with the unwinding flag set, seen from outside. -/
theorem WBal.through_unw {s' s'' : St K V Q} (h : WBal P w (s'.setUnw true).w s''.w l0 l1 i o) :
    WBal P w s'.w (s''.setUnw s'.w.unwinding).w l0 l1 i o := by
  obtain ⟨ev, lk, hx, heq⟩ := h
  exact ⟨ev, lk, hx.through_unw, heq⟩

theorem WBal.inj_none (h : WBal P w w0 w1 l0 l1 i o) (hn : w0.inject = none) : w1.inject = none := by
  obtain ⟨ev, lk, hw, _⟩ := h
  exact hw.inj hn

theorem WBal.armed (h : WBal P w w0 w1 l0 l1 i o) (ha : w1.inject ≠ none) : w0.inject ≠ none :=
  fun hn => ha (h.inj_none hn)

theorem WBal.toTrue (h : WBal P w w0 w1 l0 l1 i o) : WBal (fun _ => True) w w0 w1 l0 l1 i o := by
  obtain ⟨ev, lk, hx, heq⟩ := h
  exact ⟨ev, lk, ⟨hx.profile, hx.unw, hx.inj, hx.events, hx.leaked, fun _ _ => trivial⟩, heq⟩

end wbal

theorem Bal.refl (s : St K V Q) (n : Nat) : Bal P w s s n n := WBal.refl s.w _ n

theorem Bal.frame {s s' : St K V Q} {i o : Nat} (h : Bal P w s s' i o) (x : Nat) : Bal P w s s' (i + x) (o + x) :=
  WBal.of_eq h (by omega)

theorem Bal.trans {s s1 s2 : St K V Q} {i1 o1 x o2 : Nat} (h1 : Bal P w s s1 i1 o1)
    (h2 : Bal P w s1 s2 (o1 + x) o2) : Bal P w s s2 (i1 + x) o2 :=
  WBal.trans (WBal.of_eq h1 (by omega)) h2

theorem Bal.of_eq {s s' : St K V Q} {i o i' o' : Nat} (h : Bal P w s s' i o) (hi : i = i') (ho : o = o') :
    Bal P w s s' i' o' := by subst hi; subst ho; exact h

/-- `ConsAt P w m s inn own pown`: the run of `m` from `s` conserves objects; it receives objects of
    weight `inn`, its result owns `own a`, and if it unwinds then EITHER the panic is an injected
    one (a user callback panicked; the world was armed) OR the balance is exact and the enclosing
    frames still own `q` where `pown = some q`.  So `pown = none` says: the run unwinds only by an
    injected panic.
    Nothing is claimed after an injected panic.  That is a choice of this logic, not a fact about
    the crate: a balance there would need, at every call of user code, what the frames own at that
    moment, and what the panicking callback had itself created or dropped is not in the model
    (`tick` unwinds before the event of the call is logged).  That such a run is memory safe and
    keeps the invariant is the subject of `OpInv` and of `Props/C04.lean`. -/
def ConsAt (P : Event K V Q → Prop) (w : Obj K V → Nat) {α : Type} (m : SM K V Q α) (s : St K V Q) (inn : Nat) (own : α → Nat)
    (pown : Option Nat) : Prop :=
  match m s with
  | .ok a s' => Bal P w s s' inn (own a)
  | .panic c s' => (c = .inject ∧ s.w.inject ≠ none) ∨ ∃ q, pown = some q ∧ Bal P w s s' inn q
  | .ub => True

def Cons (P : Event K V Q → Prop) (w : Obj K V → Nat) {α : Type} (m : SM K V Q α) (inn : Nat) (own : α → Nat) (pown : Option Nat) : Prop :=
  ∀ s, ConsAt P w m s inn own pown

theorem Bal.armed {s s' : St K V Q} {i o : Nat} (h : Bal P w s s' i o) (ha : s'.w.inject ≠ none) :
    s.w.inject ≠ none :=
  WBal.armed h ha

theorem ConsAt.pure {α : Type} {a : α} {s : St K V Q} {inn : Nat} {own : α → Nat} {pown}
    (h : inn = own a) : ConsAt P w (pure a : SM K V Q α) s inn own pown := by
  subst h; exact Bal.refl s _

theorem ConsAt.bind {α β : Type} {m : SM K V Q α} {f : α → SM K V Q β} {s : St K V Q} {inn : Nat}
    {own : β → Nat} {pown : Option Nat} {i1 : Nat} {o1 : α → Nat} {p1 : Option Nat}
    (h1 : ConsAt P w m s i1 o1 p1) (hi : i1 ≤ inn)
    (hp : ∀ q, p1 = some q → pown = some (q + (inn - i1)))
    (h2 : ∀ a s', m s = .ok a s' → ConsAt P w (f a) s' (o1 a + (inn - i1)) own pown) :
    ConsAt P w (m >>= f) s inn own pown := by
  unfold ConsAt at h1 ⊢
  simp only [bind_apply]
  cases hm : m s with
  | ok a s1 =>
    rw [hm] at h1
    have h2' := h2 a s1 hm
    unfold ConsAt at h2'
    simp only
    cases hf : f a s1 with
    | ok b s2 =>
      rw [hf] at h2'
      exact (Bal.trans h1 h2').of_eq (by omega) rfl
    | panic c s2 =>
      rw [hf] at h2'
      rcases h2' with ⟨hc, ha⟩ | ⟨q, hq, hb⟩
      · exact Or.inl ⟨hc, h1.armed ha⟩
      · exact Or.inr ⟨q, hq, (Bal.trans h1 hb).of_eq (by omega) rfl⟩
    | ub => trivial
  | panic c s1 =>
    rw [hm] at h1
    rcases h1 with hl | ⟨q, hq, hb⟩
    · exact Or.inl hl
    · exact Or.inr ⟨_, hp q hq, (hb.frame (inn - i1)).of_eq (by omega) rfl⟩
  | ub => trivial

theorem ConsAt.congr {α : Type} {m : SM K V Q α} {s : St K V Q} {inn inn' : Nat} {own own' : α → Nat}
    {pown pown' : Option Nat} (h : ConsAt P w m s inn own pown) (hi : inn = inn')
    (ho : ∀ a, own a = own' a) (hp : ∀ q, pown = some q → pown' = some q) :
    ConsAt P w m s inn' own' pown' := by
  subst hi
  unfold ConsAt at h ⊢
  cases hm : m s with
  | ok a s1 => rw [hm] at h; exact h.of_eq rfl (ho a)
  | panic c s1 =>
    rw [hm] at h
    rcases h with hl | ⟨q, hq, hb⟩
    · exact Or.inl hl
    · exact Or.inr ⟨q, hp q hq, hb⟩
  | ub => trivial

theorem ConsAt.of_inj {α : Type} {m : SM K V Q α} {s : St K V Q} {inn : Nat} {own : α → Nat} {pown : Option Nat}
    (h : ConsAt P w m s inn own none) : ConsAt P w m s inn own pown :=
  h.congr rfl (fun _ => rfl) nofun

theorem ConsAt.congr_in {α : Type} {m : SM K V Q α} {s : St K V Q} {inn inn' : Nat} {own : α → Nat}
    {pown : Option Nat} (h : ConsAt P w m s inn own pown) (hi : inn = inn') : ConsAt P w m s inn' own pown :=
  hi ▸ h

theorem ConsAt.bind_inj {α β : Type} {m : SM K V Q α} {f : α → SM K V Q β} {s : St K V Q} {inn : Nat}
    {own : β → Nat} {pown : Option Nat} {i1 : Nat} {o1 : α → Nat}
    (h1 : ConsAt P w m s i1 o1 none) (hi : i1 ≤ inn)
    (h2 : ∀ a s', m s = .ok a s' → ConsAt P w (f a) s' (o1 a + (inn - i1)) own pown) :
    ConsAt P w (m >>= f) s inn own pown :=
  ConsAt.bind h1 hi nofun h2

theorem ConsAt.bind_some {α β : Type} {m : SM K V Q α} {f : α → SM K V Q β} {s : St K V Q} {inn : Nat}
    {own : β → Nat} {i1 q1 q : Nat} {o1 : α → Nat}
    (h1 : ConsAt P w m s i1 o1 (some q1)) (hi : i1 ≤ inn) (hq : q = q1 + (inn - i1))
    (h2 : ∀ a s', m s = .ok a s' → ConsAt P w (f a) s' (o1 a + (inn - i1)) own (some q)) :
    ConsAt P w (m >>= f) s inn own (some q) :=
  ConsAt.bind h1 hi (fun _ h => by cases h; rw [hq]) h2

theorem ConsAt.bind_all {α β : Type} {m : SM K V Q α} {f : α → SM K V Q β} {s : St K V Q} {inn : Nat}
    {own : β → Nat} {pown : Option Nat} {o1 : α → Nat}
    (h1 : ConsAt P w m s inn o1 pown)
    (h2 : ∀ a s', m s = .ok a s' → ConsAt P w (f a) s' (o1 a) own pown) :
    ConsAt P w (m >>= f) s inn own pown :=
  ConsAt.bind h1 (Nat.le_refl _) (fun q h => by rw [h, Nat.sub_self]; rfl)
    (fun a s' hm => by rw [Nat.sub_self]; exact h2 a s' hm)

theorem ConsAt.bind0 {α β : Type} {m : SM K V Q α} {f : α → SM K V Q β} {s : St K V Q} {inn : Nat}
    {own : β → Nat}
    (h1 : ConsAt P w m s 0 (fun _ => 0) (some 0))
    (h2 : ∀ a s', m s = .ok a s' → ConsAt P w (f a) s' inn own (some inn)) :
    ConsAt P w (m >>= f) s inn own (some inn) :=
  ConsAt.bind_some h1 (Nat.zero_le _) (Nat.zero_add _).symm
    (fun a s' hm => by rw [Nat.zero_add]; exact h2 a s' hm)

theorem ConsAt.bind0_inj {α β : Type} {m : SM K V Q α} {f : α → SM K V Q β} {s : St K V Q} {inn : Nat}
    {own : β → Nat} {pown : Option Nat}
    (h1 : ConsAt P w m s 0 (fun _ => 0) none)
    (h2 : ∀ a s', m s = .ok a s' → ConsAt P w (f a) s' inn own pown) :
    ConsAt P w (m >>= f) s inn own pown :=
  ConsAt.bind_inj h1 (Nat.zero_le _) (fun a s' hm => by rw [Nat.zero_add]; exact h2 a s' hm)

theorem ConsAt.map {α β : Type} {m : SM K V Q α} {g : α → β} {s : St K V Q} {inn : Nat}
    {own : β → Nat} {pown : Option Nat} {o1 : α → Nat}
    (h : ConsAt P w m s inn o1 pown) (ho : ∀ a, o1 a = own (g a)) :
    ConsAt P w (m >>= fun a => Pure.pure (g a)) s inn own pown :=
  ConsAt.bind_all h (fun a _ _ => ConsAt.pure (ho a))

theorem ConsAt.frame {α : Type} {m : SM K V Q α} {s : St K V Q} {inn : Nat} {own : α → Nat}
    {pown : Option Nat} (h : ConsAt P w m s inn own pown) (x : Nat) :
    ConsAt P w m s (inn + x) (fun a => own a + x) (pown.map (· + x)) := by
  unfold ConsAt at h ⊢
  cases hm : m s with
  | ok a s1 => rw [hm] at h; exact h.frame x
  | panic c s1 =>
    rw [hm] at h
    rcases h with hl | ⟨q, hq, hb⟩
    · exact Or.inl hl
    · exact Or.inr ⟨q + x, by simp [hq], hb.frame x⟩
  | ub => trivial

theorem ConsAt.framed {α : Type} {m : SM K V Q α} {s : St K V Q} {i : Nat} {o : α → Nat}
    {q : Nat} (h : ConsAt P w m s i o (some q)) (x : Nat) {inn : Nat} {own : α → Nat} {q' : Nat}
    (hi : inn = i + x) (ho : ∀ a, own a = o a + x) (hq : q' = q + x) :
    ConsAt P w m s inn own (some q') :=
  (h.frame x).congr hi.symm (fun a => (ho a).symm) (fun _ h => hq ▸ h)

theorem ConsAt.framed_inj {α : Type} {m : SM K V Q α} {s : St K V Q} {i : Nat} {o : α → Nat}
    (h : ConsAt P w m s i o none) (x : Nat) {inn : Nat} {own : α → Nat} {pown : Option Nat}
    (hi : inn = i + x) (ho : ∀ a, own a = o a + x) : ConsAt P w m s inn own pown :=
  (h.frame x).congr hi.symm (fun a => (ho a).symm) nofun

theorem ConsAt.getS_bind {β : Type} {f : St K V Q → SM K V Q β} {s : St K V Q} {inn own pown}
    (h : ConsAt P w (f s) s inn own pown) : ConsAt P w (Micromap.getS >>= f) s inn own pown := h

theorem ConsAt.ub {α : Type} {s : St K V Q} {inn : Nat} {own : α → Nat} {pown} :
    ConsAt P w (ubM : SM K V Q α) s inn own pown := trivial

theorem ConsAt.throwP {α : Type} {s : St K V Q} {c} {inn : Nat} {own : α → Nat} :
    ConsAt P w (throwP c : SM K V Q α) s inn own (some inn) := Or.inr ⟨inn, rfl, Bal.refl s _⟩

/-- `unwindWith`: the clean-up receives what the frames own when the body unwinds (nothing is
    asked of the clean-up after an injected panic). -/
theorem ConsAt.unwindWith_to {α : Type} {cleanup : SM K V Q Unit} {body : SM K V Q α} {s : St K V Q}
    {inn : Nat} {own : α → Nat} {p0 pown pc : Option Nat}
    (hb : ConsAt P w body s inn own p0)
    (hc : ∀ x, p0 = some x → ∃ q, pown = some q ∧ ∀ s1, ConsAt P w cleanup s1 x (fun _ => q) pc) :
    ConsAt P w (Micromap.unwindWith cleanup body) s inn own pown := by
  unfold ConsAt at hb ⊢
  unfold Micromap.unwindWith
  cases hm : body s with
  | ok a s1 => rw [hm] at hb; exact hb
  | ub => trivial
  | panic c s1 =>
    rw [hm] at hb
    simp only
    cases h2 : cleanup (s1.setUnw true) with
    | ok u s2 =>
      rcases hb with hl | ⟨x, hx, hbal⟩
      · exact Or.inl hl
      · obtain ⟨q, hq, hc⟩ := hc x hx
        have hcl := hc (s1.setUnw true)
        unfold ConsAt at hcl
        rw [h2] at hcl
        have : Bal P w s1 (s2.setUnw s1.w.unwinding) x q := WBal.through_unw hcl
        exact Or.inr ⟨q, hq, by simpa using Bal.trans (x := 0) hbal (by simpa using this)⟩
    | panic c2 s2 => trivial
    | ub => trivial

theorem ConsAt.unwindWith {α : Type} {cleanup : SM K V Q Unit} {body : SM K V Q α} {s : St K V Q}
    {inn : Nat} {own : α → Nat} {p0 : Option Nat} {q : Nat} {pc : Option Nat}
    (hb : ConsAt P w body s inn own p0)
    (hc : ∀ x, p0 = some x → ∀ s1, ConsAt P w cleanup s1 x (fun _ => q) pc) :
    ConsAt P w (Micromap.unwindWith cleanup body) s inn own (some q) :=
  hb.unwindWith_to fun x hx => ⟨q, rfl, hc x hx⟩

theorem ConsAt.guard {α : Type} {cleanup : SM K V Q Unit} {body : SM K V Q α} {s : St K V Q}
    {inn : Nat} {own : α → Nat} {x q : Nat} {pc : Option Nat}
    (hb : ConsAt P w body s inn own (some x)) (hc : Cons P w cleanup x (fun _ => q) pc) :
    ConsAt P w (Micromap.unwindWith cleanup body) s inn own (some q) :=
  ConsAt.unwindWith hb (fun _ hx s1 => by cases hx; exact hc s1)

theorem ConsAt.unwindWith_inj {α : Type} {cleanup : SM K V Q Unit} {body : SM K V Q α} {s : St K V Q}
    {inn : Nat} {own : α → Nat} {pown : Option Nat}
    (hb : ConsAt P w body s inn own none) : ConsAt P w (Micromap.unwindWith cleanup body) s inn own pown :=
  hb.unwindWith_to (pc := none) nofun

theorem ConsAt.panic_benign {α : Type} {m : SM K V Q α} {s : St K V Q} {inn : Nat} {own : α → Nat}
    {pown : Option Nat} (h : ConsAt P w m s inn own pown) (hb : s.w.inject = none) {c s'}
    (hm : m s = .panic c s') : ∃ q, pown = some q ∧ Bal P w s s' inn q := by
  unfold ConsAt at h
  rw [hm] at h
  rcases h with ⟨_, ha⟩ | h
  · exact absurd hb ha
  · exact h

theorem ConsAt.ok_of {α : Type} {m : SM K V Q α} {s : St K V Q} {inn : Nat} {own : α → Nat}
    {pown : Option Nat} (h : ConsAt P w m s inn own pown) {a s'} (hm : m s = .ok a s') :
    Bal P w s s' inn (own a) := by
  unfold ConsAt at h
  rw [hm] at h
  exact h

theorem ConsAt.panic_of {α : Type} {m : SM K V Q α} {s s' : St K V Q} {inn q : Nat}
    {own : α → Nat} {c} (h : ConsAt P w m s inn own (some q)) (hm : m s = .panic c s') :
    (c = .inject ∧ s.w.inject ≠ none) ∨ Bal P w s s' inn q := by
  unfold ConsAt at h
  rw [hm] at h
  rcases h with hl | ⟨_, hq, hb⟩
  · exact Or.inl hl
  · cases hq; exact Or.inr hb

theorem ConsAt.inj_of {α : Type} {m : SM K V Q α} {s s' : St K V Q} {inn : Nat}
    {own : α → Nat} {c} (h : ConsAt P w m s inn own none) (hm : m s = .panic c s') :
    c = .inject ∧ s.w.inject ≠ none := by
  unfold ConsAt at h
  rw [hm] at h
  rcases h with hl | ⟨_, hq, _⟩
  · exact hl
  · cases hq

end Micromap.Own
