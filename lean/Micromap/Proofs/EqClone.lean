/-
Triples of `eq.rs` (`eqLoop`, `mapEq`) and `clone.rs` (`clonePair`, `cloneLoop`, `cloneInto`).
-/
import Micromap.Proofs.Bulk
import Micromap.Proofs.Bridge
import Micromap.Proofs.SetAlgLaws

namespace Micromap.EqClone
open Micromap SetAlg Dict
variable {K V Q : Type} (E : Env K V Q)

/-- value equality as `Map::eq` asks it: the user's `==` when `V` has one, constantly `true`
    for `V = ()` (sets). -/
def veq (x y : V) : Bool := if E.vGlue then E.eqV x y else true

theorem lookupL_eq_lookupP (l : List (K × V)) (k : K) :
    lookupL E.keq l k = (lookupP (E.hitP (.key k : Probe K Q)) l).map (·.2) := rfl

theorem lookupL_of_findKey_some {l : List (K × V)} {k : K} {j}
    (h : findKey E l (.key k) = some j) :
    ∃ hj : j < l.length, lookupL E.keq l k = some l[j].2 := by
  rw [findKey_eq_findIdxP] at h
  obtain ⟨hj, hl, _⟩ := lookupP_eq_of_findIdxP h
  refine ⟨hj, ?_⟩
  rw [lookupL_eq_lookupP (Q := Q), hl]; rfl

theorem lookupL_of_findKey_none {l : List (K × V)} {k : K}
    (h : findKey E l (.key k) = none) : lookupL E.keq l k = none := by
  rw [findKey_eq_findIdxP, ← lookupP_none_iff] at h
  rw [lookupL_eq_lookupP (Q := Q), h]; rfl

/-- the per-entry test of `Map::eq`: `other.get(k) == Some(v)`. -/
def entryOk (lb : List (K × V)) (p : K × V) : Bool :=
  match lookupL E.keq lb p.1 with
  | some v => veq E v p.2
  | none => false

theorem eqLoop_cb {a b : Raw K V} {la lb : List (K × V)} (ha : Rep a la) (hb : Rep b lb) :
    ∀ n i, i + n = la.length →
    CbOk (eqLoop E a b n i) (fun _ => [])
      (fun _ r => E.Pure → r = (la.drop i).all (entryOk E lb))
  | 0, i, h => fun s => CbAt.pure fun _ => by
      rw [List.drop_eq_nil_of_le (by omega : la.length ≤ i)]; rfl
  | n + 1, i, h => fun s => by
    have hlt : i < la.length := by omega
    unfold eqLoop
    refine Sat.bind_ok (ha.itemRefR_ok hlt s) ?_
    show CbAt _ s (fun _ => []) _
    refine ((scanR_cb E hb (.key la[i].1)).at s).bind (t₂ := fun _ => []) fun o s1 _ _ ⟨h3, h4⟩ => ?_
    cases o with
    | none =>
      refine CbAt.pure fun hp => ?_
      rw [List.drop_eq_getElem_cons hlt, List.all_cons]
      simp only [entryOk, lookupL_of_findKey_none E (h4 hp).symm, Bool.false_and]
    | some j =>
      have hj := h3 j rfl
      refine Sat.bind_ok (hb.itemRefR_ok hj s1) ?_
      show CbAt _ s1 (fun _ => []) _
      refine ((eqV_cb E lb[j].2 la[i].2).at s1).bind (t₂ := fun _ => []) fun r s2 _ _ g3 => ?_
      have hentry : E.Pure → entryOk E lb la[i] = r := fun hp => by
        obtain ⟨_, hl⟩ := lookupL_of_findKey_some E (h4 hp).symm
        simp only [entryOk, hl, veq]
        exact g3.symm
      cases r with
      | true =>
        refine ((eqLoop_cb ha hb n (i + 1) (by omega)).at s2).mono (fun _ _ => rfl) fun r' k3 hp => ?_
        rw [List.drop_eq_getElem_cons hlt, List.all_cons, hentry hp, k3 hp]; rfl
      | false =>
        refine CbAt.pure fun hp => ?_
        rw [List.drop_eq_getElem_cons hlt, List.all_cons, hentry hp]; rfl

/-- `Map::eq`: framed, effect-free, unwinds only by injection; under a pure oracle it is
    `mapEqCode` of the two represented lists. -/
theorem mapEq_cb {a b : Raw K V} {la lb : List (K × V)} (ha : Rep a la) (hb : Rep b lb) :
    CbOk (mapEq E a b) (fun _ => [])
      (fun _ r => E.Pure → r = mapEqCode E.keq (veq E) la lb) := by
  intro s
  unfold mapEq mapEqCode
  rw [ha.1, hb.1]
  by_cases hlen : la.length = lb.length
  · rw [if_pos (by simpa using hlen), if_pos (ha.1 ▸ ha.len_le_cap : la.length ≤ a.cap)]
    refine ((eqLoop_cb E ha hb la.length 0 (by omega)).at s).mono (fun _ _ => rfl) fun r g3 hp => ?_
    rw [g3 hp, List.drop_zero, hlen, beq_self_eq_true, Bool.true_and]
    rfl
  · rw [if_neg (by simpa using hlen)]
    exact CbAt.pure fun _ => by rw [beq_eq_false_iff_ne.mpr hlen]; rfl

/-- the shape shared by the user's `K::clone` and `V::clone`. -/
theorem freshClone_cb {α : Type} (mk : Nat → α) (ev : α → Event K V Q) (hev : ∀ a, (ev a).isEff = true) :
    CbOk (do
        tick
        let s ← getS
        setS { s with w := { s.w with nextId := s.w.nextId + 1 } }
        logE (ev (mk s.w.nextId))
        pure (mk s.w.nextId) : SM K V Q α)
      (fun a => [ev a]) (fun _ a => ∃ n, a = mk n) := by
  intro s
  refine Sat.cb tick_cb ?_ ?_
  · intro _ s1 h1 h2 _
    refine Sat.getS_bind ?_
    refine Sat.bind (Sat.setS (Q := fun _ s' => s' = { s1 with w := { s1.w with nextId := s1.w.nextId + 1 } }) rfl) ?_
    rintro _ _ rfl
    have hmid : WRel s.w { s1.w with nextId := s1.w.nextId + 1 } [] :=
      ⟨h2.profile, h2.unw, h2.inj, h2.trace⟩
    refine Sat.cb (logE_cb _) ?_ ?_
    · intro _ s2 g1 g2 _
      rw [hev] at g2
      exact Sat.pure ⟨g1.trans h1, hmid.trans g2, _, rfl⟩
    · intro s2 tr' g1 g2 g3 g4
      exact ⟨g1.trans h1, (InjPanic.of_cb g2 g3 g4).after hmid⟩
  · intro s' tr' h1 h2 h3 h4
    exact ⟨h1, InjPanic.of_cb h2 h3 h4⟩

theorem cloneK_cb (k : K) :
    CbOk (cloneK E k) (fun k' => [.cloneK k k']) (fun _ k' => ∃ n, k' = E.clK n k) :=
  freshClone_cb (E.clK · k) (.cloneK k) (fun _ => rfl)

/-- the effect of cloning a value: nothing for `V = ()`. -/
def cloneVTr (v v' : V) : List (Event K V Q) := if E.vGlue then [.cloneV v v'] else []

/-- `v'` is what `V::clone` returns for `v` (`v` itself for `V = ()`). -/
def IsCloneV (v v' : V) : Prop := if E.vGlue then ∃ n, v' = E.clV n v else v' = v

theorem cloneV_cb (v : V) :
    CbOk (cloneV E v) (fun v' => cloneVTr E v v') (fun _ v' => IsCloneV E v v') := by
  unfold cloneV cloneVTr IsCloneV
  split
  · exact freshClone_cb (E.clV · v) (.cloneV v) (fun _ => rfl)
  · exact (CbOk.pure v).mono (fun _ => rfl) (fun _ _ h => h)

/-- `p'` is a clone of the pair `p`: key cloned by the user's `K::clone`, value by `V::clone`. -/
def IsCloneOf (p p' : K × V) : Prop := (∃ n, p'.1 = E.clK n p.1) ∧ IsCloneV E p.2 p'.2

def clonePairTr (p p' : K × V) : List (Event K V Q) := .cloneK p.1 p'.1 :: cloneVTr E p.2 p'.2

/-- `(K, V)::clone`: if the value's clone unwinds the fresh key is dropped, so the triple is still
    that of a callback. -/
theorem clonePair_cb (p : K × V) :
    CbOk (clonePair E p) (fun p' => clonePairTr E p p') (fun _ p' => IsCloneOf E p p') := by
  intro s
  unfold clonePair
  refine Sat.cb (cloneK_cb E p.1) ?_ ?_
  · intro k' s1 h1 h2 h3
    refine Sat.cb (CbOk.unwindWith (dropK_cb k') (cloneV_cb E p.2)) ?_ ?_
    · intro v' s2 g1 g2 g3
      exact Sat.pure ⟨g1.trans h1, by simpa [clonePairTr] using h2.trans g2, h3, g3⟩
    · intro s2 tr' g1 g2 g3 g4
      exact ⟨g1.trans h1, (InjPanic.of_cb g2 g3 g4).after h2⟩
  · intro s' tr' h1 h2 h3 h4
    exact ⟨h1, InjPanic.of_cb h2 h3 h4⟩

def ClonesOf : List (K × V) → List (K × V) → Prop
  | [], [] => True
  | p :: l, p' :: l' => IsCloneOf E p p' ∧ ClonesOf l l'
  | _, _ => False

/-- the effects of cloning `l` into `l'` slot by slot: per entry one `cloneK src dst`, then
    (when `V` is not `()`) one `cloneV src dst`. -/
def cloneTrace (l l' : List (K × V)) : List (Event K V Q) :=
  (l.zip l').flatMap fun pp => clonePairTr E pp.1 pp.2

theorem cloneTrace_cons (p p' : K × V) (l l' : List (K × V)) :
    cloneTrace E (p :: l) (p' :: l') = clonePairTr E p p' ++ cloneTrace E l l' := by
  simp [cloneTrace]

theorem ClonesOf.length_eq {E : Env K V Q} : ∀ {l l' : List (K × V)}, ClonesOf E l l' → l'.length = l.length
  | [], [], _ => rfl
  | _ :: _, _ :: _, h => congrArg (· + 1) (ClonesOf.length_eq h.2)
  | [], _ :: _, h => h.elim
  | _ :: _, [], h => h.elim

theorem ClonesOf.get {E : Env K V Q} : ∀ {l l' : List (K × V)}, ClonesOf E l l' →
    ∀ i (h : i < l.length) (h' : i < l'.length), IsCloneOf E l[i] l'[i]
  | [], [], _, i, h, _ => absurd h (Nat.not_lt_zero i)
  | p :: l, p' :: l', hc, 0, _, _ => hc.1
  | p :: l, p' :: l', hc, i + 1, h, h' =>
    ClonesOf.get (l := l) (l' := l') hc.2 i (Nat.lt_of_succ_lt_succ h) (Nat.lt_of_succ_lt_succ h')
  | [], _ :: _, h, _, _, _ => h.elim
  | _ :: _, [], h, _, _, _ => h.elim

/-- the local under construction: it holds exactly `l` and every other slot is dead. -/
def Fresh (r : Raw K V) (l : List (K × V)) : Prop := Rep r l ∧ ∀ j, l.length ≤ j → r.slots j = none

theorem Fresh.new (cap : Nat) : Fresh (Raw.new cap : Raw K V) [] := ⟨Rep.new cap, fun _ _ => rfl⟩

theorem Fresh.push {r : Raw K V} {lp : List (K × V)} (hf : Fresh r lp) (hc : lp.length < r.cap)
    (p : K × V) :
    Fresh ({ setSlot r lp.length (some p) with len := lp.length + 1 } : Raw K V) (lp ++ [p]) := by
  refine ⟨hf.1.push hc p, fun j hj => ?_⟩
  simp only [List.length_append, List.length_singleton] at hj
  show (setSlot r lp.length (some p)).slots j = none
  rw [setSlot_other _ _ (by omega)]
  exact hf.2 j (by omega)

/-- the loop of `clone` as of the crate's `fix: clone() publishes len slot by slot`.  Invariant: after `i` rounds
    the local holds the clones of the first `i` source entries and `len = i`. -/
theorem cloneLoop_sat {src : Raw K V} {l : List (K × V)} (hsrc : Rep src l) :
    ∀ (n : Nat) (s : St K V Q) (lp : List (K × V)), Fresh s.r lp → lp.length + n = l.length →
      l.length ≤ s.r.cap →
    Sat (cloneLoop E src n lp.length) s
      (fun _ s' => s'.r.cap = s.r.cap ∧ ∃ l', Fresh s'.r (lp ++ l') ∧ ClonesOf E (l.drop lp.length) l' ∧
        WRel s.w s'.w (cloneTrace E (l.drop lp.length) l'))
      (fun c s' => s'.r.cap = s.r.cap ∧ InjPanic s s' c ∧ ∃ lq, Fresh s'.r lq) := by
  intro n
  induction n with
  | zero =>
    intro s lp hf hn _
    have : l.drop lp.length = [] := List.drop_eq_nil_of_le (by omega)
    rw [this]
    exact Sat.pure ⟨rfl, [], by simpa using hf, trivial, by simpa [cloneTrace] using WRel.refl _⟩
  | succ n ih =>
    intro s lp hf hn hcap
    have hlt : lp.length < l.length := by omega
    have hdrop : l.drop lp.length = l[lp.length] :: l.drop (lp.length + 1) :=
      List.drop_eq_getElem_cons hlt
    unfold cloneLoop
    refine Sat.getCap_bind ?_
    rw [if_pos (by omega : lp.length < s.r.cap)]
    refine Sat.bind_ok (hsrc.itemRefR_ok hlt s) ?_
    refine Sat.cb (clonePair_cb E l[lp.length]) ?_ ?_
    · intro p' s1 h1 h2 h3
      refine Sat.bind (itemWrite_sat p' (by rw [h1]; omega)) ?_
      intro _ s2 ⟨g1, g2⟩
      refine Sat.bind_ok (m := modS _) rfl ?_
      have hf2 : Fresh ({ s2.r with len := lp.length + 1 } : Raw K V) (lp ++ [p']) := by
        rw [g1, h1]; exact hf.push (by omega) p'
      have hlen2 : (lp ++ [p']).length = lp.length + 1 := by simp
      have hcap2 : s2.r.cap = s.r.cap := by rw [g1, h1]; rfl
      have ih := ih { s2 with r := { s2.r with len := lp.length + 1 } } (lp ++ [p']) hf2
        (by rw [hlen2]; omega) (by show l.length ≤ s2.r.cap; rw [hcap2]; exact hcap)
      rw [hlen2] at ih
      refine Sat.mono ih ?_ ?_
      · intro _ s3 ⟨k1, l'', k2, k3, k4⟩
        refine ⟨k1.trans hcap2, p' :: l'', by simpa using k2, ?_, ?_⟩
        · rw [hdrop]; exact ⟨h3, k3⟩
        · rw [hdrop, cloneTrace_cons]
          exact (h2.trans g2).trans' k4 (by simp)
      · intro c s3 ⟨k1, k2, k3⟩
        exact ⟨k1.trans hcap2, k2.after (h2.trans g2), k3⟩
    · intro s1 tr' h1 h2 h3 h4
      exact ⟨by rw [h1], InjPanic.of_cb h2 h3 h4, lp, h1 ▸ hf⟩

/-- every live slot of the local has been dropped: what is left of a partially built container
    after the clean-up of an unwinding constructor (`len` is stale, no slot is live). -/
def Dropped (r : Raw K V) (lq : List (K × V)) : Prop :=
  r.len = lq.length ∧ ∀ j, j < lq.length → r.slots j = none

/-- `Drop for Map` (as `dropMap_sat`, additionally: `len` and `cap` are not written). -/
theorem dropMap_sat' {s : St K V Q} {l : List (K × V)} (hr : Rep s.r l) :
    Sat (dropMap E) s
      (fun _ s' => s'.r.cap = s.r.cap ∧ s'.r.len = s.r.len ∧ (∀ j, j < l.length → s'.r.slots j = none) ∧
        (∀ j, l.length ≤ j → s'.r.slots j = s.r.slots j) ∧ WRel s.w s'.w (dropTrace E l))
      (fun c s' => s'.r.cap = s.r.cap ∧ InjPanic s s' c) := by
  unfold dropMap
  refine Sat.getLen_bind ?_
  rw [hr.1]
  refine Sat.mono (dropRange_sat E l 0 s (hr.slots_at) (by simpa using hr.2.1)) ?_ ?_
  · intro _ s' ⟨g1, g2, g3, g4, g5⟩
    exact ⟨g2, g1.trans hr.1, fun j hj => g4 j (Nat.zero_le _) (by simpa using hj),
      fun j hj => g3 j (Or.inr (by simpa using hj)), g5⟩
  · intro c s' ⟨_, g2, _, g4⟩
    exact ⟨g2, g4⟩

/-- the clean-up of an unwinding constructor: the local is dropped in unwinding mode, which
    cannot fail. -/
theorem cleanup_dropMap {s' : St K V Q} {lq : List (K × V)} (hr : Rep s'.r lq) :
    Sat (dropMap E) (s'.setUnw true)
      (fun _ s'' => (s''.setUnw s'.w.unwinding).r.cap = s'.r.cap ∧
        Dropped (s''.setUnw s'.w.unwinding).r lq ∧
        (∀ j, lq.length ≤ j → (s''.setUnw s'.w.unwinding).r.slots j = s'.r.slots j) ∧
        WRel s'.w (s''.setUnw s'.w.unwinding).w (dropTrace E lq))
      (fun _ _ => False) := by
  have hrq : Rep (s'.setUnw true).r lq := hr
  refine Sat.mono (dropMap_sat' E hrq) ?_ ?_
  · intro _ s'' ⟨g1, g2, g3, g4, g5⟩
    refine ⟨by simpa using g1, ⟨?_, fun j hj => by simpa using g3 j hj⟩,
      fun j hj => by simpa using g4 j hj, g5.through_unw⟩
    simp only [setUnw_r] at g2 ⊢
    rw [g2]; exact hr.1
  · intro c' s'' ⟨_, g3⟩
    have := g3.2.2.1
    simp at this

/-- `Clone::clone` into a fresh local of the source's capacity.  Normal return: the local holds
    an element-wise clone of the source, made by one `cloneK` (and one `cloneV`) per entry in slot
    order.  Unwinding (only by an injected panic of a user `clone`): the partially built local has
    been dropped — every slot is dead and the drop effects of what it held come last. -/
theorem cloneInto_sat {src : Raw K V} {l : List (K × V)} (hsrc : Rep src l) {s : St K V Q}
    (hf : Fresh s.r []) (hcap : s.r.cap = src.cap) :
    Sat (cloneInto E src) s
      (fun _ s' => s'.r.cap = src.cap ∧ ∃ l', Fresh s'.r l' ∧ ClonesOf E l l' ∧
        WRel s.w s'.w (cloneTrace E l l'))
      (fun c s' => s'.r.cap = src.cap ∧ InjPanic s s' c ∧ (∀ j, s'.r.slots j = none) ∧
        ∃ lq tr, Dropped s'.r lq ∧ WRel s.w s'.w (tr ++ dropTrace E lq)) := by
  unfold cloneInto
  have hle : src.len ≤ src.cap := hsrc.1 ▸ hsrc.2.1
  rw [if_pos hle, hsrc.1]
  refine Sat.unwindWith (P₀ := fun c s' => s'.r.cap = s.r.cap ∧ InjPanic s s' c ∧ ∃ lq, Fresh s'.r lq) ?_ ?_
  · have := cloneLoop_sat E hsrc l.length s [] hf (by simp) (by rw [hcap]; exact hsrc.2.1)
    refine Sat.mono this ?_ (fun _ _ h => h)
    intro _ s' ⟨h1, l', h2, h3, h4⟩
    exact ⟨h1.trans hcap, l', by simpa using h2, by simpa using h3, by simpa using h4⟩
  · intro c s' ⟨h1, h2, lq, h3⟩
    refine Sat.mono (cleanup_dropMap E h3.1) ?_ (fun _ _ h => h)
    intro _ s'' ⟨g1, g2, g3, hw⟩
    obtain ⟨hc, hi, hu, tr', hw'⟩ := h2
    refine ⟨by rw [g1, h1, hcap], ⟨hc, hi, hu, _, hw'.trans hw⟩, fun j => ?_, lq, tr', g2, hw'.trans hw⟩
    by_cases hj : j < lq.length
    · exact g2.2 j hj
    · rw [g3 j (by omega)]; exact h3.2 j (by omega)

theorem cloneInto_benign {src : Raw K V} {l : List (K × V)} (hsrc : Rep src l) {s : St K V Q}
    (hs : s.r = Raw.new src.cap) (hw : Benign s.w) :
    ∃ s' l', cloneInto E src s = .ok () s' ∧ s'.r.cap = src.cap ∧ Fresh s'.r l' ∧ ClonesOf E l l' ∧
      WRel s.w s'.w (cloneTrace E l l') := by
  obtain ⟨_, s', h1, h2, l', h3⟩ :=
    (cloneInto_sat E hsrc (hs ▸ Fresh.new _) (by rw [hs]; rfl)).must_return
      (fun _ _ h => h.2.1.not_benign hw)
  exact ⟨s', l', h1, h2, h3⟩

theorem ClonesOf.keq_get {E : Env K V Q} (hk : ∀ n k, E.keq (E.clK n k) k = true)
    {l l' : List (K × V)} (hc : ClonesOf E l l') {i} (h : i < l.length) (h' : i < l'.length) :
    E.keq l'[i].1 l[i].1 = true := by
  obtain ⟨⟨n, hn⟩, _⟩ := hc.get i h h'
  rw [hn]; exact hk n _

/-- a test that every user clone of `v` passes is passed by what `V::clone` returns for `v`
    (read as `true` for `V = ()`, like `veq`). -/
theorem IsCloneV.test_true {E : Env K V Q} {v v' : V} (h : IsCloneV E v v') (f : V → Bool)
    (hf : ∀ n, f (E.clV n v) = true) : (if E.vGlue then f v' else true) = true := by
  unfold IsCloneV at h
  split
  · rename_i hg
    rw [if_pos hg] at h
    obtain ⟨n, rfl⟩ := h
    exact hf n
  · rfl

theorem ClonesOf.nodupKeys {E : Env K V Q} (hE : E.Lawful) (hk : ∀ n k, E.keq (E.clK n k) k = true)
    {l l' : List (K × V)} (hc : ClonesOf E l l') (hn : NodupKeys E.keq l) : NodupKeys E.keq l' := by
  have hlen := hc.length_eq
  rw [nodupKeys_iff_getElem hE.equivB] at hn ⊢
  intro i j hi hj hij
  have hi' : i < l.length := hlen ▸ hi
  have hj' : j < l.length := hlen ▸ hj
  cases hc' : E.keq l'[i].1 l'[j].1 with
  | false => rfl
  | true =>
    have h1 : E.keq l[i].1 l'[i].1 = true := by rw [hE.symm]; exact hc.keq_get hk hi' hi
    have h2 := hc.keq_get hk hj' hj
    have := hE.trans _ _ _ (hE.trans _ _ _ h1 hc') h2
    rw [hn i j hi' hj' hij] at this
    cases this

/-- `original == clone`: provided a cloned key / value compares equal to its source. -/
theorem mapEqCode_clone {E : Env K V Q} (hE : E.Lawful) (hk : ∀ n k, E.keq (E.clK n k) k = true)
    (hv : ∀ n v, E.eqV (E.clV n v) v = true) {l l' : List (K × V)} (hc : ClonesOf E l l')
    (hn : NodupKeys E.keq l) : mapEqCode E.keq (veq E) l l' = true := by
  have hlen := hc.length_eq
  have hn' := hc.nodupKeys hE hk hn
  rw [mapEqCode_eq_true]
  refine ⟨hlen.symm, fun p hp => ?_⟩
  obtain ⟨i, hi, rfl⟩ := List.mem_iff_getElem.1 hp
  have hi' : i < l'.length := hlen ▸ hi
  refine ⟨l'[i].2, lookupL_some_intro hE.equivB l' hn' l'[i] (List.getElem_mem hi') _
    (hc.keq_get hk hi hi'), (hc.get i hi hi').2.test_true (E.eqV · l[i].2) (hv · _)⟩

/-- `clone == original`. -/
theorem mapEqCode_clone' {E : Env K V Q} (hE : E.Lawful) (hk : ∀ n k, E.keq (E.clK n k) k = true)
    (hv : ∀ n v, E.eqV v (E.clV n v) = true) {l l' : List (K × V)} (hc : ClonesOf E l l')
    (hn : NodupKeys E.keq l) : mapEqCode E.keq (veq E) l' l = true := by
  have hlen := hc.length_eq
  rw [mapEqCode_eq_true]
  refine ⟨hlen, fun p hp => ?_⟩
  obtain ⟨i, hi', rfl⟩ := List.mem_iff_getElem.1 hp
  have hi : i < l.length := hlen ▸ hi'
  refine ⟨l[i].2, lookupL_some_intro hE.equivB l hn l[i] (List.getElem_mem hi) _ ?_,
    (hc.get i hi hi').2.test_true (E.eqV l[i].2 ·) (hv · _)⟩
  rw [hE.symm]; exact hc.keq_get hk hi hi'

end Micromap.EqClone
