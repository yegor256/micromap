/-
Triples of `from.rs` / `extend`: the loop `for (k, v) in iter { m.insert(k, v); }`
(`extendLoop`, `from_iter`) against the list-level fold of single inserts.
-/
import Micromap.Proofs.EqClone
import Micromap.Proofs.Benign

namespace Micromap.FromIter
open Micromap SetAlg Dict EqClone
variable {K V Q : Type} (E : Env K V Q)

/-- the list `Map::insert(k, v)` leaves behind: when the scan finds the key at slot `i` the
    value is overwritten in place and the stored key object is kept; otherwise `(k, v)` is
    appended. -/
def insertL (l : List (K × V)) (k : K) (v : V) : List (K × V) :=
  match findKey E l (.key k) with
  | some i => l.set i ((l[i]?.map (·.1)).getD k, v)
  | none => l ++ [(k, v)]

def foldInsert (l : List (K × V)) (xs : List (K × V)) : List (K × V) :=
  xs.foldl (fun acc p => insertL E acc p.1 p.2) l

/-- the effects of one `m.insert(k, v);` statement that succeeds: for a repeated key the
    supplied key object and then the displaced old value are dropped; nothing for a new key. -/
def itemTrace (l : List (K × V)) (k : K) (_v : V) : List (Event K V Q) :=
  match findKey E l (.key k) with
  | some i =>
    match l[i]? with
    | some p => .dropK k :: dropVTr E p.2
    | none => [.dropK k]
  | none => []

/-- one `next` of an instrumented source. -/
def pullTr (pulls : Bool) : List (Event K V Q) := if pulls then [.pull] else []

/-- the effects of consuming the items `xs` (without the final `next` that returns `None`). -/
def itemsTrace (pulls : Bool) : List (K × V) → List (K × V) → List (Event K V Q)
  | _, [] => []
  | l, (k, v) :: rest => pullTr pulls ++ (itemTrace E l k v ++ itemsTrace pulls (insertL E l k v) rest)

/-- the effects of a complete `extend` / `from_iter`: the items, then the final `next`. -/
def extendTrace (pulls : Bool) (l xs : List (K × V)) : List (Event K V Q) :=
  itemsTrace E pulls l xs ++ pullTr pulls

/-- position of the first surplus item: the first item whose key is absent while the container
    (of capacity `cap`) is full. -/
def overflowAt (cap : Nat) : List (K × V) → List (K × V) → Option Nat
  | _, [] => none
  | l, (k, v) :: rest =>
    if findKey E l (.key k) = none ∧ cap ≤ l.length then some 0
    else (overflowAt cap (insertL E l k v) rest).map (· + 1)

theorem foldInsert_cons (l : List (K × V)) (k : K) (v : V) (rest : List (K × V)) :
    foldInsert E l ((k, v) :: rest) = foldInsert E (insertL E l k v) rest := rfl

theorem insertL_found {l : List (K × V)} {k : K} {i} (v : V) (h : findKey E l (.key k) = some i)
    (hi : i < l.length) : insertL E l k v = l.set i (l[i].1, v) := by
  unfold insertL; rw [h]; simp [List.getElem?_eq_getElem hi]

theorem insertL_absent {l : List (K × V)} {k : K} (v : V) (h : findKey E l (.key k) = none) :
    insertL E l k v = l ++ [(k, v)] := by
  unfold insertL; rw [h]

theorem itemTrace_found {l : List (K × V)} {k : K} {i} (v : V) (h : findKey E l (.key k) = some i)
    (hi : i < l.length) : itemTrace E l k v = (.dropK k :: dropVTr E l[i].2 : List (Event K V Q)) := by
  unfold itemTrace; rw [h]; simp [List.getElem?_eq_getElem hi]

theorem itemTrace_absent {l : List (K × V)} {k : K} (v : V) (h : findKey E l (.key k) = none) :
    itemTrace E l k v = ([] : List (Event K V Q)) := by
  unfold itemTrace; rw [h]

theorem dropList_cb : ∀ ps : List (K × V),
    CbOk (dropList E ps) (fun _ => dropTrace E ps) (fun _ _ => True)
  | [] => (CbOk.pure ()).mono (fun _ => rfl) (fun _ _ _ => trivial)
  | p :: rest => by
    unfold dropList
    have := CbOk.seq (CbOk.unwindWith (dropList_cb rest) (dropPair_cb E p)) (fun _ => dropList_cb rest)
    exact this.mono (fun _ => by simp [dropTrace]) (fun _ _ h => h)

/-- a later state of a run that may have rebuilt the container: same capacity, still a
    container, the world moved on.  Which list it holds is left open: with an arbitrary `==` and an
    injected panic anywhere inside an `insert` the contents are not a function of the items. -/
def Kept (s s' : St K V Q) : Prop :=
  s'.r.cap = s.r.cap ∧ (∃ l, Rep s'.r l) ∧ ∃ tr, WRel s.w s'.w tr

theorem Kept.trans {s s1 s2 : St K V Q} (h1 : Kept s s1) (h2 : Kept s1 s2) : Kept s s2 :=
  let ⟨_, a⟩ := h1.2.2; let ⟨_, b⟩ := h2.2.2; ⟨h2.1.trans h1.1, h2.2.1, _, a.trans b⟩

/-- what the loop and each of its parts guarantee whatever the user code does: `Kept`, whether
    the part returns or unwinds, and it unwinds only by an injected panic or by the container's
    overflow check. -/
def OpKept (m : SM K V Q α) : Prop :=
  ∀ s, (∃ l, Rep s.r l) →
    Sat m s (fun _ => Kept s) (fun c s' => Kept s s' ∧ (InjPanic s s' c ∨ OverflowPanic s c))

theorem OpKept.bind {m : SM K V Q α} {f : α → SM K V Q β} (hm : OpKept m) (hf : ∀ a, OpKept (f a)) :
    OpKept (m >>= f) :=
  fun s hs => Sat.bind (hm s hs) fun a s1 h1 =>
    Sat.mono (hf a s1 h1.2.1) (fun _ _ => h1.trans) fun _ _ ⟨h2, hc⟩ =>
      let ⟨_, hw⟩ := h1.2.2
      ⟨h1.trans h2, hc.imp (InjPanic.after hw) (OverflowPanic.after hw)⟩

theorem OpKept.of_cb {m : SM K V Q α} {tr Qv} (h : CbOk m tr Qv) : OpKept m :=
  fun s hs => Sat.mono (h.at s) (fun _ _ ⟨h1, h2, _⟩ => ⟨by rw [h1], h1 ▸ hs, _, h2⟩)
    fun _ _ ⟨h1, h2⟩ => ⟨⟨by rw [h1], h1 ▸ hs, h2.2.2.2⟩, .inl h2⟩

theorem OpKept.unwindWith {c : SM K V Q Unit} {body : SM K V Q α} {tc Qc} (hc : CbOk c tc Qc)
    (hb : OpKept body) : OpKept (Micromap.unwindWith c body) :=
  fun s hs => Sat.unwindWith_cb hc (hb s hs) fun _ _ _ ⟨⟨h1, h2, _, hw⟩, hp⟩ g1 g2 =>
    ⟨⟨by rw [g1, h1], g1 ▸ h2, _, hw.trans g2⟩, hp.imp (InjPanic.extend · g2) id⟩

theorem opKept_insert (k : K) (v : V) : OpKept (insert E k v) := by
  intro s ⟨l, hr⟩
  refine Sat.mono (insert_sat E hr k v) ?_ ?_
  · rintro _ s' ⟨hc, ⟨_, _, _, hrep, hw, _⟩ | ⟨_, _, hrep, hw, _⟩⟩ <;> exact ⟨hc, ⟨_, hrep⟩, _, hw⟩
  · rintro c s' ⟨hc, ⟨hi, l', hl', _⟩ | ⟨hs, ho, _, _, hw⟩⟩
    · exact ⟨⟨hc, ⟨l', hl'⟩, hi.2.2.2⟩, .inl hi⟩
    · exact ⟨⟨hc, ⟨l, hs ▸ hr⟩, _, hw⟩, .inr ho⟩

/-- the `do` block of `extendLoop` shares its continuation through a join point. -/
theorem extendLoop_cons (pulls : Bool) (k : K) (v : V) (rest : List (K × V)) :
    extendLoop E pulls ((k, v) :: rest) =
      ((if pulls then Micromap.unwindWith (dropList E ((k, v) :: rest)) pullSrc else pure ()) >>= fun _ =>
        Micromap.unwindWith (dropList E rest) (insert E k v) >>= fun o =>
          match o with
          | some old => Micromap.unwindWith (dropList E rest) (dropV E old) >>= fun _ =>
              extendLoop E pulls rest
          | none => extendLoop E pulls rest) := by
  conv => lhs; unfold extendLoop
  cases pulls <;> rfl

/-- the loop `for (k, v) in iter { m.insert(k, v); }` for any oracle and injection.  On unwinding
    the rest of the source has been dropped by the loop itself (`dropList`). -/
theorem extendLoop_sat (pulls : Bool) (xs : List (K × V)) : OpKept (extendLoop E pulls xs) := by
  induction xs with
  | nil =>
    unfold extendLoop
    split
    · exact .of_cb pullSrc_cb
    · exact .of_cb (CbOk.pure ())
  | cons p rest ih =>
    rw [extendLoop_cons]
    refine .bind ?_ fun _ => .bind (.unwindWith (dropList_cb E rest) (opKept_insert E _ _)) fun o => ?_
    · split
      · exact .unwindWith (dropList_cb E _) (.of_cb pullSrc_cb)
      · exact .of_cb (CbOk.pure ())
    · cases o with
      | none => exact ih
      | some old => exact .bind (.unwindWith (dropList_cb E rest) (.of_cb (dropV_cb E old))) fun _ => ih

theorem WRel.unique {w w' : World K V Q} {t₁ t₂} (h₁ : WRel w w' t₁) (h₂ : WRel w w' t₂) : t₁ = t₂ := by
  have := h₁.trace.symm.trans h₂.trace
  exact List.append_cancel_left this

/-- `from_iter` / `collect` / `From<[_; N]>`: the loop on a local that is dropped on unwinding —
    every slot that was live in it (`lq`) is dead, and the drops of `lq` end the trace.
    Stated for any initial contents `l` of the local (`[]` for `from_iter`). -/
theorem from_iter_sat (pulls : Bool) (xs : List (K × V)) {s : St K V Q} {l : List (K × V)}
    (hr : Rep s.r l) :
    Sat (from_iter E pulls xs) s (fun _ => Kept s)
      (fun c s' => s'.r.cap = s.r.cap ∧ (InjPanic s s' c ∨ OverflowPanic s c) ∧
        ∃ lq tr, Dropped s'.r lq ∧ WRel s.w s'.w (tr ++ dropTrace E lq)) := by
  refine Sat.unwindWith (extendLoop_sat E pulls xs s ⟨l, hr⟩) ?_
  intro c s1 ⟨⟨h1, ⟨lq, hlq⟩, tr, hw⟩, hc⟩
  refine Sat.mono (cleanup_dropMap E hlq) ?_ (fun _ _ h => h)
  intro _ s2 ⟨g1, g2, _, g4⟩
  exact ⟨g1.trans h1, hc.imp (InjPanic.extend · g4) id, lq, tr, g2, hw.trans g4⟩

/-- for a repeated key `insert` hands back the displaced value, whose drop is what is left of
    `itemTrace`. -/
theorem insert_fit {s : St K V Q} {l : List (K × V)} (hE : E.Pure) (hr : Rep s.r l) (hb : Benign s.w)
    (k : K) (v : V) (hfit : ¬ (findKey E l (.key k) = none ∧ s.r.cap ≤ l.length)) :
    ∃ o s', insert E k v s = .ok o s' ∧ Rep s'.r (insertL E l k v) ∧ s'.r.cap = s.r.cap ∧
      ∃ tr, WRel s.w s'.w tr ∧
        itemTrace E l k v = tr ++ (match o with | some old => dropVTr E old | none => []) := by
  have hg := insert_benign E hE hr hb k v
  cases hf : findKey E l (.key k) with
  | some i =>
    rw [hf] at hg
    obtain ⟨hi, s', h1, hrep, hcap, hw⟩ := hg
    exact ⟨_, s', h1, insertL_found E v hf hi ▸ hrep, hcap, _, hw, itemTrace_found E v hf hi⟩
  | none =>
    rw [hf] at hg
    rcases hg with ⟨_, s', h1, hrep, hcap, hw⟩ | ⟨hfull, _⟩
    · exact ⟨_, s', h1, insertL_absent E v hf ▸ hrep, hcap, _, hw, itemTrace_absent E v hf⟩
    · exact (hfit ⟨hf, by omega⟩).elim

section item
/- `W` is what the loop wraps around each call of user code or `insert` (`unwindWith` with the drop
   of the rest of the source in `extendLoop`, nothing in serde's visitor): transparent to a call
   that returns. -/
variable (W : ∀ {α : Type}, SM K V Q α → SM K V Q α)
  (hW : ∀ {α : Type} {m : SM K V Q α} {s a s'}, m s = .ok a s' → W m s = .ok a s')
  {s : St K V Q} {l : List (K × V)}
include hW

theorem pull_benign (pulls : Bool) (hb : Benign s.w) :
    ∃ s0, (if pulls then W pullSrc else pure ()) s = .ok () s0 ∧ s0.r = s.r ∧
      WRel s.w s0.w (pullTr pulls) := by
  cases pulls
  · exact ⟨s, rfl, rfl, WRel.refl _⟩
  · obtain ⟨_, s0, h, h1, h2, _⟩ := pullSrc_cb.benign hb
    exact ⟨s0, hW h, h1, h2⟩

/-- the statement `m.insert(k, v);`: the call and the drop of what it returns. -/
theorem item_benign (hE : E.Pure) (hr : Rep s.r l) (hb : Benign s.w) (k : K) (v : V)
    (hfit : ¬ (findKey E l (.key k) = none ∧ s.r.cap ≤ l.length)) :
    ∃ s2, (∀ kont : SM K V Q Unit, (W (insert E k v) >>= fun o =>
        match o with
        | some old => W (dropV E old) >>= fun _ => kont
        | none => kont) s = kont s2) ∧
      Rep s2.r (insertL E l k v) ∧ s2.r.cap = s.r.cap ∧ WRel s.w s2.w (itemTrace E l k v) := by
  obtain ⟨o, s1, hi, hrep, hcap, tr, hw, ht⟩ := insert_fit E hE hr hb k v hfit
  rw [ht]
  cases o with
  | none => exact ⟨s1, fun _ => bind_ok (hW hi), hrep, hcap, by simpa using hw⟩
  | some old =>
    obtain ⟨_, s2, hd, hr2, hw2, _⟩ := (dropV_cb E old).benign (hw.benign hb)
    exact ⟨s2, fun _ => (bind_ok (hW hi)).trans (bind_ok (hW hd)), hr2 ▸ hrep, by rw [hr2, hcap],
      hw.trans hw2⟩

end item

theorem insert_surplus {s : St K V Q} {l : List (K × V)} (hE : E.Pure) (hr : Rep s.r l)
    (hb : Benign s.w) (k : K) (v : V) (hov : findKey E l (.key k) = none ∧ s.r.cap ≤ l.length) :
    ∃ c s', insert E k v s = .panic c s' ∧ OverflowPanic s c ∧ s'.r = s.r ∧
      WRel s.w s'.w (dropVTr E v ++ [.dropK k]) := by
  have hg := insert_benign E hE hr hb k v
  rw [hov.1] at hg
  rcases hg with ⟨hroom, _⟩ | ⟨_, c, s', hi, hrr, ho, hw⟩
  · omega
  · exact ⟨c, s', hi, ho, hrr, hw⟩

/-- the loop returns with the fold of single inserts, or unwinds at the first surplus item
    `xs[m] = (k, v)`: the items before it were inserted, the surplus item was pulled and its value
    and key dropped, the rest of the source was dropped unpulled. -/
theorem extendLoop_benign (hE : E.Pure) (pulls : Bool) (xs : List (K × V)) {s : St K V Q}
    {l : List (K × V)} (hr : Rep s.r l) (hb : Benign s.w) :
    match overflowAt E s.r.cap l xs with
    | none => ∃ s', extendLoop E pulls xs s = .ok () s' ∧ Rep s'.r (foldInsert E l xs) ∧
        s'.r.cap = s.r.cap ∧ WRel s.w s'.w (extendTrace E pulls l xs)
    | some m => ∃ c s' k v, extendLoop E pulls xs s = .panic c s' ∧ OverflowPanic s c ∧
        xs[m]? = some (k, v) ∧ Rep s'.r (foldInsert E l (xs.take m)) ∧ s'.r.cap = s.r.cap ∧
        WRel s.w s'.w (itemsTrace E pulls l (xs.take m) ++
          (pullTr pulls ++ (dropVTr E v ++ (.dropK k :: dropTrace E (xs.drop (m + 1)))))) := by
  induction xs generalizing s l with
  | nil =>
    obtain ⟨s', h, h1, h2⟩ := pull_benign (fun m => m) id pulls hb
    exact ⟨s', by unfold extendLoop; exact h, h1 ▸ hr, by rw [h1], h2⟩
  | cons p rest ih =>
    obtain ⟨k, v⟩ := p
    obtain ⟨s0, h0, hr0, hw0⟩ := pull_benign (fun m => Micromap.unwindWith (dropList E ((k, v) :: rest)) m)
      unwindWith_of_ok pulls hb
    have hb0 := hw0.benign hb
    have hl0 : Rep s0.r l := hr0 ▸ hr
    have he := (congrFun (extendLoop_cons E pulls k v rest) s).trans (bind_ok h0)
    simp only [overflowAt]
    by_cases hov : findKey E l (.key k) = none ∧ s.r.cap ≤ l.length
    · rw [if_pos hov]
      obtain ⟨c, s1, hi, ho, hs1, hw1⟩ := insert_surplus E hE hl0 hb0 k v (hr0 ▸ hov)
      obtain ⟨s2, hu, hs2, hw2⟩ := unwindWith_cb_panic (dropList_cb E rest) hi
      have hs : s2.r = s.r := hs2.trans (hs1.trans hr0)
      exact ⟨c, s2, k, v, he.trans (by rw [bind_apply, hu]), ho.after hw0, rfl, hs ▸ hr, by rw [hs],
        ((hw0.trans hw1).trans hw2).trans' (WRel.refl _) (by simp [itemsTrace])⟩
    · rw [if_neg hov]
      obtain ⟨s2, e2, hr2, hc2, hw2⟩ := item_benign E (fun m => Micromap.unwindWith (dropList E rest) m)
        unwindWith_of_ok hE hl0 hb0 k v (hr0 ▸ hov)
      have hw := hw0.trans hw2
      have hc : s2.r.cap = s.r.cap := by rw [hc2, hr0]
      have ih := ih hr2 (hw.benign hb)
      rw [hc] at ih
      cases ho : overflowAt E s.r.cap (insertL E l k v) rest with
      | none =>
        rw [ho] at ih
        obtain ⟨s', h1, h2, h3, h4⟩ := ih
        exact ⟨s', (he.trans (e2 _)).trans h1, h2, h3,
          hw.trans' h4 (by simp [extendTrace, itemsTrace])⟩
      | some m =>
        rw [ho] at ih
        obtain ⟨c, s', k1, v1, h1, h2, h3, h4, h5, h6⟩ := ih
        exact ⟨c, s', k1, v1, (he.trans (e2 _)).trans h1, h2.after hw, by simpa using h3, h4,
          h5, hw.trans' h6 (by simp [itemsTrace])⟩

/-- `from_iter` likewise; when it unwinds the partially built local has been dropped, each of its
    entries once, after the effects of the loop. -/
theorem from_iter_benign (hE : E.Pure) (pulls : Bool) (xs : List (K × V)) {s : St K V Q}
    {l : List (K × V)} (hr : Rep s.r l) (hb : Benign s.w) :
    match overflowAt E s.r.cap l xs with
    | none => ∃ s', from_iter E pulls xs s = .ok () s' ∧ Rep s'.r (foldInsert E l xs) ∧
        s'.r.cap = s.r.cap ∧ WRel s.w s'.w (extendTrace E pulls l xs)
    | some m => ∃ c s' k v, from_iter E pulls xs s = .panic c s' ∧ OverflowPanic s c ∧
        xs[m]? = some (k, v) ∧ Dropped s'.r (foldInsert E l (xs.take m)) ∧
        WRel s.w s'.w ((itemsTrace E pulls l (xs.take m) ++
          (pullTr pulls ++ (dropVTr E v ++ (.dropK k :: dropTrace E (xs.drop (m + 1)))))) ++
          dropTrace E (foldInsert E l (xs.take m))) := by
  have h := extendLoop_benign E hE pulls xs hr hb
  cases ho : overflowAt E s.r.cap l xs with
  | none =>
    rw [ho] at h
    obtain ⟨s', h1, h⟩ := h
    exact ⟨s', unwindWith_of_ok h1, h⟩
  | some m =>
    rw [ho] at h
    obtain ⟨c, s1, k, v, h1, h2, h3, h4, _, h6⟩ := h
    obtain ⟨_, s2, hd, _, g2, _, g4⟩ := (cleanup_dropMap E h4).must_return (fun _ _ h => h)
    exact ⟨c, _, k, v, unwindWith_of_panic h1 hd, h2, h3, g2, h6.trans g4⟩

def isPull : Event K V Q → Bool
  | .pull => true
  | _ => false

def countPulls (tr : List (Event K V Q)) : Nat := (tr.filter isPull).length

theorem countPulls_append (a b : List (Event K V Q)) : countPulls (a ++ b) = countPulls a + countPulls b := by
  simp [countPulls]

theorem countPulls_dropVTr (v : V) : countPulls (dropVTr E v : List (Event K V Q)) = 0 := by
  unfold dropVTr; split <;> rfl

theorem countPulls_dropTrace : ∀ ps : List (K × V), countPulls (dropTrace E ps : List (Event K V Q)) = 0
  | [] => rfl
  | p :: ps => by
    show countPulls (([.dropK p.1] ++ dropVTr E p.2) ++ dropTrace E ps) = 0
    rw [countPulls_append, countPulls_append, countPulls_dropVTr, countPulls_dropTrace ps]; rfl

theorem countPulls_itemTrace (l : List (K × V)) (k : K) (v : V) :
    countPulls (itemTrace E l k v : List (Event K V Q)) = 0 := by
  unfold itemTrace
  split
  · split
    · rename_i p _
      exact (countPulls_append [.dropK k] (dropVTr E p.2)).trans (by rw [countPulls_dropVTr]; rfl)
    · rfl
  · rfl

theorem countPulls_pullTr (pulls : Bool) :
    countPulls (pullTr pulls : List (Event K V Q)) = if pulls then 1 else 0 := by
  cases pulls <;> rfl

theorem countPulls_itemsTrace (pulls : Bool) : ∀ (xs l : List (K × V)),
    countPulls (itemsTrace E pulls l xs) = if pulls then xs.length else 0
  | [], _ => by simp [itemsTrace, countPulls]
  | (k, v) :: rest, l => by
    unfold itemsTrace
    rw [countPulls_append, countPulls_append, countPulls_itemTrace, countPulls_pullTr,
      countPulls_itemsTrace pulls rest]
    cases pulls <;> simp <;> omega

/-- a complete run over an instrumented source calls `next` exactly `|xs| + 1` times. -/
theorem countPulls_extendTrace (pulls : Bool) (l xs : List (K × V)) :
    countPulls (extendTrace E pulls l xs) = if pulls then xs.length + 1 else 0 := by
  unfold extendTrace
  rw [countPulls_append, countPulls_itemsTrace, countPulls_pullTr]
  cases pulls <;> simp

/-- a run that overflows at item `m` called `next` exactly `m + 1` times: none after the panic. -/
theorem countPulls_overflow (pulls : Bool) (l xs : List (K × V)) (m : Nat) (hm : m < xs.length) (k : K) (v : V) :
    countPulls (itemsTrace E pulls l (xs.take m) ++
      (pullTr pulls ++ (dropVTr E v ++ (.dropK k :: dropTrace E (xs.drop (m + 1)))))) =
      if pulls then m + 1 else 0 := by
  have : (Event.dropK k :: dropTrace E (xs.drop (m + 1)) : List (Event K V Q)) =
      [Event.dropK k] ++ dropTrace E (xs.drop (m + 1)) := rfl
  rw [this, countPulls_append, countPulls_append, countPulls_append, countPulls_append,
    countPulls_itemsTrace, countPulls_pullTr, countPulls_dropVTr, countPulls_dropTrace]
  have : (xs.take m).length = m := by rw [List.length_take]; omega
  cases pulls <;> simp [countPulls, isPull, this]

theorem findKey_some_hit {l : List (K × V)} {k : K} {i} (h : findKey E l (.key k) = some i) :
    ∃ hi : i < l.length, E.keq l[i].1 k = true := by
  rw [findKey_eq_findIdxP] at h
  obtain ⟨hi, _, hh⟩ := lookupP_eq_of_findIdxP h
  exact ⟨hi, hh⟩

theorem insertL_cases (l : List (K × V)) (k : K) (v : V) :
    (∃ i, ∃ hi : i < l.length, findKey E l (.key k) = some i ∧ E.keq l[i].1 k = true ∧
        insertL E l k v = l.set i (l[i].1, v)) ∨
    (findKey E l (.key k) = none ∧ (∀ p, p ∈ l → E.keq p.1 k = false) ∧
        insertL E l k v = l ++ [(k, v)]) := by
  cases h : findKey E l (.key k) with
  | some i =>
    obtain ⟨hi, hh⟩ := findKey_some_hit E h
    exact Or.inl ⟨i, hi, rfl, hh, insertL_found E v h hi⟩
  | none => exact Or.inr ⟨rfl, (findKey_none_iff E (.key k)).mp h, insertL_absent E v h⟩

theorem map_fst_set_self (l : List (K × V)) {i} (hi : i < l.length) (v : V) :
    (l.set i (l[i].1, v)).map (·.1) = l.map (·.1) := by
  apply List.ext_getElem (by simp)
  intro j h1 h2
  simp only [List.getElem_map, List.getElem_set]
  split
  · rename_i h; subst h; rfl
  · rfl

theorem insertL_keys (l : List (K × V)) (k : K) (v : V) :
    (insertL E l k v).map (·.1) =
      if (findKey E l (.key k)).isSome then l.map (·.1) else l.map (·.1) ++ [k] := by
  rcases insertL_cases E l k v with ⟨i, hi, hf, _, he⟩ | ⟨hf, _, he⟩
  · rw [he, hf, map_fst_set_self l hi]; rfl
  · rw [he, hf]; simp

theorem insertL_length (l : List (K × V)) (k : K) (v : V) :
    (insertL E l k v).length = if (findKey E l (.key k)).isSome then l.length else l.length + 1 := by
  have := congrArg List.length (insertL_keys E l k v)
  rw [List.length_map] at this
  rw [this]; split <;> simp

theorem foldInsert_of_nodup (xs l : List (K × V)) (hn : NodupKeys E.keq (l ++ xs)) :
    foldInsert E l xs = l ++ xs := by
  induction xs generalizing l with
  | nil => exact (List.append_nil l).symm
  | cons p rest ih =>
    obtain ⟨k, v⟩ := p
    have habs : findKey E l (.key k) = none := by
      rw [findKey_none_iff]
      intro q hq
      unfold NodupKeys NodupB at hn
      rw [List.map_append, List.pairwise_append] at hn
      exact hn.2.2 q.1 (List.mem_map_of_mem hq) k (by simp)
    rw [foldInsert_cons, insertL_absent E v habs, ih _ (by rwa [List.append_assoc]), List.append_assoc]
    rfl

theorem foldInsert_keys_sub (xs l : List (K × V)) (a : K) (h : a ∈ (foldInsert E l xs).map (·.1)) :
    a ∈ l.map (·.1) ∨ a ∈ xs.map (·.1) := by
  induction xs generalizing l with
  | nil => exact Or.inl h
  | cons p rest ih =>
    rw [List.map_cons, List.mem_cons]
    rcases ih _ h with h1 | h1
    · rw [insertL_keys] at h1
      split at h1
      · exact Or.inl h1
      · exact (List.mem_append.1 h1).imp_right fun h2 => Or.inl (List.mem_singleton.1 h2)
    · exact Or.inr (Or.inr h1)

theorem le_foldInsert_length (xs l : List (K × V)) : l.length ≤ (foldInsert E l xs).length := by
  induction xs generalizing l with
  | nil => exact Nat.le_refl _
  | cons p rest ih =>
    refine Nat.le_trans ?_ (ih _)
    rw [insertL_length]; split <;> omega

theorem overflowAt_none_of_fold_le (cap : Nat) (xs l : List (K × V))
    (h : (foldInsert E l xs).length ≤ cap) : overflowAt E cap l xs = none := by
  fun_induction overflowAt E cap l xs with
  | case1 => rfl
  | case2 l k v rest hstep =>
    have h1 := Nat.le_trans (le_foldInsert_length E rest (insertL E l k v)) h
    rw [insertL_absent E v hstep.1, List.length_append, List.length_singleton] at h1
    have := hstep.2
    omega
  | case3 l k v rest hstep ih => rw [ih h]; rfl

theorem foldInsert_length_le_cap (cap : Nat) (xs l : List (K × V)) (h : l.length ≤ cap)
    (ho : overflowAt E cap l xs = none) : (foldInsert E l xs).length ≤ cap := by
  fun_induction overflowAt E cap l xs with
  | case1 => exact h
  | case2 => cases ho
  | case3 l k v rest hstep ih =>
    refine ih ?_ (Option.map_eq_none_iff.1 ho)
    rw [insertL_length]
    split
    · exact h
    · rename_i hf
      have : ¬ cap ≤ l.length := fun hc => hstep ⟨Option.not_isSome_iff_eq_none.1 hf, hc⟩
      omega

theorem overflowAt_none_iff_fold_le (cap : Nat) (xs : List (K × V)) :
    overflowAt E cap [] xs = none ↔ (foldInsert E [] xs).length ≤ cap :=
  ⟨foldInsert_length_le_cap E cap xs [] (Nat.zero_le _), overflowAt_none_of_fold_le E cap xs []⟩

/-- the stored key objects when keys arrive in the order `xs` on top of `acc`: a key is stored
    only if no equal key is stored already (first occurrence wins). -/
def firstKeys (keq : K → K → Bool) (acc : List K) (xs : List K) : List K :=
  xs.foldl (fun acc k => if memB keq k acc then acc else acc ++ [k]) acc

/-- **first key object kept**: the key objects stored after the fold, in slot order, are the
    first occurrences of each key class. -/
theorem foldInsert_keys (xs l : List (K × V)) :
    (foldInsert E l xs).map (·.1) = firstKeys E.keq (l.map (·.1)) (xs.map (·.1)) := by
  induction xs generalizing l with
  | nil => rfl
  | cons p rest ih =>
    rw [foldInsert, List.foldl_cons, ← foldInsert, ih, insertL_keys, findKey_isSome_eq_memB]
    rfl

section lawful
variable {E} (hE : E.Lawful)
include hE

theorem insertL_nodup {l : List (K × V)} (hn : NodupKeys E.keq l) (k : K) (v : V) :
    NodupKeys E.keq (insertL E l k v) := by
  rcases insertL_cases E l k v with ⟨i, hi, _, _, he⟩ | ⟨_, habs, he⟩
  · rw [he]; exact nodupKeys_set hE.equivB hn hi _ v (hE.refl _)
  · rw [he]; exact nodupKeys_append hE.equivB hn k v habs

theorem foldInsert_nodup (xs l : List (K × V)) (hn : NodupKeys E.keq l) :
    NodupKeys E.keq (foldInsert E l xs) := by
  induction xs generalizing l with
  | nil => exact hn
  | cons p rest ih => exact ih _ (insertL_nodup hE hn p.1 p.2)

theorem foldInsert_covers (xs l : List (K × V)) (x : K)
    (h : memB E.keq x (l.map (·.1)) = true ∨ x ∈ xs.map (·.1)) :
    memB E.keq x ((foldInsert E l xs).map (·.1)) = true := by
  induction xs generalizing l with
  | nil => exact h.resolve_right (by simp)
  | cons p rest ih =>
    obtain ⟨k, v⟩ := p
    refine ih _ ?_
    have hk : memB E.keq k ((insertL E l k v).map (·.1)) = true := by
      rw [insertL_keys]; split
      · rename_i hf; rwa [findKey_isSome_eq_memB] at hf
      · exact memB_eq_true.2 ⟨k, by simp, hE.refl k⟩
    rcases h with h | h
    · obtain ⟨y, hy, hyx⟩ := memB_eq_true.1 h
      refine Or.inl (memB_eq_true.2 ⟨y, ?_, hyx⟩)
      rw [insertL_keys]; split
      · exact hy
      · exact List.mem_append_left _ hy
    · rcases List.mem_cons.1 h with rfl | h
      · exact Or.inl hk
      · exact Or.inr h

/-- **repeats do not consume capacity**: the fold holds at most as many entries as there are
    distinct keys — `d` is any list that contains (up to `==`) every key involved. -/
theorem foldInsert_length_le_cover (l xs : List (K × V))
    (hn : NodupKeys E.keq l) (d : List K)
    (hd : ∀ x, x ∈ l.map (·.1) ∨ x ∈ xs.map (·.1) → memB E.keq x d = true) :
    (foldInsert E l xs).length ≤ d.length := by
  have hnn : NodupB E.keq ((foldInsert E l xs).map (·.1)) := foldInsert_nodup hE xs l hn
  have := pigeon hE.equivB ((foldInsert E l xs).map (·.1)) d hnn
    (fun x hx => hd x (foldInsert_keys_sub E xs l x hx))
  simpa using this

theorem overflowAt_none_of_cover (cap : Nat) (d : List K) (hdc : d.length ≤ cap)
    (xs l : List (K × V)) (hn : NodupKeys E.keq l)
    (hd : ∀ x, x ∈ l.map (·.1) ∨ x ∈ xs.map (·.1) → memB E.keq x d = true) :
    overflowAt E cap l xs = none :=
  overflowAt_none_of_fold_le E cap xs l (Nat.le_trans (foldInsert_length_le_cover hE l xs hn d hd) hdc)

theorem le_foldInsert_length_of_distinct (l xs : List (K × V)) (d : List K)
    (hdn : NodupB E.keq d) (hd : ∀ y, y ∈ d → memB E.keq y (l.map (·.1) ++ xs.map (·.1)) = true) :
    d.length ≤ (foldInsert E l xs).length := by
  have h2 := pigeon hE.equivB d ((foldInsert E l xs).map (·.1)) hdn fun y hy => by
    obtain ⟨z, hz, hzy⟩ := memB_eq_true.1 (hd y hy)
    rw [← memB_congr hE.equivB hzy]
    exact foldInsert_covers hE xs l z
      ((List.mem_append.1 hz).imp_left fun hz => memB_eq_true.2 ⟨z, hz, hE.refl z⟩)
  rwa [List.length_map] at h2

/-- **the overflow is unavoidable with more than `cap` distinct keys**: if `d` is a list of
    pairwise unequal keys, each equal to some item key (or initial key), and `|d| > cap`, then
    some item overflows. -/
theorem overflowAt_some_of_distinct (cap : Nat) (l xs : List (K × V))
    (hl : l.length ≤ cap) (d : List K) (hdn : NodupB E.keq d)
    (hd : ∀ y, y ∈ d → memB E.keq y (l.map (·.1) ++ xs.map (·.1)) = true)
    (hbig : cap < d.length) : overflowAt E cap l xs ≠ none := by
  intro ho
  have h1 := foldInsert_length_le_cap E cap xs l hl ho
  have h2 := le_foldInsert_length_of_distinct hE l xs d hdn hd
  omega

/-- the number of entries after the fold is the number of distinct keys: it equals the length
    of any duplicate-free system of representatives `d` of the keys involved. -/
theorem foldInsert_length_eq_distinct (l xs : List (K × V))
    (hn : NodupKeys E.keq l) (d : List K) (hdn : NodupB E.keq d)
    (hd1 : ∀ x, x ∈ l.map (·.1) ∨ x ∈ xs.map (·.1) → memB E.keq x d = true)
    (hd2 : ∀ y, y ∈ d → memB E.keq y (l.map (·.1) ++ xs.map (·.1)) = true) :
    (foldInsert E l xs).length = d.length :=
  Nat.le_antisymm (foldInsert_length_le_cover hE l xs hn d hd1)
    (le_foldInsert_length_of_distinct hE l xs d hdn hd2)

theorem lookupL_insertL {l : List (K × V)} (hn : NodupKeys E.keq l)
    (k : K) (v : V) (q : K) :
    lookupL E.keq (insertL E l k v) q = if E.keq k q then some v else lookupL E.keq l q := by
  have hp := hE.probeOK (.key q : Probe K Q)
  rw [lookupL_eq_lookupP (Q := Q), lookupL_eq_lookupP (Q := Q)]
  rcases insertL_cases E l k v with ⟨i, hi, _, hh, he⟩ | ⟨_, habs, he⟩
  · rw [he, lookupP_set hE.equivB hp hn hi l[i].1 v (hE.refl _)]
    rw [show E.hitP (.key q : Probe K Q) l[i].1 = E.keq k q from hp.congr _ _ hh]
    cases E.keq k q <;> rfl
  · rw [he, lookupP_append]
    have hk : E.hitP (.key q : Probe K Q) k = E.keq k q := rfl
    rw [hk]
    cases hkq : E.keq k q with
    | false =>
      cases lookupP (E.hitP (.key q : Probe K Q)) l <;> rfl
    | true =>
      -- no stored key answers `q`, since none answers `k`
      have : lookupP (E.hitP (.key q : Probe K Q)) l = none := lookupP_eq_none_iff.2 fun p hpl =>
        (keq_congr_right hE.equivB hkq p.1).symm.trans (habs p hpl)
      rw [this]; rfl

/-- **last value wins**: after the fold a key maps to the value of the *last* item with an
    equal key, or to its old value if there is none. -/
theorem lookupL_foldInsert (xs l : List (K × V)) (hn : NodupKeys E.keq l) (q : K) :
    lookupL E.keq (foldInsert E l xs) q =
      match xs.reverse.find? (fun p => E.keq p.1 q) with
      | some p => some p.2
      | none => lookupL E.keq l q := by
  induction xs generalizing l with
  | nil => rfl
  | cons p rest ih =>
    obtain ⟨k, v⟩ := p
    rw [foldInsert_cons, ih _ (insertL_nodup hE hn k v), lookupL_insertL hE hn, List.reverse_cons,
      List.find?_append]
    cases rest.reverse.find? (fun p => E.keq p.1 q) with
    | some p => rfl
    | none => cases hkq : E.keq k q <;> simp [hkq]

end lawful

end Micromap.FromIter
