/-
"Quiet" computations: callbacks with an empty trace.  They frame the container, have no effect
other than comparisons and can only unwind by an injected panic; all read-only operations
(lookups, the lazy set-algebra adaptors, the set predicates) are of this kind.
-/
import Micromap.Proofs.Lookup

namespace Micromap.Alg
variable {K V Q : Type}

/-- `Qv` holds of the result whatever the oracle answers. -/
def Quiet {α : Type} (m : SM K V Q α) (Qv : α → Prop) : Prop :=
  CbOk m (fun _ => []) (fun _ a => Qv a)

theorem Quiet.pure {α : Type} {a : α} {Qv : α → Prop} (h : Qv a) : Quiet (pure a : SM K V Q α) Qv :=
  fun _ => ⟨rfl, WRel.refl _, h⟩

theorem Quiet.mono {α : Type} {m : SM K V Q α} {Qv Qv' : α → Prop} (h : Quiet m Qv)
    (hq : ∀ a, Qv a → Qv' a) : Quiet m Qv' :=
  CbOk.mono h (fun _ => rfl) (fun _ a => hq a)

theorem Quiet.bind {α β : Type} {m : SM K V Q α} {f : α → SM K V Q β} {Q₁ : α → Prop} {Q₂ : β → Prop}
    (hm : Quiet m Q₁) (hf : ∀ a, Q₁ a → Quiet (f a) Q₂) : Quiet (m >>= f) Q₂ :=
  fun s => (hm.at s).bind fun a s1 _ _ h => hf a h s1

theorem Quiet.map {α β : Type} {m : SM K V Q α} {g : α → β} {Q₁ : α → Prop} {Q₂ : β → Prop}
    (hm : Quiet m Q₁) (hg : ∀ a, Q₁ a → Q₂ (g a)) : Quiet (m >>= fun a => Pure.pure (g a)) Q₂ :=
  hm.bind fun a h => Quiet.pure (hg a h)

theorem Quiet.run {α : Type} {m : SM K V Q α} {Qv : α → Prop} (h : Quiet m Qv) {s : St K V Q}
    (hb : Benign s.w) : ∃ a s', m s = .ok a s' ∧ s'.r = s.r ∧ WRel s.w s'.w [] ∧ Qv a :=
  h.benign hb

theorem Quiet.of_ok {α : Type} {m : SM K V Q α} {a : α} {Qv : α → Prop} (h : ∀ s, m s = .ok a s)
    (hq : Qv a) : Quiet m Qv :=
  fun s => Sat.of_ok (h s) ⟨rfl, WRel.refl _, hq⟩

theorem Quiet.itemRefR {r : Raw K V} {l : List (K × V)} (hr : Rep r l) {i : Nat} (hi : i < l.length) :
    Quiet (Micromap.itemRefR r i : SM K V Q (K × V)) (fun p => p = l[i]) :=
  Quiet.of_ok (hr.itemRefR_ok hi) rfl

abbrev ListPost {β : Type} (P : β → Prop) (pur : Prop) (X : List β) (res : List β) : Prop :=
  (∀ x, x ∈ res → P x) ∧ (pur → res = X)

theorem Quiet.nil {β : Type} {P : β → Prop} {pur : Prop} : Quiet (Pure.pure [] : SM K V Q (List β)) (ListPost P pur []) :=
  Quiet.pure ⟨fun _ h => (nomatch h), fun _ => rfl⟩

theorem Quiet.append {β : Type} {m₁ m₂ : SM K V Q (List β)} {P : β → Prop} {pur : Prop} {X Y : List β}
    (h₁ : Quiet m₁ (ListPost P pur X)) (h₂ : Quiet m₂ (ListPost P pur Y)) :
    Quiet (m₁ >>= fun xs => m₂ >>= fun ys => Pure.pure (xs ++ ys)) (ListPost P pur (X ++ Y)) :=
  h₁.bind fun _ hx => h₂.bind fun _ hy => Quiet.pure
    ⟨fun x h => (List.mem_append.mp h).elim (hx.1 x) (hy.1 x), fun hp => by rw [hx.2 hp, hy.2 hp]⟩

end Micromap.Alg
