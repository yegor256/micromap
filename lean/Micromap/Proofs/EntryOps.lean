/-
Triples of `entry.rs`: `Map::entry`, `Entry::{or_insert, or_insert_with, and_modify, key}`,
`OccupiedEntry::{get, get_mut, insert, remove, remove_entry}`, `VacantEntry::insert`; what each
stage does under a pure `==` in a world with no armed fault; and `direct_or_insert`, the program
`if contains_key { get_mut } else { insert; get_mut }` that C11 compares `entry(k).or_insert(v)` with.
-/
import Micromap.Proofs.MapApi
import Micromap.Proofs.Benign
import Micromap.Model.Entry

namespace Micromap.EntryOps
open Dict (swapRemove)
variable {K V Q : Type} (E : Env K V Q) {s : St K V Q} {l : List (K × V)}

/-- `Map::entry`: scans once; `Occupied(i)` with the supplied key dropped when the scan finds
    slot `i`, `Vacant(k)` (owning the key, no effect) otherwise.  The container is untouched,
    also when a comparison or the key's drop unwinds. -/
theorem entry_sat (hr : Rep s.r l) (k : K) :
    Sat (entry E k) s
      (fun e s' => s'.r = s.r ∧
        ((∃ i, e = .occ i ∧ i < l.length ∧ WRel s.w s'.w [.dropK k] ∧
            (E.Pure → findKey E l (.key k) = some i)) ∨
         (e = .vac k ∧ WRel s.w s'.w [] ∧ (E.Pure → findKey E l (.key k) = none))))
      (fun c s' => s'.r = s.r ∧ InjPanic s s' c) := by
  unfold entry
  refine Sat.bind (Sat.unwindWith_cb (dropK_cb k) (scan_at E hr (.key k))
    fun _ _ _ ⟨h1, h2⟩ g1 g2 => ⟨g1.trans h1, h2.extend g2⟩) ?_
  intro o s1 ⟨h1, h2, h3, h4⟩
  cases o with
  | some i =>
    refine Sat.cb (dropK_cb k) ?_ ?_
    · intro _ s2 g1 g2 _
      exact Sat.pure ⟨g1.trans h1, Or.inl ⟨i, rfl, h3 i rfl, h2.trans g2, fun hp => (h4 hp).symm⟩⟩
    · intro s2 tr' g1 g2 g3 g4
      exact ⟨g1.trans h1, (InjPanic.of_cb g2 g3 g4).after h2⟩
  | none => exact Sat.pure ⟨h1, Or.inr ⟨rfl, h2, fun hp => (h4 hp).symm⟩⟩

theorem entry_benign (hE : E.Pure) (hr : Rep s.r l) (hb : Benign s.w) (k : K) :
    match findKey E l (.key k) with
    | some i => ∃ (_ : i < l.length) (s' : St K V Q), entry E k s = .ok (.occ i) s' ∧ s'.r = s.r ∧
        WRel s.w s'.w [.dropK k]
    | none => ∃ s', entry E k s = .ok (.vac k) s' ∧ s'.r = s.r ∧ WRel s.w s'.w [] := by
  obtain ⟨e, s', h1, hs, h2⟩ := (entry_sat E hr k).must_return fun _ _ h => h.2.not_benign hb
  rcases h2 with ⟨i, rfl, hi, hw, hf⟩ | ⟨rfl, hw, hf⟩
  · rw [hf hE]; exact ⟨hi, s', h1, hs, hw⟩
  · rw [hf hE]; exact ⟨s', h1, hs, hw⟩

/-- `VacantEntry::insert`: the ordinary insert core, then a re-borrow of the written slot.
    With an absent key (what `entry` established) this is the append branch of `insert_ii`:
    the pair lands in slot `len` and that slot is returned.  (The first disjunct is the branch
    a lying `==` can reach: the scan now finds the key, the value is replaced and the supplied
    key and the old value are dropped.) -/
theorem vacant_insert_sat (hr : Rep s.r l) (key : K) (v : V) :
    Sat (vacant_insert E key v) s
      (fun idx s' => s'.r.cap = s.r.cap ∧
        ((∃ hi : idx < l.length, Rep s'.r (l.set idx (l[idx].1, v)) ∧
            WRel s.w s'.w (.dropK key :: dropVTr E l[idx].2) ∧
            (E.Pure → findKey E l (.key key) = some idx)) ∨
         (idx = l.length ∧ l.length < s.r.cap ∧ Rep s'.r (l ++ [(key, v)]) ∧ WRel s.w s'.w [] ∧
            (E.Pure → findKey E l (.key key) = none))))
      (fun c s' => s'.r.cap = s.r.cap ∧
        ((InjPanic s s' c ∧ ∃ l', Rep s'.r l' ∧
            (l' = l ∨ ∃ i, ∃ hi : i < l.length, l' = l.set i (l[i].1, v))) ∨
         (s'.r = s.r ∧ OverflowPanic s c ∧ l.length = s.r.cap ∧
            (E.Pure → findKey E l (.key key) = none) ∧
            WRel s.w s'.w (dropVTr E v ++ [.dropK key])))) := by
  unfold vacant_insert
  refine Sat.bind (Sat.mono (insert_ii_sat E hr key v false) (fun _ _ h => h) ?_) ?_
  · intro c s' ⟨h1, h2⟩
    refine ⟨by rw [h1], ?_⟩
    rcases h2 with h | ⟨ho, hf, hn, hw⟩
    · exact Or.inl ⟨h, l, h1 ▸ hr, Or.inl rfl⟩
    · exact Or.inr ⟨h1, ho, hf, hn, hw⟩
  · intro res s1 h
    obtain ⟨i, old⟩ := res
    dsimp only at h
    obtain ⟨hcap, hw, hcase⟩ := h
    rcases hcase with ⟨hi, hold, hrep, hfind⟩ | ⟨hidx, hold, hroom, hrep, hfind⟩
    · subst hold
      simp only [Bool.false_eq_true, if_false] at hrep ⊢
      show Sat (dropPair E (key, l[i].2) >>= _) s1 _ _
      refine Sat.cb (dropPair_cb E (key, l[i].2)) ?_ ?_
      · intro _ s2 g1 g2 _
        have hr2 : Rep s2.r (l.set i (l[i].1, v)) := g1 ▸ hrep
        have hi2 : i < (l.set i (l[i].1, v)).length := by simpa using hi
        refine Sat.bind_ok (hr2.itemRef_ok hi2) ?_
        exact Sat.pure ⟨by rw [g1, hcap], Or.inl ⟨hi, hr2, by simpa using hw.trans g2, hfind⟩⟩
      · intro s2 tr' g1 g2 g3 g4
        exact ⟨by rw [g1, hcap], Or.inl ⟨⟨rfl, fun hn => g2 (hw.inj hn), hw.unw ▸ g3, _, hw.trans g4⟩,
          _, g1 ▸ hrep, Or.inr ⟨i, hi, rfl⟩⟩⟩
    · subst hold
      subst hidx
      have hi2 : l.length < (l ++ [(key, v)]).length := by simp
      refine Sat.bind_ok (m := pure ()) rfl (Sat.bind_ok (hrep.itemRef_ok hi2) ?_)
      exact Sat.pure ⟨hcap, Or.inr ⟨rfl, hroom, hrep, hw, hfind⟩⟩

theorem vacant_insert_safe (hr : Rep s.r l) (key : K) (v : V) :
    Sat (vacant_insert E key v) s
      (fun idx s' => ∃ l', Rep s'.r l' ∧ s'.r.cap = s.r.cap ∧ idx < l'.length)
      (fun _ s' => ∃ l', Rep s'.r l' ∧ s'.r.cap = s.r.cap) := by
  refine Sat.mono (vacant_insert_sat E hr key v) ?_ ?_
  · intro idx s' ⟨hc, h⟩
    rcases h with ⟨hi, hrep, _⟩ | ⟨rfl, _, hrep, _⟩
    · exact ⟨_, hrep, hc, by simpa using hi⟩
    · exact ⟨_, hrep, hc, by simp⟩
  · intro c s' ⟨hc, h⟩
    rcases h with ⟨_, l', hrep, _⟩ | ⟨hs, _⟩
    · exact ⟨l', hrep, hc⟩
    · exact ⟨l, hs ▸ hr, hc⟩

/-- an entry is usable on the map it borrows: an occupied entry points at a live slot. -/
def Valid (l : List (K × V)) : EntryS K → Prop
  | .occ i => i < l.length
  | .vac _ => True

theorem entry_valid (hr : Rep s.r l) (k : K) :
    Sat (entry E k) s (fun e s' => s'.r = s.r ∧ Valid l e) (fun _ s' => s'.r = s.r) :=
  Sat.mono (entry_sat E hr k) (fun _ _ ⟨h1, h⟩ => by
    rcases h with ⟨i, rfl, hi, _⟩ | ⟨rfl, _⟩
    · exact ⟨h1, hi⟩
    · exact ⟨h1, trivial⟩) fun _ _ h => h.1

theorem or_insert_occ_sat {s : St K V Q} {l : List (K × V)} (hr : Rep s.r l) (d : V) {i}
    (hi : i < l.length) :
    Sat (or_insert E d (.occ i)) s
      (fun idx s' => idx = i ∧ s'.r = s.r ∧ WRel s.w s'.w (dropVTr E d))
      (fun c s' => s'.r = s.r ∧ InjPanic s s' c) := by
  unfold or_insert
  refine Sat.bind_ok (unwindWith_of_ok (hr.itemRef_ok hi)) ?_
  exact Sat.cb (dropV_cb E d) (fun _ _ h1 h2 _ => Sat.pure ⟨rfl, h1, h2⟩)
    fun _ _ h1 h2 h3 h4 => ⟨h1, InjPanic.of_cb h2 h3 h4⟩

theorem or_insert_vac (d : V) (key : K) : or_insert E d (.vac key) = vacant_insert E key d := rfl

theorem or_insert_with_occ {s : St K V Q} {l : List (K × V)} (hr : Rep s.r l) (tag : Nat) (mk : V) {i}
    (hi : i < l.length) : or_insert_with E tag mk (.occ i) s = .ok i s :=
  bind_ok (hr.itemRef_ok hi)

theorem or_insert_with_vac_sat {s : St K V Q} {l : List (K × V)} (hr : Rep s.r l) (tag : Nat) (mk : V)
    (key : K) :
    Sat (or_insert_with E tag mk (.vac key)) s
      (fun idx s' => s'.r.cap = s.r.cap ∧
        ((∃ hi : idx < l.length, Rep s'.r (l.set idx (l[idx].1, mk)) ∧
            WRel s.w s'.w (.call tag :: .dropK key :: dropVTr E l[idx].2) ∧
            (E.Pure → findKey E l (.key key) = some idx)) ∨
         (idx = l.length ∧ l.length < s.r.cap ∧ Rep s'.r (l ++ [(key, mk)]) ∧
            WRel s.w s'.w [.call tag] ∧ (E.Pure → findKey E l (.key key) = none))))
      (fun c s' => s'.r.cap = s.r.cap ∧
        ((InjPanic s s' c ∧ ∃ l', Rep s'.r l' ∧
            (l' = l ∨ ∃ i, ∃ hi : i < l.length, l' = l.set i (l[i].1, mk))) ∨
         (s'.r = s.r ∧ OverflowPanic s c ∧ l.length = s.r.cap ∧
            (E.Pure → findKey E l (.key key) = none) ∧
            WRel s.w s'.w (.call tag :: (dropVTr E mk ++ [.dropK key]))))) := by
  unfold or_insert_with
  refine Sat.cb (CbOk.unwindWith (dropK_cb key) (callF_cb tag)) ?_ ?_
  · intro _ s1 h1 h2 _
    have hr1 : Rep s1.r l := h1 ▸ hr
    refine Sat.mono (vacant_insert_sat E hr1 key mk) ?_ ?_
    · intro idx s2 ⟨hc, h⟩
      refine ⟨by rw [hc, h1], ?_⟩
      rcases h with ⟨hi, g1, g2, g3⟩ | ⟨g0, g1, g2, g3, g4⟩
      · exact Or.inl ⟨hi, g1, by simpa using h2.trans g2, g3⟩
      · exact Or.inr ⟨g0, by rw [← h1]; exact g1, g2, by simpa using h2.trans g3, g4⟩
    · intro c s2 ⟨hc, h⟩
      refine ⟨by rw [hc, h1], ?_⟩
      rcases h with ⟨g1, g2⟩ | ⟨g0, g1, g2, g3, g4⟩
      · exact Or.inl ⟨g1.after h2, g2⟩
      · exact Or.inr ⟨g0.trans h1, g1.after h2, by rw [← h1]; exact g2, g3, by simpa using h2.trans g4⟩
  · intro s1 tr' h1 h2 h3 h4
    exact ⟨by rw [h1], Or.inl ⟨InjPanic.of_cb h2 h3 h4, l, h1 ▸ hr, Or.inl rfl⟩⟩

theorem and_modify_occ_sat (hr : Rep s.r l) (g : V → V) {i} (hi : i < l.length) :
    Sat (and_modify (Q := Q) g (.occ i)) s
      (fun e s' => e = .occ i ∧ s'.r.cap = s.r.cap ∧ Rep s'.r (l.set i (l[i].1, g l[i].2)) ∧
        WRel s.w s'.w [.call 1])
      (fun c s' => s'.r = s.r ∧ InjPanic s s' c) := by
  unfold and_modify
  refine Sat.bind_ok (hr.itemRef_ok hi) ?_
  refine Sat.cb (callF_cb 1) ?_ ?_
  · intro _ s1 h1 h2 _
    have hr1 : Rep s1.r l := h1 ▸ hr
    refine Sat.bind_ok (hr1.valueReplace_ok hi _) ?_
    exact Sat.pure ⟨rfl, by simp [h1], by simpa using hr1.set hi _, h2⟩
  · intro s1 tr' h1 h2 h3 h4
    exact ⟨h1, InjPanic.of_cb h2 h3 h4⟩

theorem and_modify_vac (g : V → V) (key : K) (s : St K V Q) :
    and_modify g (.vac key) s = .ok (.vac key) s := rfl

/-- `occ_get` stands for `OccupiedEntry::get` and `into_mut`. -/
theorem occ_get_eq (hr : Rep s.r l) {i} (hi : i < l.length) :
    occ_get i s = .ok l[i] s := hr.itemRef_ok hi

theorem entry_key_occ (hr : Rep s.r l) {i} (hi : i < l.length) :
    entry_key (.occ i) s = .ok l[i].1 s :=
  bind_ok (hr.itemRef_ok hi)

theorem entry_key_vac (k : K) (s : St K V Q) : entry_key (.vac k) s = .ok k s := rfl

theorem occ_get_mut_eq (hr : Rep s.r l) {i} (hi : i < l.length) (g : V → V) :
    occ_get_mut i g s = .ok (l[i].1, g l[i].2) { s with r := setSlot s.r i (some (l[i].1, g l[i].2)) } :=
  (bind_ok (hr.itemRef_ok hi)).trans (bind_ok (hr.valueReplace_ok hi _))

theorem occ_insert_eq (hr : Rep s.r l) {i} (hi : i < l.length) (v : V) :
    occ_insert E i v s = .ok l[i].2 { s with r := setSlot s.r i (some (l[i].1, v)) } :=
  (bind_ok (unwindWith_of_ok (hr.itemRef_ok hi))).trans (hr.valueReplace_ok hi v)

theorem occ_remove_entry_sat (hr : Rep s.r l) {i} (hi : i < l.length)
    {P} :
    Sat (occ_remove_entry i) s
      (fun p s' => p = l[i] ∧ Rep s'.r (swapRemove l i) ∧ s'.r.cap = s.r.cap ∧ WRel s.w s'.w []) P :=
  remove_index_read_sat hr hi

theorem occ_remove_sat (hr : Rep s.r l) {i} (hi : i < l.length) :
    Sat (occ_remove (Q := Q) i) s
      (fun v s' => v = l[i].2 ∧ Rep s'.r (swapRemove l i) ∧ s'.r.cap = s.r.cap ∧
        WRel s.w s'.w [.dropK l[i].1])
      (fun c s' => Rep s'.r (swapRemove l i) ∧ s'.r.cap = s.r.cap ∧ InjPanic s s' c) := by
  unfold occ_remove
  refine Sat.bind (remove_index_read_sat hr hi) ?_
  intro p s1 ⟨g1, g2, g3, g4⟩
  subst g1
  refine Sat.cb (CbOk.unwindWith (leak_cb (.v l[i].2)) (dropK_cb l[i].1)) ?_ ?_
  · intro _ s2 k1 k2 _
    exact Sat.pure ⟨rfl, k1 ▸ g2, by rw [k1, g3], by simpa using g4.trans k2⟩
  · intro s2 tr' k1 k2 k3 k4
    exact ⟨k1 ▸ g2, by rw [k1, g3], (InjPanic.of_cb k2 k3 k4).after g4⟩

/-- after `entry`, a stage that keeps the container well-formed with its capacity on every valid
    entry does so for the chain (`Qv` is what the stage says of its result and the new list). -/
theorem entry_bind_safe {β : Type} (hr : Rep s.r l) (k : K) {f : EntryS K → SM K V Q β}
    {Qv : β → List (K × V) → Prop}
    (hf : ∀ (s1 : St K V Q) e, Rep s1.r l → Valid l e → Sat (f e) s1
      (fun b s' => ∃ l', Rep s'.r l' ∧ s'.r.cap = s1.r.cap ∧ Qv b l')
      (fun _ s' => ∃ l', Rep s'.r l' ∧ s'.r.cap = s1.r.cap)) :
    Sat (entry E k >>= f) s
      (fun b s' => ∃ l', Rep s'.r l' ∧ s'.r.cap = s.r.cap ∧ Qv b l')
      (fun _ s' => ∃ l', Rep s'.r l' ∧ s'.r.cap = s.r.cap) := by
  refine Sat.bind (Sat.mono (entry_valid E hr k) (fun _ _ h => h) fun _ s' h => ⟨l, h ▸ hr, by rw [h]⟩) ?_
  intro e s1 ⟨h1, hv⟩
  have := hf s1 e (h1 ▸ hr) hv
  rwa [h1] at this

theorem or_insert_occ_benign (hr : Rep s.r l) (hb : Benign s.w) (d : V)
    {i} (hi : i < l.length) :
    ∃ s', or_insert E d (.occ i) s = .ok i s' ∧ s'.r = s.r ∧ WRel s.w s'.w (dropVTr E d) := by
  obtain ⟨_, s', h1, rfl, h2⟩ := (or_insert_occ_sat E hr d hi).must_return (fun _ _ h => h.2.not_benign hb)
  exact ⟨s', h1, h2⟩

/-- `hf` is what `entry` established: under a pure `==` the scan of `insert_ii` misses the key that
    `entry` missed. -/
theorem vacant_insert_room (hE : E.Pure) (hr : Rep s.r l) (hb : Benign s.w) (k : K) (v : V)
    (hf : findKey E l (.key k) = none) (hroom : l.length < s.r.cap) :
    ∃ s', vacant_insert E k v s = .ok l.length s' ∧ Rep s'.r (l ++ [(k, v)]) ∧ s'.r.cap = s.r.cap ∧
      WRel s.w s'.w [] := by
  obtain ⟨idx, s', h1, hc, h2⟩ := (vacant_insert_sat E hr k v).must_return (by
    rintro c s' ⟨_, ⟨hi, _⟩ | ⟨_, _, hfull, _⟩⟩
    · exact hi.not_benign hb
    · omega)
  rcases h2 with ⟨_, _, _, hfj⟩ | ⟨rfl, _, hrep, hw, _⟩
  · rw [hf] at hfj; cases hfj hE
  · exact ⟨s', h1, hrep, hc, hw⟩

theorem vacant_insert_full (hE : E.Pure) (hr : Rep s.r l) (hb : Benign s.w) (k : K) (v : V)
    (hf : findKey E l (.key k) = none) (hfull : l.length = s.r.cap) :
    ∃ c s', vacant_insert E k v s = .panic c s' ∧ s'.r = s.r ∧ OverflowPanic s c ∧
      WRel s.w s'.w (dropVTr E v ++ [.dropK k]) := by
  obtain ⟨c, s', h1, _, h2⟩ := (vacant_insert_sat E hr k v).must_panic (by
    rintro idx s' ⟨_, ⟨_, _, _, hfj⟩ | ⟨_, hroom, _⟩⟩
    · rw [hf] at hfj; cases hfj hE
    · omega)
  rcases h2 with ⟨hi, _⟩ | ⟨hs, ho, _, _, hw⟩
  · exact (hi.not_benign hb).elim
  · exact ⟨c, s', h1, hs, ho, hw⟩

theorem or_insert_with_vac_benign (hb : Benign s.w) (tag : Nat) (mk : V) (key : K) :
    ∃ s1, or_insert_with E tag mk (.vac key) s = vacant_insert E key mk s1 ∧ s1.r = s.r ∧
      WRel s.w s1.w [.call tag] := by
  obtain ⟨_, s1, h1, hs, hw, _⟩ := (CbOk.unwindWith (dropK_cb key) (callF_cb tag)).benign hb
  refine ⟨s1, ?_, hs, hw⟩
  exact bind_ok h1

theorem and_modify_occ_benign (hr : Rep s.r l) (hb : Benign s.w) (g : V → V) {i} (hi : i < l.length) :
    ∃ s', and_modify (Q := Q) g (.occ i) s = .ok (.occ i) s' ∧ Rep s'.r (l.set i (l[i].1, g l[i].2)) ∧
      s'.r.cap = s.r.cap ∧ WRel s.w s'.w [.call 1] := by
  obtain ⟨_, s', h1, rfl, h2, h3, h4⟩ := (and_modify_occ_sat hr g hi).must_return
    (fun _ _ h => h.2.not_benign hb)
  exact ⟨s', h1, h3, h2, h4⟩

/-- `if m.contains_key(&k) { m.get_mut(&k) } else { m.insert(k, v); m.get_mut(&k) }`: the
    returned reference as a slot position (`id`: nothing is written through it). -/
def direct_or_insert (k : K) (v : V) : SM K V Q (Option Nat) := do
  if (← contains_key E (.key k)) then
    pure ((← get_mut E (.key k) id).map (·.1))
  else
    let _ ← insert E k v
    pure ((← get_mut E (.key k) id).map (·.1))

theorem findKey_append_self (hE : E.Lawful) {l : List (K × V)} (k : K) (v : V)
    (hn : findKey E l (.key k) = none) : findKey E (l ++ [(k, v)]) (.key k) = some l.length := by
  rw [findKey_eq_findIdxP] at hn ⊢
  unfold Dict.findIdxP at hn ⊢
  rw [List.findIdx?_append, hn]
  have : E.hitP (.key k : Probe K Q) k = true := hE.refl k
  simp [List.findIdx?_cons, this]

theorem direct_or_insert_benign (hE : E.Lawful) (hr : Rep s.r l) (hb : Benign s.w) (k : K) (v : V) :
    match findKey E l (.key k) with
    | some i => ∃ s', direct_or_insert E k v s = .ok (some i) s' ∧ Rep s'.r l ∧ s'.r.cap = s.r.cap
    | none =>
      (l.length < s.r.cap ∧ ∃ s', direct_or_insert E k v s = .ok (some l.length) s' ∧
        Rep s'.r (l ++ [(k, v)]) ∧ s'.r.cap = s.r.cap) ∨
      (l.length = s.r.cap ∧ ∃ c s', direct_or_insert E k v s = .panic c s' ∧ s'.r = s.r ∧
        OverflowPanic s c) := by
  have hp := hE.toPure
  obtain ⟨s1, h1, hs1, hw1⟩ := contains_key_benign E hp hr hb (.key k)
  have hr1 : Rep s1.r l := hs1 ▸ hr
  have hb1 := hw1.benign hb
  have hd : direct_or_insert E k v s =
      (if (findKey E l (.key k)).isSome then get_mut E (.key k) id >>= fun o => pure (o.map (·.1))
       else insert E k v >>= fun _ => get_mut E (.key k) id >>= fun o => pure (o.map (·.1))) s1 :=
    bind_ok h1
  rw [hd]
  cases hf : findKey E l (.key k) with
  | some i =>
    have g := get_mut_benign E hp hr1 hb1 (.key k) id
    rw [hf] at g
    obtain ⟨hi, s2, g1, g2, g3, _⟩ := g
    exact ⟨s2, by rw [Option.isSome_some, if_pos rfl, bind_ok g1]; rfl,
      List.set_getElem_self hi ▸ g2, g3.trans (by rw [hs1])⟩
  | none =>
    have g := insert_benign E hp hr1 hb1 k v
    rw [hf] at g
    rw [Option.isSome_none, if_neg Bool.false_ne_true]
    rcases g with ⟨hroom, s2, g1, g2, g3, gw⟩ | ⟨hfull, c, s2, g1, g2, g3, _⟩
    · have g := get_mut_benign E hp g2 ((hw1.trans gw).benign hb) (.key k) id
      rw [findKey_append_self E hE k v hf] at g
      obtain ⟨hi, s3, k1, k2, k3, _⟩ := g
      exact Or.inl ⟨hs1 ▸ hroom, s3, by rw [bind_ok g1, bind_ok k1]; rfl,
        List.set_getElem_self hi ▸ k2, by rw [k3, g3, hs1]⟩
    · exact Or.inr ⟨hs1 ▸ hfull, c, s2, by rw [bind_apply, g1], g2.trans hs1,
        g3.after hw1⟩

theorem _root_.Micromap.OverflowPanic.unique {s : St K V Q} {c c'} (h : OverflowPanic s c)
    (h' : OverflowPanic s c') : c = c' := by
  rcases h with ⟨rfl, hp⟩ | ⟨rfl, hp⟩ <;> rcases h' with ⟨rfl, hp'⟩ | ⟨rfl, hp'⟩ <;>
    first | rfl | (rw [hp] at hp'; cases hp')

/-- a computation `m` with the three outcomes of `map.entry(k).or_insert(v)` (whatever its effects
    `t₁`, `t₂`, `t₃`) agrees with `direct_or_insert`: from the same state both return the same slot
    and leave the same list, or both panic with the same overflow class and the container untouched. -/
theorem eq_direct_or_insert (hE : E.Lawful) (hr : Rep s.r l)
    (hb : Benign s.w) (k : K) (v : V) {m : SM K V Q Nat} {t₁ t₂ t₃ : List (Event K V Q)}
    (hocc : ∀ {i}, findKey E l (.key k) = some i →
      ∃ s1, m s = .ok i s1 ∧ s1.r = s.r ∧ WRel s.w s1.w t₁)
    (hroom : findKey E l (.key k) = none → l.length < s.r.cap →
      ∃ s1, m s = .ok l.length s1 ∧ Rep s1.r (l ++ [(k, v)]) ∧ s1.r.cap = s.r.cap ∧ WRel s.w s1.w t₂)
    (hfull : findKey E l (.key k) = none → l.length = s.r.cap →
      ∃ c s1, m s = .panic c s1 ∧ s1.r = s.r ∧ OverflowPanic s c ∧ WRel s.w s1.w t₃) :
    (∃ i l' s1 s2, m s = .ok i s1 ∧ direct_or_insert E k v s = .ok (some i) s2 ∧ Rep s1.r l' ∧
        Rep s2.r l' ∧ s1.r.cap = s.r.cap ∧ s2.r.cap = s.r.cap) ∨
    (∃ c s1 s2, m s = .panic c s1 ∧ direct_or_insert E k v s = .panic c s2 ∧ s1.r = s.r ∧
        s2.r = s.r ∧ OverflowPanic s c) := by
  have hd := direct_or_insert_benign E hE hr hb k v
  cases hf : findKey E l (.key k) with
  | some i =>
    rw [hf] at hd
    obtain ⟨s1, h1, hs1, _⟩ := hocc hf
    obtain ⟨s2, h2, hrep, hc2⟩ := hd
    exact Or.inl ⟨i, l, s1, s2, h1, h2, hs1 ▸ hr, hrep, by rw [hs1], hc2⟩
  | none =>
    rw [hf] at hd
    rcases hd with ⟨hlt, s2, h2, hrep, hc2⟩ | ⟨heq, c', s2, h2, hs2, ho'⟩
    · obtain ⟨s1, h1, hrep1, hc1, _⟩ := hroom hf hlt
      exact Or.inl ⟨l.length, _, s1, s2, h1, h2, hrep1, hrep, hc1, hc2⟩
    · obtain ⟨c, s1, h1, hs1, ho, _⟩ := hfull hf heq
      have := OverflowPanic.unique ho ho'
      subst this
      exact Or.inr ⟨c, s1, s2, h1, h2, hs1, hs2, ho⟩

end Micromap.EntryOps
