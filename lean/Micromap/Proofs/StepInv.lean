/-
Preservation of the invariant by every operation of the operation language (`stepMapOp`,
`stepSetOp`), for any user equality, any injection point and either profile.
-/
import Micromap.Proofs.Inv
import Micromap.Proofs.Iters
import Micromap.Proofs.EqClone
import Micromap.Proofs.FromIter
import Micromap.Proofs.Alg
import Micromap.Proofs.StdIterB

namespace Micromap
variable {K V Q : Type} (E : Env K V Q)

theorem mapRange_wr_keys (g : V → V) (lo hi : Nat) (l : List (K × V)) :
    (Iters.mapRange (Iters.wr g) lo hi l).map (·.1) = l.map (·.1) := by
  apply List.ext_getElem?
  intro i
  simp only [List.getElem?_map, Iters.getElem?_mapRange]
  cases l[i]? with
  | none => split <;> rfl
  | some p => split <;> rfl

theorem opInv_insert_ii (k : K) (v : V) (upd : Bool) : OpInv E (insert_ii E k v upd) := by
  intro s ⟨l, hr, hn⟩
  refine Sat.mono (insert_ii_sat E hr k v upd) ?_ (fun _ _ h => Keeps.of_eq ⟨l, hr, hn⟩ h.1)
  intro a s' ⟨hc, _, h⟩
  refine ⟨?_, hc⟩
  rcases h with ⟨hi, _, hrep, hf⟩ | ⟨_, _, _, hrep, hf⟩
  · refine ⟨_, hrep, ?_⟩
    cases upd with
    | true => exact InvL.set_found hn hf hi v
    | false => exact InvL.set_val hn hi v
  · exact ⟨_, hrep, InvL.append hn hf v⟩

theorem opInv_drainOp (take : Nat) (forget : Bool) : OpInv E (drainOp E take forget) := by
  intro s ⟨l, hr, _⟩
  refine Sat.mono (Iters.drainOp_sat E take forget hr) ?_ ?_
  · intro _ s' ⟨_, hrep, hc, _⟩; exact ⟨⟨[], hrep, InvL.nil⟩, hc⟩
  · intro _ s' ⟨hrep, hc, _⟩; exact ⟨⟨[], hrep, InvL.nil⟩, hc⟩

theorem opInv_intoIterOp (kind : IntoKind) (take : Nat) (forget : Bool) :
    OpInv E (intoIterOp E kind take forget) := by
  intro s ⟨l, hr, _⟩
  refine Sat.mono (Iters.intoIterOp_sat E kind take forget hr) ?_ ?_
  · intro _ s' ⟨_, h, _⟩; exact Keeps.of_new h
  · intro _ s' ⟨h, _⟩; exact Keeps.of_new h

theorem opInv_iterOp (R : Render K V) (kind : IterKind) (g : V → V) (script : List IterCmd) :
    OpInv E (iterOp R kind g script) := by
  intro s ⟨l, hr, hn⟩
  obtain ⟨o, s', e, _, h2, h3, h4⟩ := Iters.iterOp_spec R kind g script hr
  refine Sat.of_ok e ⟨?_, h2⟩
  by_cases hm : Iters.IsMut kind
  · exact ⟨_, h4 hm, InvL.of_keys_eq (mapRange_wr_keys g _ _ l) hn⟩
  · rw [h3 hm]; exact ⟨l, hr, hn⟩

theorem opInv_extendLoop (pulls : Bool) : ∀ xs : List (K × V), OpInv E (extendLoop E pulls xs)
  | [] => by
    unfold extendLoop
    cases pulls
    · exact OpInv.pure ()
    · exact OpInv.of_cb pullSrc_cb
  | (k, v) :: rest => by
    have ih := opInv_extendLoop pulls rest
    have hbody : OpInv E (do
        let o ← unwindWith (dropList E rest) (insert E k v)
        match o with
        | some old => do
          unwindWith (dropList E rest) (dropV E old)
          extendLoop E pulls rest
        | none => extendLoop E pulls rest) := by
      refine OpInv.bind (OpInv.unwindWith (FromIter.dropList_cb E rest) (opInv_insert E k v)) (fun o => ?_)
      cases o with
      | none => exact ih
      | some old =>
        exact OpInv.bind (OpInv.unwindWith (FromIter.dropList_cb E rest) (OpInv.of_cb (dropV_cb E old)))
          (fun _ => ih)
    unfold extendLoop
    cases pulls
    · exact hbody
    · exact OpInv.bind (OpInv.unwindWith (FromIter.dropList_cb E _) (OpInv.of_cb pullSrc_cb)) (fun _ => hbody)

section alg
variable {K Q : Type} (F : Env K Unit Q)
open Alg

/-- Whatever `==` does.  A script is an extended script (`algOpX`) without `nth` / `last`. -/
theorem algOp_quiet (dbg : Bool → K → String) (kind : AlgKind) {a b : Raw K Unit} {la lb : List (K × Unit)}
    (hra : Rep a la) (hrb : Rep b lb) (script : List IterCmd) :
    Quiet (algOp F dbg kind a b script) (fun _ => True) :=
  StdIterB.algOpX_base F dbg kind a b script ▸ StdIterB.algOpX_quiet F hra hrb dbg kind _

end alg

/-- `serialize` walks the container with a copy of the loop of `iter()`. -/
theorem iterAllR_eq_iterRestR (r : Raw K V) (n : Nat) : ∀ i, iterAllR (Q := Q) r n i = iterRestR r n i := by
  induction n with
  | zero => exact fun _ => rfl
  | succ n ih => intro i; unfold iterAllR iterRestR; rw [ih]

/-- `serialize`: announces `len()` and emits exactly the entries `iter()` yields, in order; the
    container and the world are untouched. -/
theorem serializeR_ok {r : Raw K V} {l : List (K × V)} (hr : Rep r l) (s : St K V Q) :
    serializeR (Q := Q) r s =
      .ok (.start (some l.length) :: l.map (fun p => Tok.entry p.1 p.2) ++ [.fin]) s := by
  unfold serializeR
  simp only [hr.len_le_cap, if_true, bind_apply]
  rw [hr.1, iterAllR_eq_iterRestR, Refine.iterRestR_ok hr s l.length 0 (by omega)]
  simp

theorem opInv_decodeK (k : K) : OpInv E (decodeK E k) := fun _ hs => ⟨hs, rfl⟩

theorem opInv_decodeV (v : V) : OpInv E (decodeV E v) := by
  intro s hs
  unfold Sat decodeV
  cases E.vGlue <;> exact ⟨hs, rfl⟩

theorem opInv_visitLoop : ∀ toks : List (Tok K V), OpInv E (visitLoop E toks)
  | [] => by unfold visitLoop; exact OpInv.pure ()
  | .start _ :: _ => by unfold visitLoop; exact OpInv.pure ()
  | .fin :: _ => by unfold visitLoop; exact OpInv.pure ()
  | .entry k v :: rest => by
    unfold visitLoop
    refine OpInv.bind (opInv_decodeK E k) (fun k' => ?_)
    refine OpInv.bind (opInv_decodeV E v) (fun v' => ?_)
    refine OpInv.bind (opInv_insert E k' v') (fun o => ?_)
    cases o with
    | none => exact opInv_visitLoop rest
    | some old => exact OpInv.bind (OpInv.of_cb (dropV_cb E old)) (fun _ => opInv_visitLoop rest)

/-- the operations covered by the invariant theorem: the whole safe API.  Excluded are the two
    `unsafe fn`s (`insert_unchecked`, `get_disjoint_unchecked_mut`), whose contract is the caller's
    business (property C18). -/
def MapOp.safeApi : MapOp K V Q → Bool
  | .insert_unchecked _ _ => false
  | .get_disjoint_mut unchecked _ _ => !unchecked
  | _ => true

/-- the operations that are one call of a dictionary method (all but `insert_unchecked`, the
    entry chains and `get_disjoint_mut`, whose invariant lemmas live in `StepInvEntry.lean`). -/
def MapOp.basic : MapOp K V Q → Bool
  | .insert_unchecked _ _ => false
  | .get_disjoint_mut _ _ _ => false
  | .entry _ _ _ => false
  | _ => true

theorem opInv_readonly2 {α β : Type} {b : Raw K V} (hb : Inv E b) {m : Raw K V → SM K V Q α}
    (hq : ∀ {a : Raw K V} {la lb : List (K × V)}, Rep a la → Rep b lb → OpInv E (m a)) (g : α → β) :
    OpInv E (do let s ← getS; pure (g (← m s.r)) : SM K V Q β) := by
  refine OpInv.getS_bind fun s ⟨la, hra, _⟩ => ?_
  obtain ⟨lb, hrb, _⟩ := hb
  exact (hq hra hrb).bind fun _ => OpInv.pure _

theorem stepMapOp_inv_basic (R : Render K V) (other : Nat → Raw K V) (hother : ∀ o, Inv E (other o))
    (op : MapOp K V Q) (hop : op.basic = true) : OpInv E (stepMapOp E R other op) := by
  cases op with
  | insert k v =>
    exact OpInv.bind (opInv_insert E k v) (fun o => by cases o <;> exact OpInv.pure _)
  | insert_key_value k v =>
    exact OpInv.bind (opInv_insert_key_value E k v) (fun o => by cases o <;> exact OpInv.pure _)
  | checked_insert k v =>
    refine OpInv.bind (opInv_checked_insert E k v) (fun o => ?_)
    cases o with
    | none => exact OpInv.pure _
    | some o' => cases o' <;> exact OpInv.pure _
  | insert_unchecked k v => cases hop
  | get p => exact (opInv_get E p).map _
  | get_key_value p => exact (opInv_get E p).map _
  | get_mut p g => exact (opInv_get_mut E p g).map _
  | contains_key p => exact (opInv_contains_key E p).map _
  | index p => exact (opInv_index E p).map _
  | index_mut p g => exact (opInv_index_mut E p g).map _
  | remove p => exact OpInv.bind (opInv_remove E p) (fun o => by cases o <;> exact OpInv.pure _)
  | remove_entry p => exact OpInv.bind (opInv_remove_entry E p) (fun o => by cases o <;> exact OpInv.pure _)
  | retain f => exact (opInv_retain E f).map _
  | clear => exact (opInv_clear E).map _
  | len => exact (opInv_len E).map _
  | is_empty => exact (opInv_is_empty E).map _
  | capacity => exact (opInv_capacity E).map _
  | drain take forget => exact (opInv_drainOp E take forget).map _
  | into_iter kind take forget => exact (opInv_intoIterOp E kind take forget).map _
  | iter kind g script => exact (opInv_iterOp E R kind g script).map _
  | clone_to dst => exact OpInv.pure _
  | eq o => exact opInv_readonly2 E (hother o) (fun ha hb => .of_cb (EqClone.mapEq_cb E ha hb)) RV.bool
  | from_iter pulls xs => exact OpInv.pure _
  | entry k mods fin => cases hop
  | get_disjoint_mut u g ks => cases hop
  | fmt kind => exact (opInv_fmtMap E R kind).map _
  | drop => exact (opInv_drop E).map _
  | forget => exact (opInv_forget E).map _
  | with_capacity c =>
    refine OpInv.bind (opInv_capacity E) (fun cap => ?_)
    exact (opInv_assertP E _ _).map _
  | serde dst => exact OpInv.pure _

section setops
variable {K Q : Type} (F : Env K Unit Q)

theorem opInv_fmtSet (R : Render K Unit) (kind : FmtKind) : OpInv F (fmtSet R kind) :=
  OpInv.of_read fun s l hr => by
    unfold fmtSet
    simp only [bind_apply, Micromap.getS, Refine.entriesOf_ok hr]
    cases kind <;> exact ⟨_, rfl⟩

def SetOp.basic : SetOp K Q → Bool := fun _ => true

theorem stepSetOp_inv (R : Render K Unit) (other : Nat → Raw K Unit) (hother : ∀ o, Inv F (other o))
    (op : SetOp K Q) : OpInv F (stepSetOp F R other op) := by
  cases op with
  | insert k => exact (opInv_insert F k ()).map _
  | replace k =>
    refine OpInv.bind (opInv_insert_ii F k () true) (fun r => ?_)
    obtain ⟨i, ex⟩ := r
    cases ex <;> exact OpInv.pure _
  | contains p => exact (opInv_contains_key F p).map _
  | get p => exact (opInv_get F p).map _
  | remove p => exact (opInv_remove F p).map _
  | take p => exact OpInv.bind (opInv_remove_entry F p) (fun o => by cases o <;> exact OpInv.pure _)
  | retain f => exact (opInv_retain F _).map _
  | clear => exact (opInv_clear F).map _
  | len => exact (opInv_len F).map _
  | is_empty => exact (opInv_is_empty F).map _
  | capacity => exact (opInv_capacity F).map _
  | drain take forget =>
    refine OpInv.bind (opInv_drainOp F take forget) (fun r => ?_)
    obtain ⟨a, b, c⟩ := r
    exact OpInv.pure _
  | into_iter take forget =>
    refine OpInv.bind (opInv_intoIterOp F .keys take forget) (fun r => ?_)
    obtain ⟨a, b, c⟩ := r
    exact OpInv.pure _
  | iter script => exact (opInv_iterOp F R .keys id script).map _
  | clone_to dst => exact OpInv.pure _
  | eq o => exact opInv_readonly2 F (hother o) (fun ha hb => .of_cb (EqClone.mapEq_cb F ha hb)) RV.bool
  | from_iter pulls xs => exact OpInv.pure _
  | extend pulls xs => exact (opInv_extendLoop F pulls _).map _
  | alg kind o script =>
    exact opInv_readonly2 F (hother o) (fun ha hb => .of_cb (algOp_quiet F R.dbgK kind ha hb script)) RV.list
  | is_subset o => exact opInv_readonly2 F (hother o) (fun ha hb => .of_cb (Alg.is_subset_quiet F ha hb)) RV.bool
  | is_superset o => exact opInv_readonly2 F (hother o) (fun ha hb => .of_cb (Alg.is_superset_quiet F ha hb)) RV.bool
  | is_disjoint o => exact opInv_readonly2 F (hother o) (fun ha hb => .of_cb (Alg.is_disjoint_quiet F ha hb)) RV.bool
  | sub o dst => exact OpInv.pure _
  | fmt kind => exact (opInv_fmtSet F R kind).map _
  | drop => exact (opInv_drop F).map _
  | forget => exact (opInv_forget F).map _
  | serde dst => exact OpInv.pure _
  | extend_from o => exact OpInv.pure _

end setops

end Micromap
