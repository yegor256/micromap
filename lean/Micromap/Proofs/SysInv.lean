/-
System level: the invariant of all registers is preserved by `step`, hence by `run` — under ANY
user equality, with ANY injected panic, in either profile.  Stated once for an operation that is
only known to keep the invariant on the map register it runs on (`stepCore_inv_of`,
`step_inv_of_core`, `run_inv_of`), then for every history of safe operations (`step_inv`, `run_inv`).
This is the common core of C02 (no `ub`: no dead slot is ever read, compared, returned or
dropped), C04 (exception safety), C05 (well-formedness) and C17 (lying `Eq`).
-/
import Micromap.Proofs.StepInvEntry
import Micromap.Proofs.StepEqs

namespace Micromap
variable {K V Q : Type} (E : Env K V Q)

/-- a computation run on a scratch local that is dropped on unwinding (`from_iter`, `clone`,
    `&a - &b`).  Nothing is claimed after unwinding: the local is gone, no register has changed. -/
theorem scratch_sat {body : SM K V Q Unit} (hb : OpInv E body) {s : St K V Q} (hs : Inv E s.r) :
    Sat (Micromap.unwindWith (dropMap E) body) s (fun _ s' => Inv E s'.r ∧ s'.r.cap = s.r.cap)
      (fun _ _ => True) := by
  refine Sat.unwindWith (hb s hs) ?_
  intro c s' ⟨hI, _⟩
  obtain ⟨l, hr, _⟩ := hI
  have hr' : Rep (s'.setUnw true).r l := hr
  refine Sat.mono (dropMap_sat E hr') (fun _ _ _ => trivial) ?_
  intro c' s'' ⟨_, _, hinj⟩
  have := hinj.2.2.1
  simp at this

theorem Env.Good.toUnit {E : Env K V Q} (h : E.Good) : E.toUnit.Good := ⟨h.1.toUnit, h.2⟩

theorem cloneInto_inv {src : Raw K V} (hsrc : Inv E src) (w : World K V Q) :
    Sat (cloneInto E src) ⟨Raw.new src.cap, w⟩ (fun _ s' => Inv E s'.r ∧ s'.r.cap = src.cap)
      (fun _ _ => True) := by
  obtain ⟨l, hr, hn⟩ := hsrc
  refine Sat.mono (EqClone.cloneInto_sat E hr (s := ⟨Raw.new src.cap, w⟩) (EqClone.Fresh.new _) rfl) ?_
    (fun _ _ _ => trivial)
  intro _ s' ⟨hc, l', hf, hcl, _⟩
  exact ⟨⟨l', hf.1, fun hg => EqClone.ClonesOf.nodupKeys hg.1 hg.2 hcl (hn hg)⟩, hc⟩

theorem opInv_subLoop (F : Env K Unit Q) {a b : Raw K Unit} {la lb : List (K × Unit)} (hra : Rep a la)
    (hrb : Rep b lb) : ∀ (n : Nat) (it : SliceIt), it.hi ≤ la.length → OpInv F (subLoop F a b n it)
  | 0, _, _ => OpInv.pure ()
  | n + 1, it, hit => by
    unfold subLoop
    refine OpInv.bind_cb (Alg.filtNext_quiet F hra hrb false it hit) ?_
    rintro _ ⟨o, it'⟩ ⟨h3, _⟩
    cases o with
    | none => exact OpInv.pure ()
    | some x =>
      refine OpInv.bind (OpInv.of_cb (EqClone.cloneK_cb F x.2)) fun k' => ?_
      exact OpInv.bind (opInv_insert F k' ()) fun _ => opInv_subLoop F hra hrb n it' (h3 ▸ hit)

/-- the body of `&a - &b` (`subInto` runs it on a scratch local). -/
theorem opInv_subBody (F : Env K Unit Q) {a b : Raw K Unit} {la lb : List (K × Unit)} (hra : Rep a la)
    (hrb : Rep b lb) : OpInv F (do let it ← iterStartR a; subLoop F a b (it.len + 1) it) :=
  fun s hs => Sat.bind_ok (hra.iterStartR_ok s) (opInv_subLoop F hra hrb _ _ (Nat.le_refl _) s hs)

theorem subInto_inv (F : Env K Unit Q) {a b : Raw K Unit} (ha : Inv F a) (hb : Inv F b)
    (w : World K Unit Q) :
    Sat (subInto F a b) ⟨Raw.new a.cap, w⟩ (fun _ s' => Inv F s'.r ∧ s'.r.cap = a.cap) (fun _ _ => True) := by
  obtain ⟨la, hra, _⟩ := ha
  obtain ⟨lb, hrb, _⟩ := hb
  exact scratch_sat F (opInv_subBody F hra hrb) (s := ⟨Raw.new a.cap, w⟩) (Inv.new F _)

/-- all registers satisfy the invariant (set registers w.r.t. the `V = ()` instance of the
    user code). -/
def SysInv (sys : Sys K V Q) : Prop :=
  (∀ i, Inv E (sys.maps i)) ∧ (∀ i, Inv E.toUnit (sys.sets i))

theorem SysInv.init (capM capS : Nat → Nat) (w : World K V Q) : SysInv E (Sys.init capM capS w) :=
  ⟨fun _ => Inv.new E _, fun _ => Inv.new _ _⟩

theorem inv_updReg {α : Type} {P : α → Prop} {f : Nat → α} (hf : ∀ i, P (f i)) (i : Nat) {x : α} (hx : P x) :
    ∀ j, P (updReg f i x j) := by
  intro j; unfold updReg; split
  · exact hx
  · exact hf j

/-- outcome of a system-level computation: not `ub`, and the invariant holds afterwards. -/
def ResInv {α : Type} (r : Res (Sys K V Q) α) : Prop :=
  match r with
  | .ok _ s => SysInv E s
  | .panic _ s => SysInv E s
  | .ub => False

theorem ResInv.mapVal {E : Env K V Q} {α β : Type} {r : Res (Sys K V Q) α} (h : ResInv E r) (f : α → β) :
    ResInv E (r.mapVal f) := by
  cases r <;> exact h

theorem runOnMap_inv_at {α : Type} {m : SM K V Q α} {sys : Sys K V Q} (hs : SysInv E sys) (i : Nat)
    (hm : OpInvAt E m ⟨sys.maps i, sys.w⟩) : ResInv E (runOnMap sys i m) := by
  unfold runOnMap
  rcases Refine.outcome hm with ⟨a, s, h, hk⟩ | ⟨c, s, h, hk⟩ <;> rw [h] <;>
    exact ⟨inv_updReg hs.1 i hk.1, hs.2⟩

theorem runOnSet_inv_at {α : Type} {m : SM K Unit Q α} {sys : Sys K V Q} (hs : SysInv E sys) (i : Nat)
    (hm : OpInvAt E.toUnit m ⟨sys.sets i, sys.w.toUnit⟩) : ResInv E (runOnSet sys i m) := by
  unfold runOnSet
  rcases Refine.outcome hm with ⟨a, s, h, hk⟩ | ⟨c, s, h, hk⟩ <;> rw [h] <;>
    exact ⟨hs.1, inv_updReg hs.2 i hk.1⟩

theorem runOnMap_inv {α : Type} {m : SM K V Q α} (hm : OpInv E m) {sys : Sys K V Q} (hs : SysInv E sys)
    (i : Nat) : ResInv E (runOnMap sys i m) :=
  runOnMap_inv_at E hs i (hm _ (hs.1 i))

theorem runOnSet_inv {α : Type} {m : SM K Unit Q α} (hm : OpInv E.toUnit m) {sys : Sys K V Q}
    (hs : SysInv E sys) (i : Nat) : ResInv E (runOnSet sys i m) :=
  runOnSet_inv_at E hs i (hm _ (hs.2 i))

/-- `*dst = built`: the old value of `dst` is dropped only after the new one exists, and a drop
    leaves a `new()` behind whether or not it unwinds. -/
theorem assignMap_inv {sys : Sys K V Q} (hs : SysInv E sys) (dst cap : Nat) {build : SM K V Q Unit}
    (hb : ∀ w, Sat build ⟨Raw.new cap, w⟩ (fun _ s' => Inv E s'.r ∧ s'.r.cap = cap) (fun _ _ => True)) :
    ResInv E (assignMap E sys dst cap build) := by
  unfold assignMap
  rcases Refine.outcome (hb sys.w) with ⟨_, s, h, hk⟩ | ⟨c, s, h, _⟩ <;> simp only [h]
  · obtain ⟨l, hrep, _⟩ := hs.1 dst
    rcases Refine.outcome (dropAndRenew_sat E (s := ⟨sys.maps dst, s.w⟩) hrep) with
      ⟨_, s', h', _⟩ | ⟨c, s', h', _⟩ <;> rw [h'] <;> exact ⟨inv_updReg hs.1 dst hk.1, hs.2⟩
  · exact hs

theorem assignSet_inv {sys : Sys K V Q} (hs : SysInv E sys) (dst cap : Nat) {build : SM K Unit Q Unit}
    (hb : ∀ w, Sat build ⟨Raw.new cap, w⟩ (fun _ s' => Inv E.toUnit s'.r ∧ s'.r.cap = cap)
      (fun _ _ => True)) :
    ResInv E (assignSet E sys dst cap build) := by
  unfold assignSet
  rcases Refine.outcome (hb sys.w.toUnit) with ⟨_, s, h, hk⟩ | ⟨c, s, h, _⟩ <;> simp only [h]
  · obtain ⟨l, hrep, _⟩ := hs.2 dst
    rcases Refine.outcome (dropAndRenew_sat E.toUnit (s := ⟨sys.sets dst, s.w⟩) hrep) with
      ⟨_, s', h', _⟩ | ⟨c, s', h', _⟩ <;> rw [h'] <;> exact ⟨hs.1, inv_updReg hs.2 dst hk.1⟩
  · exact hs

/-- outcome of the loop of `extend_from` on the pair (source register, destination register): not
    `ub`, and BOTH registers satisfy the invariant and keep their capacities — whether the loop
    ran to its end or unwound (then the rest of the source has been dropped: a fresh `new()`). -/
def PairInv (F : Env K Unit Q) (cs cd : Nat) (r : Res (Raw K Unit × St K Unit Q) Unit) : Prop :=
  match r with
  | .ok _ x => (Inv F x.1 ∧ x.1.cap = cs) ∧ (Inv F x.2.r ∧ x.2.r.cap = cd)
  | .panic _ x => (Inv F x.1 ∧ x.1.cap = cs) ∧ (Inv F x.2.r ∧ x.2.r.cap = cd)
  | .ub => False

/-- **the loop of `a.extend(b)`** keeps both sets well-formed in ANY world: with an injected panic
    inside `insert` (a panicking `==`), with the destination overflowing, in either profile.  The
    clean-up drop of the rest of the source runs in unwinding mode and therefore completes. -/
theorem extendFromLoop_inv (F : Env K Unit Q) : ∀ (n : Nat) (rs : Raw K Unit) (sd : St K Unit Q),
    Inv F rs → Inv F sd.r → PairInv F rs.cap sd.r.cap (extendFromLoop F n rs sd)
  | 0, rs, sd, hs, hd => ⟨⟨hs, rfl⟩, hd, rfl⟩
  | n + 1, rs, sd, hs, hd => by
    obtain ⟨l, hr, hn⟩ := hs
    have hs1 : ∀ {s1 : St K Unit Q}, Rep s1.r l.dropLast → Inv F s1.r :=
      fun h => ⟨_, h, InvL.sublist hn (List.dropLast_sublist l)⟩
    unfold extendFromLoop
    rcases (Iters.intoIterNextK_sat F .keys (s := ⟨rs, sd.w⟩) hr).cases with
      ⟨o, s1, hm, _, h2, h3, _⟩ | ⟨c, s1, hm, h2, h3, _⟩ <;> simp only [hm]
    · cases o with
      | none => exact ⟨⟨hs1 h2, h3⟩, hd, rfl⟩
      | some p =>
        rcases (opInv_insert F p.1 () ⟨sd.r, s1.w⟩ hd).cases with ⟨a, s2, hi, h4⟩ | ⟨c, s2, hi, h4⟩ <;>
          simp only [hi]
        · have ih := extendFromLoop_inv F n s1.r s2 (hs1 h2) h4.1
          rw [h3, h4.2] at ih
          exact ih
        · -- the rest of the source is dropped in unwinding mode: that drop cannot unwind again
          obtain ⟨_, s3, hdr, h6, _⟩ := (Iters.dropAndRenew_unw F
            (s := (⟨s1.r, s2.w⟩ : St K Unit Q).setUnw true) h2 rfl).must_return (fun _ _ h => h)
          simp only [hdr]
          exact ⟨⟨h6 ▸ Inv.new F _, by rw [h6]; exact h3⟩, h4.1, h4.2⟩
    · exact ⟨⟨hs1 h2, h3⟩, hd, rfl⟩

theorem extendFrom_inv {sys : Sys K V Q} (hs : SysInv E sys) (i j : Nat) :
    ResInv E (extendFrom E sys i j) := by
  have h := extendFromLoop_inv E.toUnit ((sys.sets j).len + 1) (sys.sets j) ⟨sys.sets i, sys.w.toUnit⟩
    (hs.2 j) (hs.2 i)
  have hfin : ∀ (rs rd : Raw K Unit) (u : World K Unit Q), Inv E.toUnit rs → Inv E.toUnit rd →
      SysInv E (extendFin sys i j rs rd u) := fun rs rd u h1 h2 =>
    ⟨hs.1, inv_updReg (inv_updReg hs.2 j h1) i h2⟩
  unfold extendFrom
  cases hl : extendFromLoop E.toUnit ((sys.sets j).len + 1) (sys.sets j) ⟨sys.sets i, sys.w.toUnit⟩ with
  | ub => rw [hl] at h; exact h.elim
  | panic c x => rw [hl] at h; exact hfin _ _ _ h.1.1 h.2.1
  | ok u x =>
    rw [hl] at h
    obtain ⟨l, hrep, _⟩ := h.1.1
    rcases (dropAndRenew_sat E.toUnit (s := ⟨x.1, x.2.w⟩) hrep).cases with
      ⟨_, s4, hd, h4⟩ | ⟨c, s4, hd, h4⟩ <;> simp only [hd] <;> exact hfin _ _ _ (h4 ▸ Inv.new _ _) h.2.1

variable (R : Render K V)

/-- every operation of a map register except `insert_unchecked`, which needs its contract:
    `get_disjoint_unchecked_mut` keeps the invariant for ANY request list (see `opInv_slots`). -/
theorem stepMapOp_inv (other : Nat → Raw K V) (hother : ∀ o, Inv E (other o))
    (op : MapOp K V Q) (hop : ∀ k v, op ≠ .insert_unchecked k v) : OpInv E (stepMapOp E R other op) := by
  cases op with
  | entry k mods fin => exact opInv_entryOp E k mods fin
  | get_disjoint_mut u g ks =>
    cases u with
    | true => exact opInv_gdm_unchecked E g ks
    | false => exact opInv_gdm E g ks
  | insert_unchecked k v => exact absurd rfl (hop k v)
  | _ => exact stepMapOp_inv_basic E R other hother _ rfl

/-- the operations the system-level theorems cover: the whole operation language except the
    two `unsafe fn`s (`insert_unchecked`, `get_disjoint_unchecked_mut`). -/
def Op.safeApi : Op K V Q → Bool
  | .map _ op => op.safeApi
  | .umap _ op => op.safeApi
  | _ => true

theorem resInv_rewrap {α : Type} {r : Res (Sys K V Q) α} (h : ResInv E r) :
    ResInv E (match r with | .ok _ s => .ok RV.unit s | .panic c s => .panic c s | .ub => (.ub : Res (Sys K V Q) (RV K V))) := by
  cases r <;> exact h

theorem from_iter_inv (pulls : Bool) (xs : List (K × V)) (cap : Nat) (w : World K V Q) :
    Sat (from_iter E pulls xs) ⟨Raw.new cap, w⟩ (fun _ s' => Inv E s'.r ∧ s'.r.cap = cap) (fun _ _ => True) :=
  scratch_sat E (opInv_extendLoop E pulls xs) (s := ⟨Raw.new cap, w⟩) (Inv.new E _)

theorem deserializeInto_inv (toks : List (Tok K V)) (cap : Nat) (w : World K V Q) :
    Sat (deserializeInto E toks) ⟨Raw.new cap, w⟩ (fun _ s' => Inv E s'.r ∧ s'.r.cap = cap)
      (fun _ _ => True) := by
  refine scratch_sat E ?_ (s := ⟨Raw.new cap, w⟩) (Inv.new E _)
  split
  · exact opInv_visitLoop E _
  · exact OpInv.pure ()

/-- the hypotheses concern only an operation that runs on a single map register; everything else
    (set operations, the operations that involve a scratch or a second register) needs nothing.
    Instantiated by `stepCore_inv` (safe API) and by `UncheckedInv.stepCore_inv_insertContract`
    (`insert_unchecked` inside its contract). -/
theorem stepCore_inv_of {sys : Sys K V Q} (hs : SysInv E sys) (op : Op K V Q)
    (hm : ∀ reg mop, op = .map reg mop → OpInvAt E (stepMapOp E R sys.maps mop) ⟨sys.maps reg, sys.w⟩)
    (hu : ∀ reg uop, op = .umap reg uop →
      OpInvAt E.toUnit (stepMapOp E.toUnit R.toUnit sys.sets uop) ⟨sys.sets reg, sys.w.toUnit⟩) :
    ResInv E (stepCore E R sys op) := by
  cases op with
  | map reg mop =>
    by_cases h : mop.atSys = false
    · rw [stepCore_map E R sys reg h]; exact runOnMap_inv_at E hs reg (hm reg mop rfl)
    · unfold MapOp.atSys at h
      split at h
      · rw [stepCore_map_clone_to]
        exact (assignMap_inv E hs _ _ (cloneInto_inv E (hs.1 reg))).mapVal _
      · rw [stepCore_map_from_iter]
        exact (assignMap_inv E hs reg _ (from_iter_inv E _ _ _)).mapVal _
      · obtain ⟨l, hr, _⟩ := hs.1 reg
        rw [stepCore_map_serde E R sys reg _ (serializeR_ok hr _)]
        exact (assignMap_inv E (sys := { sys with w := sys.w }) hs _ _ (deserializeInto_inv E _ _)).mapVal _
      · exact absurd rfl h
  | set reg sop =>
    by_cases h : sop.atSys = false
    · rw [stepCore_set E R sys reg h]
      exact (runOnSet_inv E (stepSetOp_inv E.toUnit R.toUnit sys.sets hs.2 sop) hs reg).mapVal _
    · unfold SetOp.atSys at h
      split at h
      · rw [stepCore_set_clone_to]
        exact (assignSet_inv E hs _ _ (cloneInto_inv E.toUnit (hs.2 reg))).mapVal _
      · rw [stepCore_set_from_iter]
        exact (assignSet_inv E hs reg _ (from_iter_inv E.toUnit _ _ _)).mapVal _
      · rw [stepCore_set_sub]
        exact (assignSet_inv E hs _ _ (subInto_inv E.toUnit (hs.2 reg) (hs.2 _))).mapVal _
      · obtain ⟨l, hr, _⟩ := hs.2 reg
        rw [stepCore_set_serde E R sys reg _ (serializeR_ok hr _)]
        exact (assignSet_inv E (sys := { sys with w := sys.w.mergeUnit sys.w.toUnit }) hs _ _
          (deserializeInto_inv E.toUnit _ _)).mapVal _
      · rename_i o
        by_cases ho : o = reg
        · subst ho; rw [stepCore_set_extend_from_self]; exact hs
        · rw [stepCore_set_extend_from E R sys reg ho]; exact (extendFrom_inv E hs reg o).mapVal _
      · exact absurd rfl h
  | umap reg uop =>
    by_cases h : uop.atSys = false
    · rw [stepCore_umap E R sys reg h]; exact (runOnSet_inv_at E hs reg (hu reg uop rfl)).mapVal _
    · rw [stepCore_umap_atSys E R sys reg (by simpa using h)]; exact hs
  | inject j => exact hs
  | endCase => exact hs

theorem MapOp.ne_insert_unchecked_of_safeApi {op : MapOp K V Q} (h : op.safeApi = true) (k : K) (v : V) :
    op ≠ .insert_unchecked k v := by
  rintro rfl; cases h

/-- `Op.safeApi` also excludes `get_disjoint_unchecked_mut`, which `stepMapOp_inv`
    covers for any request list: that part of the hypothesis is not used here. -/
theorem stepCore_inv {sys : Sys K V Q} (hs : SysInv E sys) (op : Op K V Q) (hop : op.safeApi = true) :
    ResInv E (stepCore E R sys op) := by
  refine stepCore_inv_of E R hs op (fun reg mop h => ?_) (fun reg uop h => ?_) <;> subst h
  · exact stepMapOp_inv E R _ hs.1 mop (MapOp.ne_insert_unchecked_of_safeApi hop) _ (hs.1 reg)
  · exact stepMapOp_inv E.toUnit R.toUnit _ hs.2 uop (MapOp.ne_insert_unchecked_of_safeApi hop) _ (hs.2 reg)

theorem dropAllRegs_goM_inv : ∀ (n i : Nat) (sys : Sys K V Q), SysInv E sys →
    ResInv E (dropAllRegs.goM E n i sys)
  | 0, _, sys, hs => hs
  | n + 1, i, sys, hs => by
    unfold dropAllRegs.goM
    have h := runOnMap_inv E (opInv_drop E) hs i
    cases hr : runOnMap sys i (dropAndRenew E) <;> rw [hr] at h
    · exact dropAllRegs_goM_inv n (i + 1) _ h
    · exact dropAllRegs_goM_inv n (i + 1) _ h
    · exact h.elim

theorem dropAllRegs_goS_inv : ∀ (n i : Nat) (sys : Sys K V Q), SysInv E sys →
    ResInv E (dropAllRegs.goS E n i sys)
  | 0, _, sys, hs => hs
  | n + 1, i, sys, hs => by
    unfold dropAllRegs.goS
    have h := runOnSet_inv E (opInv_drop E.toUnit) hs i
    cases hr : runOnSet sys i (dropAndRenew E.toUnit) <;> rw [hr] at h
    · exact dropAllRegs_goS_inv n (i + 1) _ h
    · exact dropAllRegs_goS_inv n (i + 1) _ h
    · exact h.elim

theorem dropAllRegs_inv {sys : Sys K V Q} (hs : SysInv E sys) : ResInv E (dropAllRegs E sys) := by
  unfold dropAllRegs
  have h := dropAllRegs_goM_inv E nRegs 0 sys hs
  cases hr : dropAllRegs.goM E nRegs 0 sys <;> rw [hr] at h
  · exact dropAllRegs_goS_inv E nRegs 0 _ h
  · exact h
  · exact h.elim

theorem sysInv_world {sys : Sys K V Q} (hs : SysInv E sys) (w : World K V Q) : SysInv E { sys with w := w } := hs

theorem ResInv.stepOut {E : Env K V Q} {r : Res (Sys K V Q) (RV K V)} (h : ResInv E r) (sys : Sys K V Q) (op : Op K V Q) :
    (stepOut sys op r).2.outcome ≠ .ub ∧ SysInv E (stepOut sys op r).1 := by
  cases r with
  | ok a s => exact ⟨by simp [Micromap.stepOut], h⟩
  | panic c s => exact ⟨by simp [Micromap.stepOut], h⟩
  | ub => exact h.elim

theorem step_inv_of_core {sys : Sys K V Q} (hs : SysInv E sys) (op : Op K V Q)
    (h : ResInv E (stepCore E R { sys with w := { sys.w with events := [] } } op)) :
    (step E R sys op).2.outcome ≠ .ub ∧ SysInv E (step E R sys op).1 := by
  by_cases hi : ∃ j, op = .inject j
  · obtain ⟨j, rfl⟩ := hi; exact ⟨by simp [step], hs⟩
  by_cases he : op = .endCase
  · subst he
    have h := dropAllRegs_inv E (sys := { sys with w := { { sys.w with events := [] } with inject := none } }) hs
    unfold step
    simp only
    cases hr : dropAllRegs E _ <;> rw [hr] at h
    · exact ⟨by simp, h⟩
    · exact ⟨by simp, h⟩
    · exact h.elim
  · rw [step_eq_stepOut E R sys (fun j e => hi ⟨j, e⟩) he]; exact h.stepOut sys op

/-- **One step of the system**: from registers that satisfy the invariant, no operation reaches
    `ub` and all registers satisfy the invariant afterwards — whether the operation returned,
    panicked by itself (overflow, missing index, overlap) or unwound from an injected panic in
    user code. -/
theorem step_inv {sys : Sys K V Q} (hs : SysInv E sys) (op : Op K V Q) (hop : op.safeApi = true) :
    (step E R sys op).2.outcome ≠ .ub ∧ SysInv E (step E R sys op).1 :=
  step_inv_of_core E R hs op (stepCore_inv E R (sys := { sys with w := { sys.w with events := [] } }) hs op hop)

/-- the induction over a history, for any condition `A` on (state, rest of the history) that
    makes the head's step safe and passes to the tail from the state that step leaves: "all
    operations safe" for `run_inv`, `InsertContractAlong` for `UncheckedInv.run_inv_insertContract`. -/
theorem run_inv_of {A : Sys K V Q → List (Op K V Q) → Prop}
    (hA : ∀ sys op ops, SysInv E sys → A sys (op :: ops) →
      ((step E R sys op).2.outcome ≠ .ub ∧ SysInv E (step E R sys op).1) ∧ A (step E R sys op).1 ops) :
    ∀ (ops : List (Op K V Q)) (sys : Sys K V Q), SysInv E sys → A sys ops →
      (∀ o, o ∈ (run E R sys ops).2 → o.outcome ≠ .ub) ∧ SysInv E (run E R sys ops).1
  | [], sys, hs, _ => ⟨fun _ h => (nomatch h), hs⟩
  | op :: ops, sys, hs, ha => by
    obtain ⟨h1, ha'⟩ := hA sys op ops hs ha
    have h2 := run_inv_of hA ops (step E R sys op).1 h1.2 ha'
    refine ⟨fun o ho => ?_, h2.2⟩
    rcases List.mem_cons.mp ho with rfl | ho'
    · exact h1.1
    · exact h2.1 o ho'

/-- **Every history.**  For any list of operations (no bound on its length), any user equality,
    any armed injections, any profile: no step reaches `ub` and the invariant holds at the end
    (hence, by the same theorem applied to prefixes, after every step). -/
theorem run_inv : ∀ (ops : List (Op K V Q)) (sys : Sys K V Q), SysInv E sys →
    (∀ op, op ∈ ops → op.safeApi = true) →
    (∀ o, o ∈ (run E R sys ops).2 → o.outcome ≠ .ub) ∧ SysInv E (run E R sys ops).1 :=
  run_inv_of E R (A := fun _ ops => ∀ op, op ∈ ops → op.safeApi = true) fun _ op _ hs h =>
    ⟨step_inv E R hs op (h op (List.mem_cons_self ..)), fun o ho => h o (List.mem_cons_of_mem _ ho)⟩

end Micromap
