/-
Triples of the public dictionary API of `map.rs` / `index.rs`.
-/
import Micromap.Proofs.MapOps

namespace Micromap
open Dict (swapRemove)
variable {K V Q : Type} (E : Env K V Q)

variable {s : St K V Q} {l : List (K × V)} (hr : Rep s.r l)
include hr

theorem insert_key_value_sat (k : K) (v : V) :
    Sat (insert_key_value E k v) s
      (fun res s' => s'.r.cap = s.r.cap ∧ WRel s.w s'.w [] ∧
        ((∃ i, ∃ hi : i < l.length, res = some l[i] ∧ Rep s'.r (l.set i (k, v)) ∧
            (E.Pure → findKey E l (.key k) = some i)) ∨
         (res = none ∧ l.length < s.r.cap ∧ Rep s'.r (l ++ [(k, v)]) ∧
            (E.Pure → findKey E l (.key k) = none))))
      (fun c s' => s'.r = s.r ∧
        (InjPanic s s' c ∨
         (OverflowPanic s c ∧ l.length = s.r.cap ∧ (E.Pure → findKey E l (.key k) = none) ∧
            WRel s.w s'.w (dropVTr E v ++ [.dropK k])))) := by
  unfold insert_key_value
  refine Sat.bind (insert_ii_sat E hr k v true) ?_
  rintro ⟨i, old⟩ s1 h
  dsimp only at h
  obtain ⟨hcap, hw, ⟨hi, rfl, hrep, hfind⟩ | ⟨_, rfl, hroom, hrep, hfind⟩⟩ := h
  · exact Sat.pure ⟨hcap, hw, Or.inl ⟨i, hi, rfl, hrep, hfind⟩⟩
  · exact Sat.pure ⟨hcap, hw, Or.inr ⟨rfl, hroom, hrep, hfind⟩⟩

/-- `insert_ii_for_full`: replace-only. -/
theorem insert_ii_for_full_sat (k : K) (v : V) (upd : Bool) :
    Sat (insert_ii_for_full E k v upd) s
      (fun res s' => s'.r.cap = s.r.cap ∧
        ((∃ i, ∃ hi : i < l.length,
            res = some (i, if upd then l[i] else (k, l[i].2)) ∧
            Rep s'.r (l.set i (if upd then (k, v) else (l[i].1, v))) ∧ WRel s.w s'.w [] ∧
            (E.Pure → findKey E l (.key k) = some i)) ∨
         (res = none ∧ s'.r = s.r ∧ WRel s.w s'.w (dropVTr E v ++ [.dropK k]) ∧
            (E.Pure → findKey E l (.key k) = none))))
      (fun c s' => s'.r = s.r ∧ InjPanic s s' c) := by
  unfold insert_ii_for_full
  refine Sat.bind (Sat.unwindWith_cb (dropArgs_cb E k v) (scan_at E hr (.key k))
    fun _ _ _ ⟨h1, h2⟩ g1 g2 => ⟨g1.trans h1, h2.extend g2⟩) ?_
  intro o s1 ⟨h1, h2, h3, h4⟩
  have hr1 : Rep s1.r l := h1 ▸ hr
  have hc1 : s1.r.cap = s.r.cap := by rw [h1]
  cases o with
  | some i =>
    have hi := h3 i rfl
    have hf : E.Pure → findKey E l (.key k) = some i := fun hp => (h4 hp).symm
    cases upd with
    | true =>
      exact Sat.bind_ok (hr1.pairReplace_ok hi (k, v))
        (Sat.pure ⟨hc1, Or.inl ⟨i, hi, rfl, hr1.set hi (k, v), h2, hf⟩⟩)
    | false =>
      exact Sat.bind_ok (hr1.valueReplace_ok hi v)
        (Sat.pure ⟨hc1, Or.inl ⟨i, hi, rfl, hr1.set hi (l[i].1, v), h2, hf⟩⟩)
  | none =>
    refine Sat.bind (((dropArgs_cb E k v).at s1).after h1 h2) ?_
    intro _ s2 ⟨g1, g2, _⟩
    exact Sat.pure ⟨by rw [g1], Or.inr ⟨rfl, g1, g2, fun hp => (h4 hp).symm⟩⟩

theorem contains_key_cb (pr : Probe K Q) :
    Sat (contains_key E pr) s
      (fun b s' => s'.r = s.r ∧ WRel s.w s'.w [] ∧ (E.Pure → b = (findKey E l pr).isSome))
      (fun c s' => s'.r = s.r ∧ InjPanic s s' c) := by
  unfold contains_key
  refine Sat.bind (scan_at E hr pr) ?_
  intro o s1 ⟨h1, h2, _, h4⟩
  exact Sat.pure ⟨h1, h2, fun hp => by rw [h4 hp]⟩

/-- `get` / `get_key_value`: slot position and the stored pair. -/
theorem get_sat (pr : Probe K Q) :
    Sat (get E pr) s
      (fun o s' => s'.r = s.r ∧ WRel s.w s'.w [] ∧
        (∀ i p, o = some (i, p) → ∃ hi : i < l.length, p = l[i]) ∧
        (E.Pure → o.map (·.1) = findKey E l pr))
      (fun c s' => s'.r = s.r ∧ InjPanic s s' c) := by
  unfold get
  refine Sat.bind (scan_at E hr pr) ?_
  intro o s1 ⟨h1, h2, h3, h4⟩
  have hr1 : Rep s1.r l := h1 ▸ hr
  cases o with
  | none => exact Sat.pure ⟨h1, h2, fun _ _ h => (by cases h), h4⟩
  | some i =>
    have hi := h3 i rfl
    refine Sat.bind_ok (hr1.itemRef_ok hi) (Sat.pure ⟨h1, h2, fun j p h => ?_, h4⟩)
    cases h; exact ⟨hi, rfl⟩

/-- `get_mut` followed by a write through the reference. -/
theorem get_mut_sat (pr : Probe K Q) (g : V → V) :
    Sat (get_mut E pr g) s
      (fun o s' => s'.r.cap = s.r.cap ∧ WRel s.w s'.w [] ∧
        ((o = none ∧ s'.r = s.r) ∨
         (∃ i, ∃ hi : i < l.length, o = some (i, (l[i].1, g l[i].2)) ∧ Rep s'.r (l.set i (l[i].1, g l[i].2)))) ∧
        (E.Pure → o.map (·.1) = findKey E l pr))
      (fun c s' => s'.r = s.r ∧ InjPanic s s' c) := by
  unfold get_mut
  refine Sat.bind (scan_at E hr pr) ?_
  intro o s1 ⟨h1, h2, h3, h4⟩
  have hr1 : Rep s1.r l := h1 ▸ hr
  have hc1 : s1.r.cap = s.r.cap := by rw [h1]
  cases o with
  | none => exact Sat.pure ⟨hc1, h2, Or.inl ⟨rfl, h1⟩, h4⟩
  | some i =>
    have hi := h3 i rfl
    exact Sat.bind_ok (hr1.itemRef_ok hi) (Sat.bind_ok (hr1.valueReplace_ok hi (g l[i].2))
      (Sat.pure ⟨hc1, h2, Or.inr ⟨i, hi, rfl, hr1.set hi _⟩, h4⟩))

/-- `Index::index`: panics `noentry` exactly when the scan finds nothing. -/
theorem index_sat (pr : Probe K Q) :
    Sat (index E pr) s
      (fun r s' => s'.r = s.r ∧ WRel s.w s'.w [] ∧ (∃ hi : r.1 < l.length, r.2 = l[r.1]) ∧
        (E.Pure → findKey E l pr = some r.1))
      (fun c s' => s'.r = s.r ∧ (InjPanic s s' c ∨
        (c = .noentry ∧ WRel s.w s'.w [] ∧ (E.Pure → findKey E l pr = none)))) := by
  unfold index
  refine Sat.bind (Sat.mono (get_sat E hr pr) (fun _ _ h => h) fun _ _ h => ⟨h.1, Or.inl h.2⟩) ?_
  intro o s1 ⟨h1, h2, h3, h4⟩
  cases o with
  | none => exact Sat.throwP ⟨h1, Or.inr ⟨rfl, h2, fun hp => (h4 hp).symm⟩⟩
  | some r =>
    obtain ⟨i, p⟩ := r
    exact Sat.pure ⟨h1, h2, h3 i p rfl, fun hp => (h4 hp).symm⟩

theorem remove_entry_sat (pr : Probe K Q) :
    Sat (remove_entry E pr) s
      (fun o s' => s'.r.cap = s.r.cap ∧ WRel s.w s'.w [] ∧
        ((o = none ∧ s'.r = s.r) ∨
         (∃ i, ∃ hi : i < l.length, o = some l[i] ∧ Rep s'.r (swapRemove l i) ∧
            (E.Pure → findKey E l pr = some i))) ∧
        (E.Pure → o.isSome = (findKey E l pr).isSome))
      (fun c s' => s'.r = s.r ∧ InjPanic s s' c) := by
  unfold remove_entry
  refine Sat.bind (scan_at E hr pr) ?_
  intro o s1 ⟨h1, h2, h3, h4⟩
  have hr1 : Rep s1.r l := h1 ▸ hr
  cases o with
  | none => exact Sat.pure ⟨by rw [h1], h2, Or.inl ⟨rfl, h1⟩, fun hp => congrArg Option.isSome (h4 hp)⟩
  | some i =>
    have hi := h3 i rfl
    refine Sat.bind (remove_index_read_sat hr1 hi) ?_
    rintro p s2 ⟨rfl, g2, g3, g4⟩
    exact Sat.pure ⟨by rw [g3, h1], by simpa using h2.trans g4,
      Or.inr ⟨i, hi, rfl, g2, fun hp => (h4 hp).symm⟩, fun hp => congrArg Option.isSome (h4 hp)⟩

/-- `remove`: the value is returned, the stored key is dropped. -/
theorem remove_sat (pr : Probe K Q) :
    Sat (remove E pr) s
      (fun o s' => s'.r.cap = s.r.cap ∧
        ((o = none ∧ s'.r = s.r ∧ WRel s.w s'.w []) ∨
         (∃ i, ∃ hi : i < l.length, o = some l[i].2 ∧ Rep s'.r (swapRemove l i) ∧
            WRel s.w s'.w [.dropK l[i].1] ∧ (E.Pure → findKey E l pr = some i))) ∧
        (E.Pure → o.isSome = (findKey E l pr).isSome))
      (fun c s' => s'.r.cap = s.r.cap ∧ InjPanic s s' c ∧
        (s'.r = s.r ∨ ∃ i, ∃ _ : i < l.length, Rep s'.r (swapRemove l i))) := by
  unfold remove
  refine Sat.bind (Sat.mono (scan_at E hr pr) (fun _ _ h => h)
    fun _ _ ⟨h1, h2⟩ => ⟨by rw [h1], h2, Or.inl h1⟩) ?_
  intro o s1 ⟨h1, h2, h3, h4⟩
  have hr1 : Rep s1.r l := h1 ▸ hr
  cases o with
  | none => exact Sat.pure ⟨by rw [h1], Or.inl ⟨rfl, h1, h2⟩, fun hp => congrArg Option.isSome (h4 hp)⟩
  | some i =>
    have hi := h3 i rfl
    refine Sat.bind (remove_index_read_sat hr1 hi) ?_
    rintro p s2 ⟨rfl, g2, g3, g4⟩
    have hc2 : s2.r.cap = s.r.cap := by rw [g3, h1]
    -- the stored key is dropped; its value is returned (and forgotten by the clean-up if that unwinds)
    refine Sat.bind (Sat.mono (((CbOk.unwindWith (leak_cb (.v l[i].2)) (dropK_cb l[i].1)).at s2).shift
      (h2.trans g4)) (fun _ _ h => h) fun _ _ ⟨k1, k2⟩ => ⟨by rw [k1, hc2], k2, Or.inr ⟨i, hi, k1 ▸ g2⟩⟩) ?_
    intro _ s3 ⟨k1, k2, _⟩
    exact Sat.pure ⟨by rw [k1, hc2], Or.inr ⟨i, hi, rfl, k1 ▸ g2, k2, fun hp => (h4 hp).symm⟩,
      fun hp => congrArg Option.isSome (h4 hp)⟩

/-- `checked_insert`: as `insert` while there is room or the key is present; on a full container
    with an absent key it returns `None`, leaves the container untouched and drops both arguments. -/
theorem checked_insert_sat (k : K) (v : V) :
    Sat (checked_insert E k v) s
      (fun res s' => s'.r.cap = s.r.cap ∧
        ((∃ i, ∃ hi : i < l.length, res = some (some l[i].2) ∧ Rep s'.r (l.set i (l[i].1, v)) ∧
            WRel s.w s'.w [.dropK k] ∧ (E.Pure → findKey E l (.key k) = some i)) ∨
         (res = some none ∧ l.length < s.r.cap ∧ Rep s'.r (l ++ [(k, v)]) ∧ WRel s.w s'.w [] ∧
            (E.Pure → findKey E l (.key k) = none)) ∨
         (res = none ∧ l.length = s.r.cap ∧ s'.r = s.r ∧ WRel s.w s'.w (dropVTr E v ++ [.dropK k]) ∧
            (E.Pure → findKey E l (.key k) = none))))
      (fun c s' => s'.r.cap = s.r.cap ∧ InjPanic s s' c ∧
        ∃ l', Rep s'.r l' ∧ (l' = l ∨ ∃ i, ∃ hi : i < l.length, l' = l.set i (l[i].1, v))) := by
  unfold checked_insert
  refine Sat.getLen_bind (Sat.getCap_bind ?_)
  rw [hr.1]
  by_cases hroom : l.length < s.r.cap
  · rw [if_pos hroom]
    refine Sat.bind (Sat.mono (insert_ii_sat E hr k v false) (fun _ _ h => h) ?_) ?_
    · rintro c s' ⟨h1, h | ⟨_, hf, _⟩⟩
      · exact ⟨by rw [h1], h, l, h1 ▸ hr, Or.inl rfl⟩
      · omega
    · rintro ⟨i, old⟩ s1 h
      dsimp only at h
      obtain ⟨hcap, hw, ⟨hi, rfl, hrep, hfind⟩ | ⟨_, rfl, _, hrep, hfind⟩⟩ := h
      · refine Sat.bind (Sat.mono (dropReturnedKey_replaced hw hcap hrep k l[i].2) (fun _ _ h => h)
          fun _ _ ⟨g1, g2, g3⟩ => ⟨g1, g3, _, g2, Or.inr ⟨i, hi, rfl⟩⟩) ?_
        rintro r s2 ⟨rfl, g1, g2, g3⟩
        exact Sat.pure ⟨g1, Or.inl ⟨i, hi, rfl, g2, g3, hfind⟩⟩
      · exact Sat.pure ⟨hcap, Or.inr (Or.inl ⟨rfl, hroom, hrep, hw, hfind⟩)⟩
  · rw [if_neg hroom]
    have hfull : l.length = s.r.cap := Nat.le_antisymm hr.2.1 (Nat.not_lt.mp hroom)
    refine Sat.bind (Sat.mono (insert_ii_for_full_sat E hr k v false) (fun _ _ h => h)
      fun _ _ ⟨h1, h2⟩ => ⟨by rw [h1], h2, l, h1 ▸ hr, Or.inl rfl⟩) ?_
    rintro res s1 ⟨hcap, ⟨i, hi, rfl, hrep, hw, hfind⟩ | ⟨rfl, hsame, hw, hfind⟩⟩
    · refine Sat.bind (Sat.mono (dropReturnedKey_replaced hw hcap hrep k l[i].2) (fun _ _ h => h)
        fun _ _ ⟨g1, g2, g3⟩ => ⟨g1, g3, _, g2, Or.inr ⟨i, hi, rfl⟩⟩) ?_
      rintro r s2 ⟨rfl, g1, g2, g3⟩
      exact Sat.pure ⟨g1, Or.inl ⟨i, hi, rfl, g2, g3, hfind⟩⟩
    · exact Sat.pure ⟨hcap, Or.inr (Or.inr ⟨rfl, hfull, hsame, hw, hfind⟩)⟩

end Micromap
