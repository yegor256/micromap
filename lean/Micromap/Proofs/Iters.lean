/-
The iterators of the map.  Borrowing ones: what a traversal standing at `k` reads.  Consuming ones:
one round lemma `pop_sat` for every loop that pops.  `Drain`: the range it owns (`Owns`) and leaves
dead (`Dead`).  Iterator scripts: `next` in `iterScript` is `nth(0)` of the extended interpreter
`iterScriptX` (`iterScript_next`); from it what any script does (`iterScript_spec`) and what a run of
`next` commands reports (`iterScript_nexts`).
-/
import Micromap.Proofs.Bulk
import Micromap.Model.StdIterB

namespace Micromap.Iters
open Micromap
variable {K V Q : Type}
variable {r r' : Raw K V} {s : St K V Q} {l ps : List (K × V)} {lo hi : Nat}

theorem itemRefR_of_slot {i p} (s : St K V Q) (hc : i < r.cap) (hs : r.slots i = some p) :
    itemRefR r i s = .ok p s := by
  simp [itemRefR, hc, hs]

theorem iterNextR_lt (hr : Rep r l) {k} (hk : k < l.length) (s : St K V Q) :
    iterNextR r ⟨k, l.length⟩ s = .ok (some (k, l[k]), ⟨k + 1, l.length⟩) s := by
  simp [iterNextR, hk, hr.itemRefR_ok hk s]

theorem iterNextR_end (r : Raw K V) {it : SliceIt} (h : ¬ it.lo < it.hi) (s : St K V Q) :
    iterNextR r it s = .ok (none, it) s := by
  simp [iterNextR, h]

/-- the live slots `[lo, hi)` of `r` hold `ps`: what a traversal standing at `lo` has in front of
    it, what a `Drain` standing at `lo` still owns. -/
structure Owns (r : Raw K V) (lo hi : Nat) (ps : List (K × V)) : Prop where
  hi_eq : hi = lo + ps.length
  slot : ∀ j (hj : j < ps.length), r.slots (lo + j) = some ps[j]
  le_cap : hi ≤ r.cap

theorem Owns.of_rep (hr : Rep r l) {k} (hk : k ≤ l.length) :
    Owns r k l.length (l.drop k) := by
  refine ⟨by rw [List.length_drop]; omega, fun j hj => ?_, hr.2.1⟩
  rw [List.length_drop] at hj
  rw [hr.slot (by omega), List.getElem_drop]

theorem Owns.frame {lo hi ps} (h : Owns r lo hi ps)
    (hs : ∀ j, lo ≤ j → j < hi → r'.slots j = r.slots j) (hc : r'.cap = r.cap) : Owns r' lo hi ps := by
  refine ⟨h.hi_eq, fun j hj => ?_, hc ▸ h.le_cap⟩
  rw [hs _ (by omega) (by have := h.hi_eq; omega)]
  exact h.slot j hj

/-- `drain()` has published length `0`; the `Drain` owns the whole content. -/
theorem Owns.drained (hr : Rep s.r l) :
    Owns ({ s with r := { s.r with len := 0 } } : St K V Q).r 0 l.length l :=
  (Owns.of_rep hr (Nat.zero_le _)).frame (fun _ _ _ => rfl) rfl

theorem Owns.not_lt (h : Owns r lo hi []) : ¬ lo < hi := by
  have := h.hi_eq
  simp at this; omega

theorem Owns.lt {lo hi p ps} (h : Owns r lo hi (p :: ps)) : lo < hi := by
  have := h.hi_eq
  simp at this; omega

theorem Owns.head {lo hi p ps} (h : Owns r lo hi (p :: ps)) : r.slots lo = some p :=
  h.slot 0 (by simp)

theorem Owns.lt_cap {lo hi p ps} (h : Owns r lo hi (p :: ps)) : lo < r.cap :=
  Nat.lt_of_lt_of_le h.lt h.le_cap

theorem Owns.tail {lo hi p ps} (h : Owns r lo hi (p :: ps))
    (hs : ∀ j, lo + 1 ≤ j → j < hi → r'.slots j = r.slots j) (hc : r'.cap = r.cap) :
    Owns r' (lo + 1) hi ps := by
  refine ⟨by have := h.hi_eq; simp at this; omega, fun j hj => ?_, hc ▸ h.le_cap⟩
  have h1 := h.slot (j + 1) (by simp; omega)
  have h2 := h.hi_eq
  simp only [List.length_cons] at h2
  rw [hs _ (by omega) (by omega), Nat.add_assoc, Nat.add_comm 1 j, h1]; rfl

theorem Owns.read {lo hi p ps} (h : Owns r lo hi (p :: ps)) :
    Owns (setSlot r lo none) (lo + 1) hi ps :=
  h.tail (fun j hj _ => setSlot_other _ _ (by omega)) rfl

theorem iterRestR_slots : ∀ {ps : List (K × V)} {i hi : Nat} (s : St K V Q),
    Owns r i hi ps → iterRestR r ps.length i s = .ok ps s
  | [], _, _, _, _ => rfl
  | p :: ps, i, hi, s, h => by
    simp [iterRestR, itemRefR_of_slot s h.lt_cap h.head, iterRestR_slots s (h.tail (fun _ _ _ => rfl) rfl)]

theorem restR_rep (hr : Rep r l) {k} (hk : k ≤ l.length) (s : St K V Q) :
    SliceIt.restR r ⟨k, l.length⟩ s = .ok (l.drop k) s := by
  have := iterRestR_slots s (Owns.of_rep hr hk)
  simpa [SliceIt.restR, SliceIt.len] using this

theorem getLen_rep (hr : Rep s.r l) : getLen s = .ok l.length s :=
  congrArg (Res.ok · s) hr.1

theorem entriesOf_rep (hr : Rep r l) (s : St K V Q) :
    entriesOf r s = .ok l s := by
  have := restR_rep hr (Nat.zero_le _) s
  simp only [SliceIt.restR, SliceIt.len, Nat.sub_zero, List.drop_zero] at this
  simp [entriesOf, hr.1, hr.2.1, this]

/-- `n` consecutive calls of `Iter::next` on container `r`: the results in call order and the
    iterator afterwards. -/
def iterSteps (r : Raw K V) : Nat → SliceIt → SM K V Q (List (Option (Nat × (K × V))) × SliceIt)
  | 0, it => pure ([], it)
  | n + 1, it => do
    let (o, it') ← iterNextR r it
    let (os, it'') ← iterSteps r n it'
    pure (o :: os, it'')

/-- call `next` until it answers `None` (at most `fuel` times) and collect the items. -/
def iterToList (r : Raw K V) : Nat → SliceIt → SM K V Q (List (Nat × (K × V)))
  | 0, _ => pure []
  | n + 1, it => do
    let (o, it') ← iterNextR r it
    match o with
    | none => pure []
    | some x => do
      let rest ← iterToList r n it'
      pure (x :: rest)

theorem iterSteps_end (r : Raw K V) {it : SliceIt} (h : ¬ it.lo < it.hi) (s : St K V Q) :
    ∀ n, iterSteps r n it s = .ok (List.replicate n none, it) s
  | 0 => rfl
  | n + 1 => by
    simp [iterSteps, iterNextR_end r h s, iterSteps_end r h s n, List.replicate_succ]

theorem iterSteps_rep (hr : Rep r l) (s : St K V Q) (n : Nat) :
    ∀ k, k ≤ l.length →
    iterSteps r n ⟨k, l.length⟩ s =
      .ok ((List.range n).map fun j => l[k + j]?.map fun p => (k + j, p), ⟨min (k + n) l.length, l.length⟩) s := by
  induction n with
  | zero => intro k hk; simp [iterSteps, Nat.min_eq_left hk]
  | succ n ih =>
    intro k hk
    by_cases hlt : k < l.length
    · have ih := ih (k + 1) hlt
      simp only [iterSteps, bind_apply, iterNextR_lt hr hlt s, ih, pure_apply]
      congr 1
      · rw [List.range_succ_eq_map]
        simp [hlt, Nat.add_assoc, Nat.add_comm 1]
    · have hkl : k = l.length := by omega
      rw [iterSteps_end r (it := ⟨k, l.length⟩) hlt s (n + 1)]
      have hf : (fun j => l[k + j]?.map fun p => (k + j, p)) = fun _ => none := by
        funext j; simp [List.getElem?_eq_none (by omega : l.length ≤ k + j)]
      rw [hf, List.map_const', List.length_range]
      simp [hkl]

theorem iterToList_rep (hr : Rep r l) (s : St K V Q) (fuel : Nat) :
    ∀ k, k ≤ l.length →
    iterToList r fuel ⟨k, l.length⟩ s =
      .ok ((((l.drop k).take fuel).zipIdx k).map fun x => (x.2, x.1)) s := by
  induction fuel with
  | zero => intro k _; simp [iterToList]
  | succ n ih =>
    intro k hk
    by_cases hlt : k < l.length
    · have ih := ih (k + 1) hlt
      simp only [iterToList, bind_apply, iterNextR_lt hr hlt s, ih, pure_apply]
      rw [List.drop_eq_getElem_cons hlt]
      simp only [List.take_succ_cons, List.zipIdx_cons, List.map_cons]
    · simp only [iterToList, bind_apply, iterNextR_end r (it := ⟨k, l.length⟩) hlt s, pure_apply]
      rw [List.drop_eq_nil_of_le (Nat.le_of_not_lt hlt)]; rfl

theorem nil_or_snoc {α : Type} (l : List α) : l = [] ∨ ∃ L b, l = L ++ [b] := by
  rcases List.eq_nil_or_concat l with h | ⟨L, b, h⟩
  · exact Or.inl h
  · exact Or.inr ⟨L, b, by rw [h, List.concat_eq_append]⟩

theorem _root_.Micromap.Rep.pop {p} (hr : Rep r (l ++ [p])) :
    Rep (setSlot { r with len := l.length } l.length none) l := by
  refine ⟨rfl, ?_, fun i hi => ?_⟩
  · have := hr.2.1; simp at this; simp; omega
  · rw [setSlot_other _ _ (by omega)]
    have := hr.2.2 i (by simp; omega)
    rw [List.getElem?_append_left hi] at this
    exact this

theorem intoIterNext_spec (hr : Rep s.r l) :
    ∃ s', intoIterNext s = .ok l.getLast? s' ∧ Rep s'.r l.dropLast ∧ s'.r.cap = s.r.cap ∧
      s'.w = s.w ∧ (l = [] → s' = s) := by
  rcases nil_or_snoc l with rfl | ⟨L, p, rfl⟩
  · have h0 : s.r.len = 0 := hr.1
    exact ⟨s, by simp [intoIterNext, getLen, h0], by simpa using hr, rfl, rfl, fun _ => rfl⟩
  · have hlen : s.r.len = L.length + 1 := by simpa using hr.1
    have hslot : s.r.slots L.length = some p := by
      have := hr.slot (i := L.length) (by simp); simpa using this
    have hcap : L.length < s.r.cap := hr.cap_lt (by simp)
    refine ⟨{ s with r := setSlot { s.r with len := L.length } L.length none }, ?_, ?_, rfl, rfl, ?_⟩
    · simp [intoIterNext, getLen, setLen, modS, hlen, itemRead, hcap, hslot]
    · simpa using hr.pop
    · intro h; simp at h

variable (E : Env K V Q)

/-- what `IntoKeys` / `IntoValues` drop of every pair they take out of the map. -/
def discardTr (kind : IntoKind) (p : K × V) : List (Event K V Q) :=
  match kind with
  | .pairs => []
  | .keys => dropVTr E p.2
  | .values => [.dropK p.1]

/-- `IntoIter::next` / `IntoKeys::next` / `IntoValues::next`: exactly one drop of the half that is
    not handed out; if that drop unwinds the entry is gone all the same. -/
theorem intoIterNextK_sat (kind : IntoKind) (hr : Rep s.r l) :
    Sat (intoIterNextK E kind) s
      (fun o s' => o = l.getLast? ∧ Rep s'.r l.dropLast ∧ s'.r.cap = s.r.cap ∧
        WRel s.w s'.w ((o.map (discardTr E kind)).getD []))
      (fun c s' => Rep s'.r l.dropLast ∧ s'.r.cap = s.r.cap ∧ InjPanic s s' c ∧ l ≠ [] ∧ kind ≠ .pairs) := by
  obtain ⟨s1, h1, h2, h3, h4, _⟩ := intoIterNext_spec hr
  unfold intoIterNextK
  refine Sat.bind_ok h1 ?_
  have hw : WRel s.w s1.w [] := by rw [h4]; exact WRel.refl _
  cases hl : l.getLast? with
  | none => exact Sat.pure ⟨rfl, h2, h3, by simpa using hw⟩
  | some p =>
    have hne : l ≠ [] := by rintro rfl; simp at hl
    cases kind with
    | pairs => exact Sat.pure ⟨rfl, h2, h3, by simpa [discardTr] using hw⟩
    | keys =>
      refine Sat.cb (CbOk.unwindWith (leak_cb (.k p.1)) (dropV_cb E p.2)) ?_ ?_
      · intro _ s2 g1 g2 _
        exact Sat.pure ⟨rfl, g1 ▸ h2, by rw [g1, h3], by simpa [discardTr] using hw.trans g2⟩
      · intro s2 tr' g1 g2 g3 g4
        exact ⟨g1 ▸ h2, by rw [g1, h3], (InjPanic.of_cb g2 g3 g4).after hw, hne, by simp⟩
    | values =>
      refine Sat.cb (CbOk.unwindWith (leak_cb (.v p.2)) (dropK_cb p.1)) ?_ ?_
      · intro _ s2 g1 g2 _
        exact Sat.pure ⟨rfl, g1 ▸ h2, by rw [g1, h3], by simpa [discardTr] using hw.trans g2⟩
      · intro s2 tr' g1 g2 g3 g4
        exact ⟨g1 ▸ h2, by rw [g1, h3], (InjPanic.of_cb g2 g3 g4).after hw, hne, by simp⟩

/-- how the loops that pop entries off `l` unwind: only by an injected panic, and a proper front of
    `l` is left — still a well-formed container. -/
def PopUnw (s : St K V Q) (l : List (K × V)) (c : PanicClass) (s' : St K V Q) : Prop :=
  s'.r.cap = s.r.cap ∧ InjPanic s s' c ∧ ∃ m, m < l.length ∧ Rep s'.r (l.take m)

theorem PopUnw.of_next {s s' : St K V Q} {c} (hr : Rep s'.r l.dropLast)
    (hc : s'.r.cap = s.r.cap) (hi : InjPanic s s' c) (hne : l ≠ []) : PopUnw s l c s' := by
  refine ⟨hc, hi, l.length - 1, ?_, by rwa [← List.dropLast_eq_take]⟩
  have := List.length_pos_iff.mpr hne
  omega

theorem PopUnw.of_take {s s2 s3 : St K V Q} {n t c} (hc : s2.r.cap = s.r.cap)
    (hw : WRel s.w s2.w t) (h : PopUnw s2 (l.take n) c s3) : PopUnw s l c s3 := by
  obtain ⟨k1, k2, m, k3, k4⟩ := h
  rw [List.length_take] at k3
  rw [List.take_take, Nat.min_eq_left (by omega)] at k4
  exact ⟨k1.trans hc, k2.after hw, m, by omega, k4⟩

theorem PopUnw.snoc {s s2 s3 : St K V Q} {L : List (K × V)} {p t c} (hc : s2.r.cap = s.r.cap)
    (hw : WRel s.w s2.w t) (h : PopUnw s2 L c s3) : PopUnw s (L ++ [p]) c s3 :=
  PopUnw.of_take (n := L.length) hc hw (by rwa [List.take_left])

theorem take_snoc_sub {α : Type} (L : List α) (p : α) (n : Nat) :
    (L ++ [p]).take ((L ++ [p]).length - (n + 1)) = L.take (L.length - n) := by
  have : (L ++ [p]).length - (n + 1) = L.length - n := by simp
  rw [this, List.take_append_of_le_length (by omega)]

/-- one round of a loop over a consuming iterator: `nx` is `next` (possibly guarded by the clean-up
    of the frame it is called from); if it yields `p`, the caller runs `cb p` (drops of items it
    owns) and goes on with `k1 p`. -/
theorem pop_sat (kind : IntoKind) {nx : SM K V Q (Option (K × V))}
    (hnx : Sat nx s
      (fun o s' => o = l.getLast? ∧ Rep s'.r l.dropLast ∧ s'.r.cap = s.r.cap ∧
        WRel s.w s'.w ((o.map (discardTr E kind)).getD []))
      (fun c s' => Rep s'.r l.dropLast ∧ s'.r.cap = s.r.cap ∧ InjPanic s s' c ∧ l ≠ [] ∧ kind ≠ .pairs))
    {cb : K × V → SM K V Q Unit} {t : K × V → List (Event K V Q)}
    (hcb : ∀ p, CbOk (cb p) (fun _ => t p) (fun _ _ => True))
    {β : Type} {k0 : SM K V Q β} {k1 : K × V → SM K V Q β} {Qp : β → St K V Q → Prop} {P}
    (h0 : l = [] → ∀ s1, Rep s1.r [] → s1.r.cap = s.r.cap → WRel s.w s1.w [] → Sat k0 s1 Qp P)
    (h1 : ∀ L p, l = L ++ [p] → ∀ s2, Rep s2.r L → s2.r.cap = s.r.cap →
      WRel s.w s2.w (discardTr E kind p ++ t p) → Sat (k1 p) s2 Qp P)
    (hp : ∀ c s', PopUnw s l c s' → P c s') :
    Sat (nx >>= fun o => match o with
      | none => k0
      | some p => cb p >>= fun _ => k1 p) s Qp P := by
  refine Sat.bind (Sat.mono hnx (fun _ _ h => h) ?_) ?_
  · intro c s1 ⟨g1, g2, g3, g4, _⟩
    exact hp c s1 (PopUnw.of_next g1 g2 g3 g4)
  · rintro o s1 ⟨rfl, g2, g3, g4⟩
    rcases nil_or_snoc l with rfl | ⟨L, p, rfl⟩
    · exact h0 rfl s1 g2 g3 g4
    · simp only [List.getLast?_concat, List.dropLast_concat, Option.map_some, Option.getD_some] at g2 g4 ⊢
      refine Sat.cb (hcb p) ?_ ?_
      · intro _ s2 e1 e2 _
        exact h1 L p rfl s2 (e1 ▸ g2) (by rw [e1, g3]) (g4.trans e2)
      · intro s2 tr' e1 e2 e3 e4
        exact hp _ s2 ⟨by rw [e1, g3], (InjPanic.of_cb e2 e3 e4).after g4, L.length, by simp,
          by rw [e1, List.take_left]; exact g2⟩

theorem intoIterTake_sat (kind : IntoKind) : ∀ (n : Nat) (s : St K V Q) (l : List (K × V)), Rep s.r l →
    Sat (intoIterTake E kind n) s
      (fun items s' => items = l.reverse.take n ∧ Rep s'.r (l.take (l.length - n)) ∧ s'.r.cap = s.r.cap ∧
        WRel s.w s'.w (items.flatMap (discardTr E kind)))
      (fun c s' => PopUnw s l c s' ∧ kind ≠ .pairs)
  | 0, s, l, hr => Sat.pure ⟨by simp, by simpa using hr, rfl, by simpa using WRel.refl _⟩
  | n + 1, s, l, hr => by
    unfold intoIterTake
    refine Sat.bind (Sat.mono (intoIterNextK_sat E kind hr) (fun _ _ h => h) ?_) ?_
    · intro c s1 ⟨h1, h2, h3, h4, h5⟩
      exact ⟨PopUnw.of_next h1 h2 h3 h4, h5⟩
    · intro o s1 ⟨h1, h2, h3, h4⟩
      subst h1
      rcases nil_or_snoc l with rfl | ⟨L, p, rfl⟩
      · exact Sat.pure ⟨by simp, by simpa using h2, h3, by simpa using h4⟩
      · simp only [List.getLast?_concat, List.dropLast_concat, Option.map_some, Option.getD_some] at h2 h4 ⊢
        refine Sat.bind (Sat.mono (intoIterTake_sat kind n s1 L h2) (fun _ _ h => h) ?_) ?_
        · intro c s2 ⟨g1, g2⟩
          exact ⟨g1.snoc h3 h4, g2⟩
        · intro items s2 ⟨g1, g2, g3, g4⟩
          refine Sat.pure ⟨by simp [g1], ?_, by rw [g3, h3], by simpa using h4.trans g4⟩
          rw [take_snoc_sub]
          exact g2

theorem drainStart_ok (hr : Rep s.r l) :
    drainStart s = .ok l.length { s with r := { s.r with len := 0 } } := by
  simp [drainStart, sliceToLen, setLen, modS, hr.1, hr.2.1]

theorem drainNext_end (h : ¬ lo < hi) (s : St K V Q) : drainNext lo hi s = .ok none s := by
  simp [drainNext, h]

theorem Owns.drainNext_ok {p : K × V} (ho : Owns s.r lo hi (p :: ps)) :
    drainNext lo hi s = .ok (some p) { s with r := setSlot s.r lo none } := by
  simp [drainNext, ho.lt, itemRead, ho.lt_cap, ho.head]

theorem drainNext_sat {ps : List (K × V)} {lo hi : Nat} {s : St K V Q} (ho : Owns s.r lo hi ps)
    {β : Type} {f : Option (K × V) → SM K V Q β} {Qp : β → St K V Q → Prop} {P}
    (h0 : ps = [] → Sat (f none) s Qp P)
    (h1 : ∀ p ps', ps = p :: ps' → Sat (f (some p)) { s with r := setSlot s.r lo none } Qp P) :
    Sat (drainNext lo hi >>= f) s Qp P := by
  cases ps with
  | nil =>
    exact Sat.bind_ok (drainNext_end ho.not_lt s) (h0 rfl)
  | cons p ps' =>
    exact Sat.bind_ok ho.drainNext_ok (h1 p ps' rfl)

/-- the slots `[lo, hi)` of `r'` are dead; outside them `r'` is `r`. -/
def Dead (lo hi : Nat) (r r' : Raw K V) : Prop :=
  (∀ j, j < lo ∨ hi ≤ j → r'.slots j = r.slots j) ∧ (∀ j, lo ≤ j → j < hi → r'.slots j = none)

theorem Dead.of_le (h : hi ≤ lo) (r : Raw K V) : Dead lo hi r r :=
  ⟨fun _ _ => rfl, fun j h1 h2 => by omega⟩

theorem Dead.step (h : Dead (lo + 1) hi (setSlot r lo none) r')
    (hlt : lo < hi) : Dead lo hi r r' := by
  refine ⟨fun j hj => ?_, fun j h1 h2 => ?_⟩
  · rw [h.1 j (by omega)]; exact setSlot_other _ _ (by omega)
  · by_cases hji : j = lo
    · subst hji; rw [h.1 j (by omega)]; simp
    · exact h.2 j (by omega) h2

theorem drainDrop_sat (ho : Owns s.r lo hi ps) :
    Sat (drainDrop E lo hi) s
      (fun _ s' => s'.r.len = s.r.len ∧ s'.r.cap = s.r.cap ∧ Dead lo hi s.r s'.r ∧
        WRel s.w s'.w (dropTrace E ps))
      (fun c s' => s'.r.len = s.r.len ∧ s'.r.cap = s.r.cap ∧
        (∀ j, j < lo ∨ hi ≤ j → s'.r.slots j = s.r.slots j) ∧ InjPanic s s' c) := by
  obtain ⟨rfl, hl, hc⟩ := ho
  unfold drainDrop
  rw [Nat.add_sub_cancel_left]
  exact Sat.mono (dropRange_sat E ps lo s hl hc) (fun _ _ ⟨g1, g2, g3, g4, g5⟩ => ⟨g1, g2, ⟨g3, g4⟩, g5⟩)
    (fun _ _ h => h)

theorem drainTake_spec : ∀ (n : Nat) (ps : List (K × V)) (lo hi : Nat) (s : St K V Q), Owns s.r lo hi ps →
    ∃ s', drainTake n lo hi s = .ok (ps.take n, lo + min n ps.length) s' ∧ s'.w = s.w ∧
      s'.r.len = s.r.len ∧ s'.r.cap = s.r.cap ∧ Dead lo (lo + min n ps.length) s.r s'.r
  | 0, ps, lo, hi, s, _ =>
    ⟨s, by simp [drainTake], rfl, rfl, rfl, Dead.of_le (by omega) _⟩
  | n + 1, [], lo, hi, s, ho =>
    ⟨s, by simp [drainTake, drainNext_end ho.not_lt], rfl, rfl, rfl, Dead.of_le (by simp) _⟩
  | n + 1, p :: ps, lo, hi, s, ho => by
    obtain ⟨s', e, h1, h2, h3, h4⟩ := drainTake_spec n ps (lo + 1) hi { s with r := setSlot s.r lo none } ho.read
    have hmin : lo + min (n + 1) (ps.length + 1) = lo + 1 + min n ps.length := by omega
    refine ⟨s', ?_, h1, h2, h3, ?_⟩
    · simp [drainTake, ho.drainNext_ok, e]; omega
    · rw [List.length_cons, hmin]
      exact h4.step (by omega)

theorem rep_nil_of_len (h : r.len = 0) : Rep r [] :=
  ⟨h, Nat.zero_le _, fun _ hi => by simp at hi⟩

theorem drop_min_length {α : Type} (l : List α) (n : Nat) : l.drop (min n l.length) = l.drop n := by
  by_cases h : n ≤ l.length
  · rw [Nat.min_eq_left h]
  · have h' : l.length ≤ n := by omega
    rw [Nat.min_eq_right h', List.drop_length, List.drop_eq_nil_of_le h']

theorem WRel.leaked (w : World K V Q) (x : List (Obj K V)) : WRel w { w with leaked := x } [] :=
  ⟨rfl, rfl, id, by simp [World.trace]⟩

/-- `drain()`, `take` calls of `next`, then drop or forget the `Drain`: the first `take` entries in
    slot order are yielded, the rest is dropped once each in slot order (or leaked when forgotten);
    in every case — also when an element's `Drop` unwinds — the container is left empty. -/
theorem drainOp_sat (take : Nat) (forget : Bool) (hr : Rep s.r l) :
    Sat (drainOp E take forget) s
      (fun res s' => res = (l.take take, l.length - take, l.drop take) ∧ Rep s'.r [] ∧ s'.r.cap = s.r.cap ∧
        WRel s.w s'.w (if forget then [] else dropTrace E (l.drop take)))
      (fun c s' => Rep s'.r [] ∧ s'.r.cap = s.r.cap ∧ InjPanic s s' c ∧ forget = false) := by
  unfold drainOp
  refine Sat.bind_ok (drainStart_ok hr) ?_
  obtain ⟨s1, e, h1, (hlen0 : s1.r.len = 0), (hcap : s1.r.cap = s.r.cap), h4⟩ :=
    drainTake_spec take l 0 l.length { s with r := { s.r with len := 0 } } (Owns.drained hr)
  refine Sat.bind_ok e ?_
  simp only [Nat.zero_add] at h4 ⊢
  have hw : WRel s.w s1.w [] := by rw [h1]; exact WRel.refl _
  -- the `Drain` still owns what it has not read
  have ho : Owns s1.r (min take l.length) l.length (l.drop (min take l.length)) :=
    (Owns.of_rep hr (Nat.min_le_right _ _)).frame (fun j hj _ => h4.1 j (Or.inr hj)) hcap
  have hld : (l.drop (min take l.length)).length = l.length - min take l.length := List.length_drop
  have hsub : l.length - min take l.length = l.length - take := by omega
  refine Sat.getS_bind ?_
  have hrest := iterRestR_slots s1 ho
  rw [hld] at hrest
  refine Sat.bind_ok hrest ?_
  cases forget with
  | true =>
    simp only [if_true]
    exact Sat.pure ⟨by rw [drop_min_length, hsub], rep_nil_of_len hlen0, hcap, hw⟩
  | false =>
    simp only [Bool.false_eq_true, if_false]
    refine Sat.bind (Sat.mono (drainDrop_sat E ho) (fun _ _ h => h) ?_) ?_
    · intro c s2 ⟨g1, g2, _, g4⟩
      exact ⟨rep_nil_of_len (g1.trans hlen0), g2.trans hcap, g4.after hw, trivial⟩
    · intro _ s2 ⟨g1, g2, _, g5⟩
      refine Sat.pure ⟨by rw [drop_min_length, hsub], rep_nil_of_len (g1.trans hlen0), g2.trans hcap, ?_⟩
      rw [drop_min_length] at g5
      simpa using hw.trans g5

theorem drainOp_benign (take : Nat) (forget : Bool) (hr : Rep s.r l)
    (hb : Benign s.w) :
    ∃ s', drainOp E take forget s = .ok (l.take take, l.length - take, l.drop take) s' ∧
      Rep s'.r [] ∧ s'.r.cap = s.r.cap ∧
      WRel s.w s'.w (if forget then [] else dropTrace E (l.drop take)) := by
  obtain ⟨a, s', e, rfl, h⟩ := (drainOp_sat E take forget hr).must_return
    fun c s' ⟨_, _, h, _⟩ => h.not_benign hb
  exact ⟨s', e, h⟩

theorem forgetMap_eq (s : St K V Q) :
    forgetMap s = .ok () { r := Raw.new s.r.cap,
                           w := { s.w with leaked := s.w.leaked ++ liveObjs s.r s.r.cap } } := rfl

/-- dropping the container: every live entry is dropped once in slot order; whether or not an
    element's `Drop` unwinds, the register holds a fresh `new()` of the same capacity afterwards. -/
theorem dropAndRenew_sat (hr : Rep s.r l) :
    Sat (dropAndRenew E) s
      (fun _ s' => s'.r = Raw.new s.r.cap ∧ WRel s.w s'.w (dropTrace E l))
      (fun c s' => s'.r = Raw.new s.r.cap ∧ InjPanic s s' c) := by
  unfold dropAndRenew
  refine Sat.unwindWith (P₀ := fun c s' => s'.r.cap = s.r.cap ∧ InjPanic s s' c) ?_ ?_
  · refine Sat.bind (Sat.mono (dropMap_sat E hr) (fun _ _ h => h) (fun c s' ⟨h1, _, h3⟩ => ⟨h1, h3⟩)) ?_
    intro _ s1 ⟨h1, _, _, h4⟩
    refine Sat.of_ok (forgetMap_eq s1) ⟨by rw [h1], ?_⟩
    simpa using h4.trans (WRel.leaked s1.w _)
  · intro c s' ⟨h1, h2, h3, h4, tr', h5⟩
    refine Sat.of_ok (forgetMap_eq _) ⟨by simp [h1], h2, h3, h4, tr', ?_⟩
    have := h5.trans (WRel.through_unw (s' := s')
      (s'' := { r := Raw.new s'.r.cap, w := { (s'.setUnw true).w with
        leaked := (s'.setUnw true).w.leaked ++ liveObjs s'.r s'.r.cap } }) (WRel.leaked _ _))
    simpa using this

/-- clean-up use of `dropAndRenew`: while unwinding it cannot unwind again. -/
theorem dropAndRenew_unw (hr : Rep s.r l) (hu : s.w.unwinding = true) :
    Sat (dropAndRenew E) s
      (fun _ s' => s'.r = Raw.new s.r.cap ∧ WRel s.w s'.w (dropTrace E l)) (fun _ _ => False) := by
  refine Sat.mono (dropAndRenew_sat E hr) (fun _ _ h => h) ?_
  intro c s' ⟨_, _, _, h, _⟩
  rw [hu] at h; exact absurd h (by simp)

/-- a panic inside a loop that pops unwinds through the owner of the iterator: the rest of the map is
    dropped (this cannot unwind again) and the register holds a fresh `new()`. -/
theorem renewOnUnwind {α : Type} {body : SM K V Q α} {Qp : α → St K V Q → Prop}
    (hb : Sat body s Qp (PopUnw s l)) :
    Sat (unwindWith (dropAndRenew E) body) s Qp (fun c s' => s'.r = Raw.new s.r.cap ∧ InjPanic s s' c) := by
  refine Sat.unwindWith hb ?_
  intro c s1 ⟨h1, h2, m, _, h5⟩
  have hr1 : Rep (s1.setUnw true).r (l.take m) := h5
  refine Sat.mono (dropAndRenew_unw E hr1 rfl) ?_ (fun _ _ h => h)
  intro _ s2 ⟨g1, g2⟩
  exact ⟨by simpa [h1] using g1, h2.extend g2.through_unw⟩

/-- `into_iter()` / `into_keys()` / `into_values()`, `take` calls of `next`, then drop or forget
    the iterator: the last `take` entries are yielded last-first, `len()` is exact, the untouched
    front is what `Debug` shows and what is dropped (slot order) when the iterator is dropped.  In
    every world (also with an injected panic) the run is free of `ub` and the register holds a
    fresh `new()` of the same capacity afterwards: the map is consumed. -/
theorem intoIterOp_sat (kind : IntoKind) (take : Nat) (forget : Bool)
    (hr : Rep s.r l) :
    Sat (intoIterOp E kind take forget) s
      (fun res s' => res = (l.reverse.take take, l.length - take, l.take (l.length - take)) ∧
        s'.r = Raw.new s.r.cap ∧
        WRel s.w s'.w ((l.reverse.take take).flatMap (discardTr E kind) ++
          if forget then [] else dropTrace E (l.take (l.length - take))))
      (fun c s' => s'.r = Raw.new s.r.cap ∧ InjPanic s s' c) := by
  unfold intoIterOp
  refine Sat.bind (renewOnUnwind E (Sat.mono (intoIterTake_sat E kind take s l hr) (fun _ _ h => h)
    (fun _ _ h => h.1))) ?_
  intro items s1 ⟨h1, h2, h3, h4⟩
  subst h1
  have hlen : s1.r.len = l.length - take := by
    rw [h2.1, List.length_take]; omega
  refine Sat.bind_ok (m := getLen) (congrArg (Res.ok · s1) hlen) ?_
  refine Sat.getS_bind ?_
  refine Sat.bind_ok (entriesOf_rep h2 s1) ?_
  cases forget with
  | true =>
    simp only [if_true]
    refine Sat.bind_ok (forgetMap_eq s1) (Sat.pure ⟨rfl, by rw [h3], ?_⟩)
    simpa using h4.trans (WRel.leaked s1.w _)
  | false =>
    simp only [Bool.false_eq_true, if_false]
    refine Sat.bind (Sat.mono (dropAndRenew_sat E h2) (fun _ _ h => h) ?_) ?_
    · intro c s2 ⟨g1, g2⟩
      exact ⟨by rw [g1, h3], g2.after h4⟩
    · intro _ s2 ⟨g1, g2⟩
      exact Sat.pure ⟨rfl, by rw [g1, h3], h4.trans g2⟩

theorem intoIterOp_benign (kind : IntoKind) (take : Nat) (forget : Bool) (hr : Rep s.r l) (hb : Benign s.w) :
    ∃ s', intoIterOp E kind take forget s =
        .ok (l.reverse.take take, l.length - take, l.take (l.length - take)) s' ∧
      s'.r = Raw.new s.r.cap ∧
      WRel s.w s'.w ((l.reverse.take take).flatMap (discardTr E kind) ++
        if forget then [] else dropTrace E (l.take (l.length - take))) := by
  obtain ⟨a, s', e, rfl, h⟩ := (intoIterOp_sat E kind take forget hr).must_return
    fun c s' ⟨_, h⟩ => h.not_benign hb
  exact ⟨s', e, h⟩

theorem dropAndRenew_benign (hr : Rep s.r l) (hb : Benign s.w) :
    ∃ s', dropAndRenew E s = .ok () s' ∧ s'.r = Raw.new s.r.cap ∧ WRel s.w s'.w (dropTrace E l) := by
  obtain ⟨_, s', e, h⟩ := (dropAndRenew_sat E hr).must_return fun c s' ⟨_, h⟩ => h.not_benign hb
  exact ⟨s', e, h⟩

variable (R : Render K V) (kind : IterKind) (g : V → V)

/-- the kinds whose `next` hands out `&mut V`; the script writes `g v` through it. -/
def IsMut (kind : IterKind) : Prop := kind = .iter_mut ∨ kind = .values_mut

instance (kind : IterKind) : Decidable (IsMut kind) := by unfold IsMut; infer_instance

def mapRange {α : Type} (f : α → α) (lo hi : Nat) (l : List α) : List α :=
  l.mapIdx fun i x => if lo ≤ i ∧ i < hi then f x else x

@[simp] theorem mapRange_length {α : Type} (f : α → α) (lo hi : Nat) (l : List α) :
    (mapRange f lo hi l).length = l.length := by simp [mapRange]

theorem getElem?_mapRange {α : Type} (f : α → α) (lo hi : Nat) (l : List α) (i : Nat) :
    (mapRange f lo hi l)[i]? = if lo ≤ i ∧ i < hi then l[i]?.map f else l[i]? := by
  simp only [mapRange, List.getElem?_mapIdx]
  split <;> simp

theorem mapRange_of_le {α : Type} (f : α → α) {l : List α} (h : l.length ≤ lo ∨ hi ≤ lo) :
    mapRange f lo hi l = l := by
  apply List.ext_getElem?
  intro i
  rw [getElem?_mapRange]
  split
  · rename_i hi'
    rcases h with h | h
    · rw [List.getElem?_eq_none (by omega)]; rfl
    · omega
  · rfl

theorem mapRange_all {α : Type} (f : α → α) {hi : Nat} {l : List α} (h : l.length ≤ hi) :
    mapRange f 0 hi l = l.map f := by
  apply List.ext_getElem?
  intro i
  rw [getElem?_mapRange, List.getElem?_map]
  split
  · rfl
  · rw [List.getElem?_eq_none (by omega)]; rfl

/-- one more position: the window after a `next` at `k` stands at `min (k + 1) |l|`. -/
theorem mapRange_next {α : Type} (f : α → α) (k n : Nat) (l : List α) :
    mapRange f (min (k + 1) l.length) (min (k + 1) l.length + n) (mapRange f k (k + 1) l) =
      mapRange f k (k + (n + 1)) l := by
  apply List.ext_getElem?
  intro i
  simp only [getElem?_mapRange]
  by_cases hi : i < l.length
  · by_cases h1 : k ≤ i ∧ i < k + 1
    · rw [if_neg (by omega), if_pos h1, if_pos (by omega)]
    -- outside the first window the second one is the rest of the whole
    · rw [if_neg h1]; exact ite_congr (propext (by omega)) (fun _ => rfl) (fun _ => rfl)
  · simp [List.getElem?_eq_none (Nat.le_of_not_lt hi)]

/-- the write `*v = g(*v)` seen on the stored pair. -/
def wr (g : V → V) (p : K × V) : K × V := (p.1, g p.2)

/-- how many `next` commands a script executes: those in front of the first consuming command. -/
def scriptNexts : List IterCmd → Nat
  | [] => 0
  | .next :: cs => scriptNexts cs + 1
  | .count :: _ => 0
  | .fold :: _ => 0
  | _ :: cs => scriptNexts cs

/-- the content after a write through `iter_mut` / `values_mut` (none for the shared kinds). -/
def written (kind : IterKind) (g : V → V) (lo hi : Nat) (l : List (K × V)) : List (K × V) :=
  if IsMut kind then mapRange (wr g) lo hi l else l

@[simp] theorem written_length (kind : IterKind) (g : V → V) (lo hi : Nat) (l : List (K × V)) :
    (written kind g lo hi l).length = l.length := by
  unfold written; split <;> simp

theorem written_keys (lo hi : Nat) (l : List (K × V)) :
    (written kind g lo hi l).map (·.1) = l.map (·.1) := by
  unfold written
  split
  · apply List.ext_getElem?
    intro i
    simp only [List.getElem?_map, getElem?_mapRange]
    split
    · cases l[i]? <;> simp [wr]
    · rfl
  · rfl

theorem written_of_le
    (h : l.length ≤ lo ∨ hi ≤ lo) : written kind g lo hi l = l := by
  unfold written; split
  · exact mapRange_of_le _ h
  · rfl

theorem written_next (k n : Nat) (l : List (K × V)) :
    written kind g (min (k + 1) l.length) (min (k + 1) l.length + n) (written kind g k (k + 1) l) =
      written kind g k (k + (n + 1)) l := by
  unfold written; split
  · exact mapRange_next _ k n l
  · rfl

/-- what the `i`-th of a run of `next` commands that starts at position `k` reports: a reference
    into slot `k + i` showing the entry stored there (for `iter_mut` / `values_mut` after the write
    `g v`), `None` once the entries are used up. -/
def nextOut (kind : IterKind) (g : V → V) (l : List (K × V)) (k i : Nat) : RV K V :=
  match l[k + i]? with
  | some p => RV.some (projItem kind (k + i) (if IsMut kind then wr g p else p))
  | none => RV.none

theorem nextOut_beyond (l : List (K × V)) {k i : Nat} (h : l.length ≤ k + i) :
    nextOut kind g l k i = RV.none := by
  simp [nextOut, List.getElem?_eq_none h]

/-- what a run of `next` commands reports after its first step, read off the content as that
    step left it. -/
theorem nextOut_succ (l : List (K × V)) (k i : Nat) :
    nextOut kind g (written kind g k (k + 1) l) (min (k + 1) l.length) i = nextOut kind g l k (i + 1) := by
  unfold nextOut
  by_cases hk : k < l.length
  · have hm : min (k + 1) l.length + i = k + (i + 1) := by omega
    have : (written kind g k (k + 1) l)[k + (i + 1)]? = l[k + (i + 1)]? := by
      unfold written; split
      · rw [getElem?_mapRange, if_neg (by omega)]
      · rfl
    rw [hm, this]
  · rw [List.getElem?_eq_none (by rw [written_length]; omega), List.getElem?_eq_none (by omega)]

theorem iterRunForks_ok (kind : IterKind) (hr : Rep s.r l) :
    ∀ (forks : List SliceIt), (∀ f ∈ forks, f.lo ≤ l.length ∧ f.hi = l.length) →
    ∃ out, iterRunForks kind forks s = .ok out s
  | [], _ => ⟨[], rfl⟩
  | ⟨lo, hi⟩ :: fs, h => by
    obtain ⟨h1, (rfl : hi = l.length)⟩ := h _ List.mem_cons_self
    obtain ⟨o2, e2⟩ := iterRunForks_ok kind hr fs (fun f' hf' => h f' (List.mem_cons_of_mem _ hf'))
    apply Exists.intro
    simp only [iterRunForks, iterRunOut, getS, bind_apply, restR_rep hr h1 s, e2, pure_apply]
    rfl

/-- `m` runs to completion from `s` — no panic, no `ub` —; world and capacity are untouched, for the
    kinds that hand out `&V` the whole state; the container holds `l'` afterwards. -/
def Runs (m : SM K V Q (List (RV K V))) (s : St K V Q) (l' : List (K × V)) : Prop :=
  ∃ out s', m s = .ok out s' ∧ s'.w = s.w ∧ s'.r.cap = s.r.cap ∧ (¬ IsMut kind → s' = s) ∧ Rep s'.r l'

variable {kind}

theorem Runs.map {m m2 : SM K V Q (List (RV K V))} {l' : List (K × V)} (h : Runs kind m s l')
    (wrap : List (RV K V) → List (RV K V)) (e : ∀ o s', m s = .ok o s' → m2 s = .ok (wrap o) s') :
    Runs kind m2 s l' := by
  obtain ⟨o, s', e', h⟩ := h
  exact ⟨wrap o, s', e o s' e', h⟩

theorem Runs.step {m m2 : SM K V Q (List (RV K V))} {l' : List (K × V)} {s1 : St K V Q}
    (h : Runs kind m s1 l') {x : RV K V} (e : m2 s = (m >>= fun rest => pure (x :: rest)) s1)
    (hw : s1.w = s.w) (hc : s1.r.cap = s.r.cap) (hs : ¬ IsMut kind → s1 = s) : Runs kind m2 s l' := by
  obtain ⟨o, s', e', h1, h2, h3, h4⟩ := h
  exact ⟨x :: o, s', by rw [e]; simp only [bind_apply, e', pure_apply], h1.trans hw, h2.trans hc,
    fun h => (h3 h).trans (hs h), h4⟩

/-- the end of every script: the clones taken on the way are run out. -/
theorem Runs.forks (hr : Rep s.r l) {forks : List SliceIt}
    (hf : ∀ f ∈ forks, f.lo ≤ l.length ∧ f.hi = l.length) : Runs kind (iterRunForks kind forks) s l := by
  obtain ⟨o, e⟩ := iterRunForks_ok kind hr forks hf
  exact ⟨o, s, e, rfl, rfl, fun _ => rfl, hr⟩

variable (kind)

theorem _root_.Micromap.StdIterB.iterScriptX_base (R : Render K V) (kind : IterKind) (g : V → V) :
    ∀ (cs : List IterCmd) (it : SliceIt) (forks : List SliceIt),
    iterScriptX (Q := Q) R kind g (cs.map .base) it forks = iterScript R kind g cs it forks
  | [], it, forks => by
    rw [iterScript]; rfl
  | c :: cs, it, forks => by
    cases c with
    | next =>
      simp only [List.map_cons, iterScriptX, iterScript]
      refine congrArg (fun f => getS >>= f) (funext fun s => ?_)
      refine congrArg (fun f => iterNextR s.r it >>= f) (funext fun x => ?_)
      obtain ⟨o, it'⟩ := x
      cases o with
      | none =>
        simp only [iterYield, iterScriptX_base R kind g cs it' forks]
        rfl
      | some y =>
        obtain ⟨slot, p⟩ := y
        simp only [iterYield, iterScriptX_base R kind g cs it' forks]
        funext s0
        by_cases hm : kind = IterKind.iter_mut ∨ kind = IterKind.values_mut
        · simp only [hm, if_true, bind_apply, pure_apply]
          cases valueReplace slot (g p.2) s0 <;> rfl
        · simp only [hm, if_false, bind_apply, pure_apply]
    | len | hint | debug | debugAlt =>
      simp only [List.map_cons, iterScriptX, iterScript, iterScriptX_base R kind g cs it forks]
    | clone =>
      simp only [List.map_cons, iterScriptX, iterScript, iterScriptX_base R kind g cs it forks,
        iterScriptX_base R kind g cs it (forks ++ [it])]
    | count | fold =>
      simp only [List.map_cons, iterScriptX]
      conv => rhs; rw [iterScript]
      simp only [iterScript]

theorem iterSkipR_rep (hr : Rep r l) (s : St K V Q) (k : Nat) :
    ∀ j, j ≤ l.length →
    iterSkipR r k ⟨j, l.length⟩ s =
      .ok (decide (j + k ≤ l.length), ⟨min (j + k) l.length, l.length⟩) s := by
  induction k with
  | zero => intro j hj; simp [iterSkipR, hj, Nat.min_eq_left hj]
  | succ k ih =>
    intro j hj
    by_cases hlt : j < l.length
    · have ih := ih (j + 1) hlt
      simp only [iterSkipR, bind_apply, iterNextR_lt hr hlt s, ih]
      have e1 : j + 1 + k = j + (k + 1) := by omega
      rw [e1]
    · simp only [iterSkipR, bind_apply, iterNextR_end r (it := ⟨j, l.length⟩) hlt s, pure_apply]
      have h1 : decide (j + (k + 1) ≤ l.length) = false := by simp; omega
      have h2 : min (j + (k + 1)) l.length = j := by omega
      rw [h1, h2]

theorem iterNthR_rep (hr : Rep r l) (s : St K V Q) (k : Nat) {j : Nat}
    (hj : j ≤ l.length) :
    iterNthR r k ⟨j, l.length⟩ s =
      .ok (l[j + k]?.map fun p => (j + k, p), ⟨min (j + k + 1) l.length, l.length⟩) s := by
  simp only [iterNthR, bind_apply, iterSkipR_rep hr s k j hj]
  by_cases hle : j + k ≤ l.length
  · simp only [hle, decide_true, if_true, Nat.min_eq_left hle]
    by_cases hlt : j + k < l.length
    · rw [iterNextR_lt hr hlt s]
      have h2 : min (j + k + 1) l.length = j + k + 1 := by omega
      simp [hlt, h2]
    · rw [iterNextR_end r (it := ⟨j + k, l.length⟩) hlt s]
      have h2 : min (j + k + 1) l.length = j + k := by omega
      simp [List.getElem?_eq_none (by omega : l.length ≤ j + k), h2]
  · have h2 : min (j + k) l.length = l.length := by omega
    have h3 : min (j + k + 1) l.length = l.length := by omega
    simp [hle, h2, h3, List.getElem?_eq_none (by omega : l.length ≤ j + k)]

theorem iterYield_shared {kind : IterKind} (hk : ¬ IsMut kind) (g : V → V)
    (o : Option (Nat × (K × V))) (s : St K V Q) :
    iterYield kind g o s =
      .ok (match o with | none => RV.none | some x => RV.some (projItem kind x.1 x.2)) s := by
  have hk' : ¬ (kind = IterKind.iter_mut ∨ kind = IterKind.values_mut) := hk
  cases o with
  | none => rfl
  | some x =>
    obtain ⟨slot, p⟩ := x
    simp only [iterYield, hk', if_false, bind_apply, pure_apply]

theorem iterYield_mut {kind : IterKind} (hk : IsMut kind) (g : V → V)
    (hr : Rep s.r l) {i : Nat} (hi : i < l.length) :
    iterYield kind g (some (i, l[i])) s =
      .ok (RV.some (projItem kind i (wr g l[i]))) { s with r := setSlot s.r i (some (wr g l[i])) } := by
  have hk' : kind = IterKind.iter_mut ∨ kind = IterKind.values_mut := hk
  simp only [iterYield, hk', if_true, bind_apply, pure_apply,
    valueReplace_ok (s := s) (g l[i].2) (hr.cap_lt hi) (hr.slot hi)]
  rfl

theorem set_eq_mapRange {α : Type} (f : α → α) (l : List α) {i : Nat} (hi : i < l.length) :
    l.set i (f l[i]) = mapRange f i (i + 1) l := by
  apply List.ext_getElem?
  intro n
  rw [getElem?_mapRange, List.getElem?_set]
  by_cases hn : i = n
  · subst hn; simp [hi]
  · have : ¬ (i ≤ n ∧ n < i + 1) := by omega
    simp [hn, this]

theorem iterYield_at (hr : Rep s.r l)
    (i : Nat) :
    ∃ s1 : St K V Q, iterYield kind g (l[i]?.map fun p => (i, p)) s = .ok (nextOut kind g l i 0) s1 ∧
      s1.w = s.w ∧ s1.r.cap = s.r.cap ∧ (¬ IsMut kind → s1 = s) ∧
      Rep s1.r (written kind g i (i + 1) l) := by
  by_cases hi : i < l.length
  · by_cases hm : IsMut kind
    · refine ⟨{ s with r := setSlot s.r i (some (wr g l[i])) }, ?_, rfl, rfl, fun h => absurd hm h, ?_⟩
      · rw [List.getElem?_eq_getElem hi, Option.map_some, iterYield_mut hm g hr hi]
        simp [nextOut, hi, hm]
      · rw [written, if_pos hm, ← set_eq_mapRange (wr g) l hi]
        exact hr.set hi _
    · refine ⟨s, ?_, rfl, rfl, fun _ => rfl, by rw [written, if_neg hm]; exact hr⟩
      rw [iterYield_shared hm, List.getElem?_eq_getElem hi]
      simp [nextOut, hi, hm]
  · refine ⟨s, ?_, rfl, rfl, fun _ => rfl, ?_⟩
    · rw [List.getElem?_eq_none (by omega)]
      simp [nextOut, iterYield, List.getElem?_eq_none (by omega : l.length ≤ i)]
    · rw [written_of_le _ _ (Or.inl (by omega))]; exact hr

/-- `nth(k)` inside a script: for the `*_mut` kinds exactly entry `j+k` is rewritten; the `k` skipped
    entries are not written. -/
theorem iterScriptX_nth (k : Nat) (hr : Rep s.r l) {j : Nat}
    (hj : j ≤ l.length) :
    ∃ s1 : St K V Q, s1.w = s.w ∧ s1.r.cap = s.r.cap ∧ (¬ IsMut kind → s1 = s) ∧
      Rep s1.r (written kind g (j + k) (j + k + 1) l) ∧
      ∀ (cs : List IterCmdX) (forks : List SliceIt),
        iterScriptX R kind g (.nth k :: cs) ⟨j, l.length⟩ forks s =
          (iterScriptX R kind g cs ⟨min (j + k + 1) l.length, l.length⟩ forks >>= fun rest =>
            pure (nextOut kind g l j k :: rest)) s1 := by
  obtain ⟨s1, e, h1, h2, h3, h4⟩ := iterYield_at kind g hr (j + k)
  refine ⟨s1, h1, h2, h3, h4, fun cs forks => ?_⟩
  have hno : nextOut kind g l (j + k) 0 = nextOut kind g l j k := by simp [nextOut]
  simp only [iterScriptX, bind_apply, getS, iterNthR_rep hr s k hj, e, hno]

theorem iterScriptX_next_eq_nth0 (cs : List IterCmdX)
    (it : SliceIt) (forks : List SliceIt) :
    iterScriptX (Q := Q) R kind g (.base .next :: cs) it forks = iterScriptX R kind g (.nth 0 :: cs) it forks :=
  rfl

/-- read off `iterScriptX_nth` at `k = 0` through `iterScriptX_base`: the step is proved once, for
    `nth`, where the model has the item's use as a function of its own (`iterYield`); `iterScript`
    has it inlined in its `next` case. -/
theorem iterScript_next
    (hr : Rep s.r l) {j : Nat} (hj : j ≤ l.length) :
    ∃ s1 : St K V Q, s1.w = s.w ∧ s1.r.cap = s.r.cap ∧ (¬ IsMut kind → s1 = s) ∧
      Rep s1.r (written kind g j (j + 1) l) ∧
      ∀ (cs : List IterCmd) (forks : List SliceIt),
        iterScript R kind g (.next :: cs) ⟨j, l.length⟩ forks s =
          (iterScript R kind g cs ⟨min (j + 1) l.length, l.length⟩ forks >>= fun rest =>
            pure (nextOut kind g l j 0 :: rest)) s1 := by
  obtain ⟨s1, h1, h2, h3, h4, e⟩ := iterScriptX_nth R kind g 0 hr hj
  refine ⟨s1, h1, h2, h3, h4, fun cs forks => ?_⟩
  have := e (cs.map .base) forks
  rwa [← iterScriptX_next_eq_nth0, ← List.map_cons, StdIterB.iterScriptX_base,
    StdIterB.iterScriptX_base] at this

/-- any script over a borrowing iterator standing at `k` runs to completion without panic or `ub`
    and touches nothing but the values it is entitled to write: `iter_mut` / `values_mut` replace
    exactly the values of the entries yielded (`k ≤ i < k + #next`) by `g v`. -/
theorem iterScript_spec (cs : List IterCmd) :
    ∀ (k : Nat) (forks : List SliceIt) (s : St K V Q) (l : List (K × V)),
    Rep s.r l → k ≤ l.length → (∀ f ∈ forks, f.lo ≤ l.length ∧ f.hi = l.length) →
    Runs kind (iterScript R kind g cs ⟨k, l.length⟩ forks) s (written kind g k (k + scriptNexts cs) l) := by
  induction cs with
  | nil =>
    intro k forks s l hr hk hf
    rw [iterScript, written_of_le _ _ (Or.inr (by simp [scriptNexts]))]
    exact Runs.forks hr hf
  | cons c cs ih =>
    intro k forks s l hr hk hf
    cases c with
    | next =>
      obtain ⟨s1, g1, g2, g3, g4, e⟩ := iterScript_next (Q := Q) R kind g hr hk
      have h := ih (min (k + 1) l.length) forks s1 _ g4 (by rw [written_length]; omega)
        (by rw [written_length]; exact hf)
      rw [written_length, written_next] at h
      exact h.step (e cs forks) g1 g2 g3
    | len =>
      exact (ih k forks s l hr hk hf).map (RV.nat (SliceIt.len ⟨k, l.length⟩) :: ·) fun o s' e => by
        simp only [iterScript, bind_apply, pure_apply, e]
    | hint =>
      exact (ih k forks s l hr hk hf).map
        (RV.hint (SliceIt.len ⟨k, l.length⟩) (some (SliceIt.len ⟨k, l.length⟩)) :: ·) fun o s' e => by
        simp only [iterScript, bind_apply, pure_apply, e]
    | debug =>
      exact (ih k forks s l hr hk hf).map (RV.str (renderRest R kind false (l.drop k)) :: ·) fun o s' e => by
        simp only [iterScript, bind_apply, pure_apply, getS, restR_rep hr hk s, e]
    | debugAlt =>
      exact (ih k forks s l hr hk hf).map (RV.str (renderRest R kind true (l.drop k)) :: ·) fun o s' e => by
        simp only [iterScript, bind_apply, pure_apply, getS, restR_rep hr hk s, e]
    | clone =>
      by_cases hm : kind = IterKind.iter_mut ∨ kind = IterKind.values_mut
      · exact (ih k forks s l hr hk hf).map id fun o s' e => by simp only [iterScript, hm, if_true, e, id]
      · refine (ih k (forks ++ [⟨k, l.length⟩]) s l hr hk fun f hfm => ?_).map id fun o s' e => by
          simp only [iterScript, hm, if_false, e, id]
        rcases List.mem_append.mp hfm with h | h
        · exact hf f h
        · simp at h; subst h; exact ⟨hk, rfl⟩
    | count | fold =>
      -- `count` / `fold` consume the iterator: the script ends
      rw [written_of_le _ _ (Or.inr (by simp [scriptNexts]))]
      exact (Runs.forks hr hf).map (RV.nat (SliceIt.len ⟨k, l.length⟩) :: ·) fun o s' e => by
        rw [iterScript]; simp only [iterScript, bind_apply, pure_apply, e]

theorem iterOp_spec (script : List IterCmd) (hr : Rep s.r l) :
    ∃ out s', iterOp R kind g script s = .ok out s' ∧ s'.w = s.w ∧ s'.r.cap = s.r.cap ∧
      (¬ IsMut kind → s' = s) ∧
      (IsMut kind → Rep s'.r (mapRange (wr g) 0 (scriptNexts script) l)) := by
  obtain ⟨o, s', e, h1, h2, h3, h4⟩ :=
    iterScript_spec R kind g script 0 [] s l hr (Nat.zero_le _) (fun _ h => by simp at h)
  refine ⟨o, s', ?_, h1, h2, h3, fun h => by simpa [written, h] using h4⟩
  simp only [iterOp, getS, bind_apply, hr.iterStartR_ok s, e]

theorem findFrom_map_wr (g : V → V) (l : List (K × V)) (pr : Probe K Q) :
    ∀ n i, findFrom E (l.map (wr g)) pr n i = findFrom E l pr n i
  | 0, _ => rfl
  | n + 1, i => by
    unfold findFrom
    rw [List.getElem?_map]
    cases l[i]? with
    | none => rfl
    | some p => simp only [Option.map_some, wr, findFrom_map_wr g l pr n (i + 1)]

theorem findKey_map_wr (g : V → V) (l : List (K × V)) (pr : Probe K Q) :
    findKey E (l.map (wr g)) pr = findKey E l pr := by
  unfold findKey
  rw [List.length_map]
  exact findFrom_map_wr E g l pr _ _

theorem iterScript_nexts (j : Nat) :
    ∀ (k : Nat) (s : St K V Q) (l : List (K × V)), Rep s.r l → k ≤ l.length →
    ∃ sj : St K V Q, sj.w = s.w ∧ sj.r.cap = s.r.cap ∧ (¬ IsMut kind → sj = s) ∧
      Rep sj.r (written kind g k (k + j) l) ∧
      ∀ cs forks o s', iterScript R kind g cs ⟨min (k + j) l.length, l.length⟩ forks sj = .ok o s' →
        iterScript R kind g (List.replicate j .next ++ cs) ⟨k, l.length⟩ forks s =
          .ok ((List.range j).map (nextOut kind g l k) ++ o) s' := by
  induction j with
  | zero =>
    intro k s l hr hk
    refine ⟨s, rfl, rfl, fun _ => rfl, ?_, ?_⟩
    · rw [written_of_le _ _ (Or.inr (by omega))]; exact hr
    · intro cs forks o s' e
      simpa [Nat.min_eq_left hk] using e
  | succ j ih =>
    intro k s l hr hk
    obtain ⟨s1, g1, g2, g3, g4, e⟩ := iterScript_next (Q := Q) R kind g hr hk
    obtain ⟨sj, h1, h2, h3, h4, h5⟩ := ih (min (k + 1) l.length) s1 _ g4 (by rw [written_length]; omega)
    have hmin : min (min (k + 1) l.length + j) l.length = min (k + (j + 1)) l.length := by omega
    rw [written_length, hmin] at h5
    rw [written_next] at h4
    refine ⟨sj, h1.trans g1, h2.trans g2, fun h => (h3 h).trans (g3 h), h4, ?_⟩
    · intro cs forks o s' eo
      rw [List.replicate_succ, List.cons_append, e]
      simp only [bind_apply, h5 cs forks o s' eo, pure_apply]
      rw [List.range_succ_eq_map, List.map_cons, List.map_map, List.cons_append]
      congr 3
      exact List.map_congr_left fun i _ => nextOut_succ kind g l k i

theorem iterOp_nexts (j : Nat) (hr : Rep s.r l) :
    ∃ sj : St K V Q, (¬ IsMut kind → sj = s) ∧
      ∀ cs o s', iterScript R kind g cs ⟨min j l.length, l.length⟩ [] sj = .ok o s' →
        iterOp R kind g (List.replicate j .next ++ cs) s =
          .ok ((List.range j).map (nextOut kind g l 0) ++ o) s' := by
  obtain ⟨sj, _, _, h3, _, h5⟩ := iterScript_nexts R kind g j 0 s l hr (Nat.zero_le _)
  rw [Nat.zero_add] at h5
  exact ⟨sj, h3, fun cs o s' e => by
    simp only [iterOp, getS, bind_apply, hr.iterStartR_ok s, h5 cs [] o s' e]⟩

end Micromap.Iters
