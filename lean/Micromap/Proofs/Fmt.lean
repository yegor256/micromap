/-
Formatting: the hand-written `Display` loops of `Map` and `Set` equal `intercalate`.
-/
import Micromap.Model.Sys

namespace Micromap.Fmt
variable {K V Q : Type}

theorem join_map_append (sep : String) : ∀ (acc : String) (xs : List String),
    List.foldl (fun r s => r ++ s) acc (xs.map fun x => sep ++ x) =
      acc ++ String.join (xs.map fun x => sep ++ x)
  | acc, [] => by simp [String.join]
  | acc, x :: xs => by
    simp only [List.map_cons, List.foldl_cons]
    rw [join_map_append sep (acc ++ (sep ++ x)) xs, String.join_cons, String.append_assoc]

theorem intercalate_eq_join (sep : String) : ∀ (x : String) (xs : List String),
    sep.intercalate (x :: xs) = x ++ String.join (xs.map fun y => sep ++ y)
  | x, [] => by simp [String.join]
  | x, y :: ys => by
    rw [String.intercalate_cons_cons, intercalate_eq_join sep y ys]
    simp only [List.map_cons, String.join_cons, String.append_assoc]

/-- `Display for Map` as coded (first entry, then `", "`-prefixed entries) is the documented
    layout `{k: v, k: v}`. -/
theorem displayMapCode_eq (R : Render K V) (l : List (K × V)) :
    displayMapCode R l = StdFmt.displayMap (l.map fun p => (R.dspK p.1, R.dspV p.2)) := by
  unfold displayMapCode StdFmt.displayMap StdFmt.joinComma
  cases l with
  | nil => simp
  | cons p rest =>
    simp only [List.map_cons, List.map_map]
    rw [intercalate_eq_join]
    simp only [List.map_map, String.append_assoc]
    rfl

/-- `Display for Set` as coded is `{a, b}`. -/
theorem displaySetCode_eq (dsp : K → String) (l : List (K × Unit)) :
    displaySetCode dsp l = StdFmt.displaySet (l.map fun p => dsp p.1) := by
  unfold displaySetCode StdFmt.displaySet StdFmt.joinComma
  cases l with
  | nil => simp
  | cons p rest =>
    simp only [List.map_cons]
    rw [intercalate_eq_join]
    simp only [List.map_map]
    rfl

end Micromap.Fmt
