/-
`stepSetOp` computes `lSetOp`: every operation of the `Set` API on one register.
-/
import Micromap.Proofs.ListSysMapOp
import Micromap.Proofs.ListSysAlg

namespace Micromap.ListSys
open Micromap
variable {K Q : Type}

/-- the side condition of the set operations: the `retain` predicate does not look at the call
    counter. -/
def SetOp.SideOK : SetOp K Q → Prop
  | .retain f => ∀ n k, f n k = f 0 k
  | _ => True

theorem set_unit_self {l : List (K × Unit)} {j : Nat} (hj : j < l.length) : l.set j (l[j].1, ()) = l :=
  List.set_getElem_self hj

variable (F : Env K Unit Q) (R : Render K Unit)

theorem fmtSet_eq {prof cap} {l : List (K × Unit)} {s : St K Unit Q} (hc : Ctx prof cap l s) (kind : FmtKind) :
    fmtSet R kind s = .ok (lFmtSet R kind l) s := by
  show (entriesOf s.r >>= _) s = _
  rw [bind_apply, Iters.entriesOf_rep hc.rep]
  cases kind <;> rfl

/-- As `stepMapOp_ok`, for the `Set` API. -/
theorem stepSetOp_ok (hF : F.Pure) {prof : Profile} {cap : Nat} {l : List (K × Unit)} {s : St K Unit Q}
    (hc : Ctx prof cap l s) (other : Nat → Raw K Unit) (lo : Nat → List (K × Unit))
    (hother : ∀ o, Rep (other o) (lo o)) (op : SetOp K Q) (hside : SetOp.SideOK op) :
    RegOK prof cap (lSetOp F R prof cap lo l op) (stepSetOp F R other op) s := by
  cases op with
  | insert k =>
    have h := insert_ret F hF hc k ()
    show RegOK prof cap (lInsert F cap l k _ _ _) _ s
    unfold lInsert
    cases hl : lookup F l (.key k) with
    | some x =>
      obtain ⟨i, p⟩ := x; rw [hl] at h
      obtain ⟨hi, rfl⟩ := lookup_eq_some F hl
      have h : Ret _ s _ (Ctx prof cap (l.set i (l[i].1, ()))) := h
      rw [set_unit_self hi] at h
      exact h.bind_pure rfl
    | none =>
      rw [hl] at h
      by_cases hr : l.length < cap
      · rw [if_pos hr] at h ⊢; exact h.bind_pure rfl
      · rw [if_neg hr] at h ⊢; exact Pan.bind h
  | replace k =>
    exact lInsert_ok F (ins_ret F (fun i p => (i, some p)) (fun i _ => l.set i (k, ())) hc
      (insert_ii_benign F hF hc.rep hc.benign k () true) fun h => Pan.bind (hc.pan_of_overflow h))
      (fun _ _ => rfl) rfl
  | contains pr => exact (contains_key_ret F hF hc pr).bind_pure rfl
  | get pr =>
    have h := get_ret F hF hc pr
    show RegOK prof cap (match lookup F l pr with | some (i, p) => _ | none => _) _ s
    cases hl : lookup F l pr with
    | none => rw [hl] at h; exact h.bind_pure rfl
    | some x => obtain ⟨i, p⟩ := x; rw [hl] at h; exact h.bind_pure rfl
  | remove pr =>
    have h := remove_ret F hF hc pr
    show RegOK prof cap (match lookup F l pr with | some (i, p) => _ | none => _) _ s
    cases hl : lookup F l pr with
    | none => rw [hl] at h; exact h.bind_pure rfl
    | some x => obtain ⟨i, p⟩ := x; rw [hl] at h; exact h.bind_pure rfl
  | take pr =>
    have h := remove_entry_ret F hF hc pr
    show RegOK prof cap (match lookup F l pr with | some (i, p) => _ | none => _) _ s
    cases hl : lookup F l pr with
    | none => rw [hl] at h; exact h.bind_pure rfl
    | some x => obtain ⟨i, p⟩ := x; rw [hl] at h; exact h.bind_pure rfl
  | retain f =>
    have hf : ∀ n k (u : Unit), (fun n k (u : Unit) => (f n k, u)) n k u = (fun n k (u : Unit) => (f n k, u)) 0 k u := by
      intro n k u; simp only; rw [hside n k]
    exact Ret.bind_pure (retain_ret F hc (fun n k u => (f n k, u)) hf) rfl
  | clear => exact Ret.bind_pure (clear_ret F hc) rfl
  | len => exact ⟨s, congrArg (fun n => Res.ok (RV.nat n) s) hc.rep.1, hc⟩
  | is_empty => exact ⟨s, congrArg (fun n => Res.ok (RV.bool (n == 0)) s) hc.rep.1, hc⟩
  | capacity => exact ⟨s, congrArg (fun n => Res.ok (RV.nat n) s) hc.cap, hc⟩
  | drain take forget =>
    exact Ret.bind_pure (drainOp_ret F hc take forget) rfl
  | into_iter take forget =>
    exact Ret.bind_pure (intoIterOp_ret F hc .keys take forget) rfl
  | iter script =>
    have h := iterOp_ret R .keys id script hc
    rw [lIterScript_shared R (kind := .keys) rfl] at h
    exact Ret.bind_pure h rfl
  | clone_to dst => exact ⟨s, rfl, hc⟩
  | eq o =>
    exact Ret.getS (Ret.bind_pure (mapEq_ret F hF hc hc.rep (hother o)) rfl)
  | from_iter pulls xs => exact ⟨s, rfl, hc⟩
  | extend pulls xs =>
    show RegOK prof cap (if _ then _ else _) _ s
    have h := FromIter.extendLoop_benign F hF pulls (xs.map fun k => (k, ())) hc.rep hc.benign
    rw [hc.cap] at h
    cases hov : FromIter.overflowAt F cap l (xs.map fun k => (k, ())) with
    | none =>
      rw [hov] at h; obtain ⟨s', hm, hrep, hcap, hw⟩ := h
      exact Ret.bind_pure ⟨s', hm, hc.step hrep (hcap.trans hc.cap.symm) hw⟩ rfl
    | some m =>
      rw [hov] at h; obtain ⟨c, s', k, v, hm, ho, _, hrep, hcap, hw⟩ := h
      rw [if_neg (by simp), ← overflow_class ho hc.prof]
      exact Pan.bind ⟨s', hm, hc.step hrep (hcap.trans hc.cap.symm) hw⟩
  | alg kind o script =>
    exact Ret.getS (Ret.bind_pure ((algOp_qex F hF hc.rep (hother o) R.dbgK kind script).ret hc) rfl)
  | is_subset o =>
    exact Ret.getS (Ret.bind_pure ((is_subset_qex F hF hc.rep (hother o)).ret hc) rfl)
  | is_superset o =>
    exact Ret.getS (Ret.bind_pure ((is_superset_qex F hF hc.rep (hother o)).ret hc) rfl)
  | is_disjoint o =>
    exact Ret.getS (Ret.bind_pure ((is_disjoint_qex F hF hc.rep (hother o)).ret hc) rfl)
  | sub o dst => exact ⟨s, rfl, hc⟩
  | fmt kind => exact Ret.bind_pure ⟨s, fmtSet_eq R hc kind, hc⟩ rfl
  | drop => exact Ret.bind_pure (dropAndRenew_ret F hc) rfl
  | forget => exact Ret.bind_pure (forgetMap_ret hc) rfl
  | serde dst => exact ⟨s, rfl, hc⟩
  | extend_from o => exact ⟨s, rfl, hc⟩

end Micromap.ListSys
