/-
Laws of the extensional dictionary: how lookups change under the
three list edits the container performs — overwrite in place, append, swap-remove — and the
`retain` loop; then `lookupL` as such a lookup, and `Map::eq` as extensional equality.  Pure list
reasoning.
-/
import Micromap.Spec.Dict
import Micromap.Proofs.SetAlgLaws

namespace Micromap.Dict
open Micromap.SetAlg
variable {K V : Type} {keq : K → K → Bool}

theorem nodupKeys_iff_getElem (h : EquivB keq) {l : List (K × V)} :
    NodupKeys keq l ↔
      ∀ (i j : Nat) (hi : i < l.length) (hj : j < l.length), i ≠ j → keq l[i].1 l[j].1 = false := by
  unfold NodupKeys NodupB
  rw [List.pairwise_map, List.pairwise_iff_getElem]
  constructor
  · intro hn i j hi hj hij
    rcases Nat.lt_or_gt_of_ne hij with hlt | hgt
    · exact hn i j hi hj hlt
    · rw [h.symm]; exact hn j i hj hi hgt
  · intro hn i j hi hj hlt
    exact hn i j hi hj (Nat.ne_of_lt hlt)

theorem nodupKeys_of_perm {l l' : List (K × V)} (h : EquivB keq) (hn : NodupKeys keq l)
    (hperm : l.Perm l') : NodupKeys keq l' := by
  unfold NodupKeys NodupB at *
  refine (hperm.map (·.1)).pairwise hn ?_
  intro x y hxy
  rw [h.symm]; exact hxy

theorem nodupKeys_of_sublist {l l' : List (K × V)} (hn : NodupKeys keq l)
    (hs : l'.Sublist l) : NodupKeys keq l' := by
  unfold NodupKeys NodupB at *
  exact List.Pairwise.sublist (hs.map (·.1)) hn

theorem nodupKeys_cons {p : K × V} {l : List (K × V)} :
    NodupKeys keq (p :: l) ↔ (∀ q, q ∈ l → keq p.1 q.1 = false) ∧ NodupKeys keq l := by
  unfold NodupKeys NodupB
  rw [List.map_cons, List.pairwise_cons]
  constructor
  · rintro ⟨h1, h2⟩
    exact ⟨fun q hq => h1 q.1 (List.mem_map_of_mem hq), h2⟩
  · rintro ⟨h1, h2⟩
    refine ⟨?_, h2⟩
    intro a ha
    rcases List.mem_map.1 ha with ⟨q, hq, rfl⟩
    exact h1 q hq

theorem _root_.Micromap.SetAlg.EquivB.probeOK (h : EquivB keq) (k : K) : ProbeOK keq (fun a => keq a k) :=
  ⟨fun a b hab => by
    have hba : keq b a = true := by rw [h.symm]; exact hab
    exact Bool.eq_iff_iff.2 ⟨fun ha => h.trans _ _ _ hba ha, fun hb => h.trans _ _ _ hab hb⟩,
   fun a b ha hb => h.trans _ _ _ ha (by rw [h.symm]; exact hb)⟩

theorem ProbeOK.hit_false {hit : K → Bool} (hp : ProbeOK keq hit) {a b : K} (ha : hit a = true)
    (hab : keq a b = false) : hit b = false :=
  Bool.eq_false_iff.2 fun hb => by have := hp.single a b ha hb; rw [hab] at this; cases this

theorem lookupP_eq_none_iff {hit : K → Bool} {l : List (K × V)} :
    lookupP hit l = none ↔ ∀ p, p ∈ l → hit p.1 = false := by
  simp [lookupP]

theorem lookupP_eq_some_iff {hit : K → Bool} (hp : ProbeOK keq hit) {l : List (K × V)}
    (hn : NodupKeys keq l) {p : K × V} :
    lookupP hit l = some p ↔ p ∈ l ∧ hit p.1 = true := by
  constructor
  · intro hf
    exact ⟨List.mem_of_find?_eq_some hf, List.find?_some (p := fun q : K × V => hit q.1) hf⟩
  · rintro ⟨hmem, hhit⟩
    induction l with
    | nil => cases hmem
    | cons q t ih =>
      rw [nodupKeys_cons] at hn
      unfold lookupP
      rw [List.find?_cons]
      rcases List.mem_cons.1 hmem with rfl | hmem'
      · rw [hhit]
      · cases hq : hit q.1 with
        | true => rw [hp.hit_false hq (hn.1 p hmem')] at hhit; cases hhit
        | false => exact ih hn.2 hmem'

theorem lookupP_congr_mem {hit : K → Bool} (hp : ProbeOK keq hit) {l l' : List (K × V)}
    (hn : NodupKeys keq l)
    (hmem : ∀ p, hit p.1 = true → (p ∈ l ↔ p ∈ l')) : lookupP hit l = lookupP hit l' := by
  cases hl' : lookupP hit l' with
  | none =>
    rw [lookupP_eq_none_iff] at hl' ⊢
    exact fun p hpl => Bool.eq_false_iff.2 fun hc => by
      have := hl' p ((hmem p hc).1 hpl); rw [hc] at this; cases this
  | some p =>
    have h2 : hit p.1 = true := List.find?_some (p := fun q : K × V => hit q.1) hl'
    exact (lookupP_eq_some_iff hp hn).2 ⟨(hmem p h2).2 (List.mem_of_find?_eq_some hl'), h2⟩

theorem lookupP_eq_of_findIdxP {hit : K → Bool} {l : List (K × V)} {i} (h : findIdxP hit l = some i) :
    ∃ hi : i < l.length, lookupP hit l = some l[i] ∧ hit l[i].1 = true := by
  unfold findIdxP at h
  rw [List.findIdx?_eq_some_iff_getElem] at h
  obtain ⟨hi, hh, hlt⟩ := h
  refine ⟨hi, ?_, hh⟩
  unfold lookupP
  rw [List.find?_eq_some_iff_getElem]
  exact ⟨hh, i, hi, rfl, fun j hj => by simpa using hlt j hj⟩

theorem findIdxP_some_lt {hit : K → Bool} {l : List (K × V)} {i} (h : findIdxP hit l = some i) :
    i < l.length :=
  let ⟨hi, _⟩ := lookupP_eq_of_findIdxP h; hi

theorem findIdxP_none_iff {hit : K → Bool} {l : List (K × V)} :
    findIdxP hit l = none ↔ ∀ p, p ∈ l → hit p.1 = false := by
  unfold findIdxP
  exact List.findIdx?_eq_none_iff

theorem lookupP_none_iff {hit : K → Bool} {l : List (K × V)} :
    lookupP hit l = none ↔ findIdxP hit l = none := by
  rw [lookupP_eq_none_iff, findIdxP_none_iff]

theorem findIdxP_unique (h : EquivB keq) {hit : K → Bool} (hp : ProbeOK keq hit) {l : List (K × V)}
    (hn : NodupKeys keq l) {i} (hi : i < l.length) (hh : hit l[i].1 = true) :
    findIdxP hit l = some i := by
  unfold findIdxP
  rw [List.findIdx?_eq_some_iff_getElem]
  refine ⟨hi, hh, ?_⟩
  intro j hj hc
  rw [hp.hit_false hc ((nodupKeys_iff_getElem h).1 hn j i (Nat.lt_trans hj hi) hi (Nat.ne_of_lt hj))] at hh
  cases hh

/-! ### overwrite in place (`insert` / `insert_key_value` on a present key, `get_mut`) -/

theorem nodupKeys_set (h : EquivB keq) {l : List (K × V)} (hn : NodupKeys keq l) {i} (hi : i < l.length)
    (k' : K) (v' : V) (hk : keq l[i].1 k' = true) : NodupKeys keq (l.set i (k', v')) := by
  rw [nodupKeys_iff_getElem h] at hn ⊢
  -- the new key is unequal to every other stored key, since the old one was
  have key : ∀ j (hj : j < l.length), i ≠ j → keq k' l[j].1 = false := fun j hj hij =>
    Bool.eq_false_iff.2 fun hc => by
      have h1 := h.trans _ _ _ hk hc
      rw [hn i j hi hj hij] at h1; cases h1
  intro a b ha hb hab
  rw [List.length_set] at ha hb
  rw [List.getElem_set, List.getElem_set]
  by_cases hia : i = a
  · rw [if_pos hia, if_neg fun hib => hab (hia.symm.trans hib)]
    exact key b hb fun hib => hab (hia.symm.trans hib)
  · rw [if_neg hia]
    by_cases hib : i = b
    · rw [if_pos hib, h.symm]; exact key a ha hia
    · rw [if_neg hib]; exact hn a b ha hb hab

theorem lookupP_set (h : EquivB keq) {hit : K → Bool} (hp : ProbeOK keq hit) {l : List (K × V)}
    (hn : NodupKeys keq l) {i} (hi : i < l.length) (k' : K) (v' : V) (hk : keq l[i].1 k' = true) :
    lookupP hit (l.set i (k', v')) = if hit k' then some (k', v') else lookupP hit l := by
  have hn' := nodupKeys_set h hn hi k' v' hk
  cases hc : hit k' with
  | true =>
    rw [if_pos rfl]
    exact (lookupP_eq_some_iff hp hn').2 ⟨List.mem_set hi _, hc⟩
  | false =>
    rw [if_neg (by simp)]
    have hli : hit l[i].1 = false := by rw [hp.congr _ _ hk]; exact hc
    refine lookupP_congr_mem hp hn' fun p hpt => ⟨fun hm => ?_, fun hm => ?_⟩
    · rcases List.mem_or_eq_of_mem_set hm with hm' | rfl
      · exact hm'
      · rw [hc] at hpt; cases hpt
    · rcases List.mem_iff_getElem.1 hm with ⟨j, hj, rfl⟩
      have hij : i ≠ j := fun e => by subst e; rw [hli] at hpt; cases hpt
      exact List.mem_iff_getElem.2 ⟨j, by simpa using hj, List.getElem_set_ne hij _⟩

/-! ### append (`insert` of an absent key) -/

theorem lookupP_append {hit : K → Bool} {l : List (K × V)} (k : K) (v : V) :
    lookupP hit (l ++ [(k, v)]) = match lookupP hit l with
      | some p => some p
      | none => if hit k then some (k, v) else none := by
  unfold lookupP
  rw [List.find?_append]
  cases List.find? (fun p => hit p.1) l with
  | some p => rfl
  | none =>
    cases hc : hit k <;> simp [hc]

theorem nodupKeys_append (_h : EquivB keq) {l : List (K × V)} (hn : NodupKeys keq l) (k : K) (v : V)
    (habs : ∀ p, p ∈ l → keq p.1 k = false) : NodupKeys keq (l ++ [(k, v)]) := by
  unfold NodupKeys NodupB at *
  rw [List.map_append, List.pairwise_append]
  refine ⟨hn, by simp, ?_⟩
  intro a ha b hb
  rcases List.mem_map.1 ha with ⟨q, hq, rfl⟩
  simp at hb
  subst hb
  exact habs q hq

/-! ### swap-remove (`remove`, `remove_entry`, `retain`, entry removal) -/

theorem swapRemove_last (a : List (K × V)) (x : K × V) :
    swapRemove (a ++ [x]) a.length = a := by
  unfold swapRemove
  simp

theorem swapRemove_mid (a b : List (K × V)) (x y : K × V) :
    swapRemove (a ++ x :: (b ++ [y])) a.length = a ++ y :: b := by
  unfold swapRemove
  have hne : ¬ (a.length + 1 = (a ++ x :: (b ++ [y])).length) := by
    simp
  rw [if_neg hne]
  have hl : (a ++ x :: (b ++ [y])).getLast? = some y := by
    simp [List.getLast?_append, List.getLast?_cons]
  rw [hl]
  show ((a ++ x :: (b ++ [y])).set a.length y).dropLast = a ++ y :: b
  rw [List.set_append, if_neg (Nat.lt_irrefl _), Nat.sub_self, List.set_cons_zero]
  have : a ++ y :: (b ++ [y]) = (a ++ y :: b) ++ [y] := by simp
  rw [this, List.dropLast_concat]

theorem swapRemove_cases {l : List (K × V)} {i} (hi : i < l.length) :
    (∃ a x, l = a ++ [x] ∧ a.length = i ∧ swapRemove l i = a) ∨
    (∃ a x b y, l = a ++ x :: (b ++ [y]) ∧ a.length = i ∧ swapRemove l i = a ++ y :: b) := by
  obtain ⟨a, x, c, rfl, rfl⟩ : ∃ a x c, l = a ++ x :: c ∧ a.length = i :=
    ⟨l.take i, l[i], l.drop (i + 1), by rw [← List.drop_eq_getElem_cons hi, List.take_append_drop],
      by rw [List.length_take]; omega⟩
  rcases List.eq_nil_or_concat c with rfl | ⟨b, y, rfl⟩
  · exact .inl ⟨a, x, rfl, rfl, swapRemove_last a x⟩
  · rw [List.concat_eq_append]
    exact .inr ⟨a, x, b, y, rfl, rfl, swapRemove_mid a b x y⟩

theorem swapRemove_perm {l : List (K × V)} {i} (hi : i < l.length) :
    (swapRemove l i).Perm (l.eraseIdx i) := by
  rcases swapRemove_cases hi with ⟨a, x, hl, ha, hs⟩ | ⟨a, x, b, y, hl, ha, hs⟩
  · rw [hs, hl, ← ha, List.eraseIdx_append_of_length_le (Nat.le_refl _), Nat.sub_self]
    simp
  · rw [hs, hl, ← ha, List.eraseIdx_append_of_length_le (Nat.le_refl _), Nat.sub_self]
    show (a ++ y :: b).Perm (a ++ (b ++ [y]))
    exact List.Perm.append_left a (List.perm_append_singleton y b).symm

theorem swapRemove_length {l : List (K × V)} {i} (hi : i < l.length) :
    (swapRemove l i).length = l.length - 1 := by
  rw [(swapRemove_perm hi).length_eq, List.length_eraseIdx_of_lt hi]

theorem nodupKeys_swapRemove (h : EquivB keq) {l : List (K × V)} (hn : NodupKeys keq l) {i}
    (hi : i < l.length) : NodupKeys keq (swapRemove l i) :=
  nodupKeys_of_perm h (nodupKeys_of_sublist hn (List.eraseIdx_sublist l i)) (swapRemove_perm hi).symm

theorem lookupP_perm (_h : EquivB keq) {hit : K → Bool} (hp : ProbeOK keq hit) {l l' : List (K × V)}
    (hn : NodupKeys keq l) (hperm : l.Perm l') : lookupP hit l = lookupP hit l' :=
  lookupP_congr_mem hp hn (fun _ _ => hperm.mem_iff)

theorem lookupP_swapRemove (h : EquivB keq) {hit : K → Bool} (hp : ProbeOK keq hit) {l : List (K × V)}
    (hn : NodupKeys keq l) {i} (hi : i < l.length) :
    lookupP hit (swapRemove l i) = if hit l[i].1 then none else lookupP hit l := by
  have hne : NodupKeys keq (l.eraseIdx i) := nodupKeys_of_sublist hn (List.eraseIdx_sublist l i)
  rw [← lookupP_perm h hp hne (swapRemove_perm hi).symm]
  cases hc : hit l[i].1 with
  | true =>
    rw [if_pos rfl, lookupP_eq_none_iff]
    intro p hpm
    rcases List.mem_eraseIdx_iff_getElem.1 hpm with ⟨j, hj, hji, rfl⟩
    -- a second position satisfying the probe would be the one the scan finds, too
    exact Bool.eq_false_iff.2 fun hcj => hji (Option.some.inj
      ((findIdxP_unique h hp hn hj hcj).symm.trans (findIdxP_unique h hp hn hi hc)))
  | false =>
    rw [if_neg (by simp)]
    refine lookupP_congr_mem hp hne fun p hpt => ⟨(List.eraseIdx_sublist l i).mem, fun hm => ?_⟩
    rcases List.mem_iff_getElem.1 hm with ⟨j, hj, rfl⟩
    exact List.mem_eraseIdx_iff_getElem.2 ⟨j, hj, fun e => (by subst e; rw [hc] at hpt; cases hpt), rfl⟩

theorem retainL_succ (f : K → V → Bool × V) (fuel : Nat) {i : Nat} {l : List (K × V)} (hi : i < l.length) :
    retainL f (fuel + 1) i l =
      if (f l[i].1 l[i].2).1 then retainL f fuel (i + 1) (l.set i (l[i].1, (f l[i].1 l[i].2).2))
      else retainL f fuel i (swapRemove (l.set i (l[i].1, (f l[i].1 l[i].2).2)) i) := by
  rw [retainL, List.getElem?_eq_getElem hi]

/-- the loop invariant of `retain`: the prefix `a` before the cursor is final, the rest `b` is still
    to filter (a dropped entry is replaced by the last one, so `b` is only kept up to order). -/
theorem retainL_perm_aux (f : K → V → Bool × V) (n : Nat) : ∀ (a b : List (K × V)), b.length = n →
    (retainL f n a.length (a ++ b)).Perm
      (a ++ b.filterMap fun p => if (f p.1 p.2).1 then some (p.1, (f p.1 p.2).2) else none) := by
  induction n with
  | zero =>
    intro a b hb
    rw [List.length_eq_zero_iff.mp hb]; exact .refl _
  | succ n ih =>
    intro a b hb
    match b, hb with
    | x :: b', hb =>
    have hi : a.length < (a ++ x :: b').length := by simp
    have hx : (a ++ x :: b')[a.length] = x := by simp
    rw [retainL_succ f n hi, hx, List.filterMap_cons,
      show (a ++ x :: b').set a.length (x.1, (f x.1 x.2).2) = a ++ (x.1, (f x.1 x.2).2) :: b' by simp]
    cases hk : (f x.1 x.2).1 with
    | true =>
      have := ih (a ++ [(x.1, (f x.1 x.2).2)]) b' (by simpa using hb)
      simpa using this
    | false =>
      rcases List.eq_nil_or_concat b' with rfl | ⟨b'', y, rfl⟩
      · obtain rfl : n = 0 := by simpa using hb.symm
        rw [swapRemove_last]; simp [retainL]
      · rw [List.concat_eq_append, swapRemove_mid]
        refine (ih a (y :: b'') (by simpa using hb)).trans (List.Perm.append_left a ?_)
        simpa using (List.perm_append_singleton y b'').symm.filterMap _

/-- `retain` keeps exactly the entries whose predicate answers `true`, with the value the
    predicate left behind, each once; `fuel` is the loop measure `len - i`. -/
theorem retainL_perm (f : K → V → Bool × V) (l : List (K × V)) :
    (retainL f l.length 0 l).Perm
      (l.filterMap fun p => if (f p.1 p.2).1 then some (p.1, (f p.1 p.2).2) else none) :=
  retainL_perm_aux f l.length [] l rfl

theorem nodupKeys_filterMap (g : K × V → Option (K × V)) (hg : ∀ p q, g p = some q → q.1 = p.1)
    {l : List (K × V)} (hn : NodupKeys keq l) : NodupKeys keq (l.filterMap g) := by
  unfold NodupKeys NodupB at *
  rw [List.pairwise_map] at hn ⊢
  exact List.Pairwise.filterMap _ (fun a a' hr b hb b' hb' => by rw [hg a b hb, hg a' b' hb']; exact hr) hn

theorem lookupP_filterMap {hit : K → Bool} (hp : ProbeOK keq hit) (g : K × V → Option (K × V))
    (hg : ∀ p q, g p = some q → q.1 = p.1) {l : List (K × V)} (hn : NodupKeys keq l) :
    lookupP hit (l.filterMap g) = (lookupP hit l).bind g := by
  induction l with
  | nil => rfl
  | cons q t ih =>
    rw [nodupKeys_cons] at hn
    have ih := ih hn.2
    unfold lookupP at ih ⊢
    rw [List.filterMap_cons, List.find?_cons]
    cases hq : hit q.1 with
    | false =>
      cases hgq : g q with
      | none => exact ih
      | some q' => rw [List.find?_cons, hg q q' hgq, hq]; exact ih
    | true =>
      cases hgq : g q with
      | none =>
        -- no other stored key satisfies the probe
        have : lookupP hit t = none := lookupP_eq_none_iff.2 fun p hpt => hp.hit_false hq (hn.1 p hpt)
        unfold lookupP at this
        rw [ih, this]; simp [hgq]
      | some q' => rw [List.find?_cons, hg q q' hgq, hq, Option.bind_some, hgq]

theorem retain_keeps_key (f : K → V → Bool × V) (p q : K × V)
    (h : (if (f p.1 p.2).1 then some (p.1, (f p.1 p.2).2) else none) = some q) : q.1 = p.1 := by
  split at h <;> cases h; rfl

theorem nodupKeys_retainL (h : EquivB keq) (f : K → V → Bool × V) {l : List (K × V)}
    (hn : NodupKeys keq l) : NodupKeys keq (retainL f l.length 0 l) :=
  nodupKeys_of_perm h (nodupKeys_filterMap _ (retain_keeps_key f) hn) (retainL_perm f l).symm

theorem lookupP_retainL (h : EquivB keq) {hit : K → Bool} (hp : ProbeOK keq hit) (f : K → V → Bool × V)
    {l : List (K × V)} (hn : NodupKeys keq l) :
    lookupP hit (retainL f l.length 0 l) =
      (lookupP hit l).bind fun p => if (f p.1 p.2).1 then some (p.1, (f p.1 p.2).2) else none := by
  rw [← lookupP_perm h hp (nodupKeys_filterMap _ (retain_keeps_key f) hn) (retainL_perm f l).symm]
  exact lookupP_filterMap hp _ (retain_keeps_key f) hn

theorem lookupP_self (h : EquivB keq) {l : List (K × V)} (hn : NodupKeys keq l) {i} (hi : i < l.length) :
    lookupP (fun k => keq k l[i].1) l = some l[i] :=
  (lookupP_eq_some_iff (h.probeOK _) hn).2 ⟨List.getElem_mem hi, h.refl _⟩

end Micromap.Dict

namespace Micromap.SetAlg
open Micromap.Dict
variable {K V : Type} {keq : K → K → Bool}

theorem lookupL_nil (k : K) : lookupL keq ([] : List (K × V)) k = none := rfl

theorem lookupL_eq (l : List (K × V)) (k : K) :
    lookupL keq l k = (lookupP (fun a => keq a k) l).map (·.2) := rfl

theorem lookupL_eq_none_iff (l : List (K × V)) (k : K) :
    lookupL keq l k = none ↔ ∀ p, p ∈ l → keq p.1 k = false := by
  rw [lookupL_eq, Option.map_eq_none_iff, lookupP_eq_none_iff]

theorem lookupL_some_elim {l : List (K × V)} {k : K} {v : V} (hl : lookupL keq l k = some v) :
    ∃ p, p ∈ l ∧ keq p.1 k = true ∧ p.2 = v := by
  rw [lookupL_eq, Option.map_eq_some_iff] at hl
  obtain ⟨p, hp, hv⟩ := hl
  exact ⟨p, List.mem_of_find?_eq_some hp, List.find?_some (p := fun p : K × V => keq p.1 k) hp, hv⟩

theorem lookupL_some_intro (h : EquivB keq) (l : List (K × V)) (hn : NodupKeys keq l) (p : K × V)
    (hp : p ∈ l) (k : K) (hk : keq p.1 k = true) : lookupL keq l k = some p.2 := by
  rw [lookupL_eq, (lookupP_eq_some_iff (h.probeOK k) hn).2 ⟨hp, hk⟩]; rfl

theorem lookupL_some_of_mem (h : EquivB keq) (l : List (K × V)) (hn : NodupKeys keq l) (p : K × V)
    (hp : p ∈ l) : lookupL keq l p.1 = some p.2 :=
  lookupL_some_intro h l hn p hp p.1 (h.refl _)

theorem lookupL_congr (h : EquivB keq) (l : List (K × V)) {k k' : K} (hk : keq k k' = true) :
    lookupL keq l k = lookupL keq l k' := by
  have hf : (fun p : K × V => keq p.1 k) = (fun p : K × V => keq p.1 k') := by
    funext p; exact keq_congr_right h hk p.1
  unfold lookupL
  rw [hf]

theorem lookupL_perm (h : EquivB keq) (l l' : List (K × V)) (hn : NodupKeys keq l)
    (hp : l.Perm l') (k : K) : lookupL keq l k = lookupL keq l' k := by
  rw [lookupL_eq, lookupL_eq, lookupP_perm h (h.probeOK k) hn hp]

theorem memB_keys_iff (l : List (K × V)) (k : K) :
    memB keq k (l.map (·.1)) = true ↔ lookupL keq l k ≠ none := by
  simp [lookupL_eq_none_iff, memB_eq_true]

theorem length_le_of_lookupL (h : EquivB keq) {a b : List (K × V)} (ha : NodupKeys keq a)
    (H : ∀ p, p ∈ a → lookupL keq b p.1 ≠ none) : a.length ≤ b.length := by
  have := pigeon h _ (b.map (·.1)) (show NodupB keq (a.map (·.1)) from ha) fun x hx => by
    obtain ⟨p, hp, rfl⟩ := List.mem_map.mp hx
    exact (memB_keys_iff b p.1).mpr (H p hp)
  simpa using this

theorem mapEqCode_eq_true (veq : V → V → Bool) (a b : List (K × V)) :
    mapEqCode keq veq a b = true ↔
      a.length = b.length ∧
        ∀ p, p ∈ a → ∃ v, lookupL keq b p.1 = some v ∧ veq v p.2 = true := by
  unfold mapEqCode
  rw [Bool.and_eq_true, beq_iff_eq, List.all_eq_true]
  apply and_congr Iff.rfl
  apply forall_congr'
  intro p
  apply imp_congr Iff.rfl
  cases lookupL keq b p.1 <;> simp

theorem mapExtEq_iff (veq : V → V → Bool) (a b : List (K × V)) :
    MapExtEq keq veq a b ↔
      (∀ k x, lookupL keq a k = some x → ∃ y, lookupL keq b k = some y ∧ veq y x = true) ∧
      (∀ k, lookupL keq a k = none → lookupL keq b k = none) := by
  unfold MapExtEq
  rw [← forall_and]
  refine forall_congr' fun k => ?_
  cases lookupL keq a k <;> cases lookupL keq b k <;> simp

/-- `Map::eq` is exactly "same keys with equal values" when keys are unique on both sides
    (the length test turns one inclusion into the other by the pigeonhole principle). -/
theorem mapEqCode_iff (h : EquivB keq) (veq : V → V → Bool) (a b : List (K × V))
    (ha : NodupKeys keq a) (hb : NodupKeys keq b) :
    mapEqCode keq veq a b = true ↔ MapExtEq keq veq a b := by
  rw [mapEqCode_eq_true, mapExtEq_iff]
  constructor
  · rintro ⟨hlen, hall⟩
    refine ⟨fun k x hx => ?_, fun k hk => ?_⟩
    · obtain ⟨p, hp, hpk, rfl⟩ := lookupL_some_elim hx
      obtain ⟨v, hv, hveq⟩ := hall p hp
      exact ⟨v, by rw [← lookupL_congr h b hpk]; exact hv, hveq⟩
    · -- a key of `b` missing from `a` would make `a` strictly shorter
      apply Classical.byContradiction
      intro hbk
      obtain ⟨y, hy⟩ := Option.ne_none_iff_exists'.mp hbk
      obtain ⟨q, hq, hqk, _⟩ := lookupL_some_elim hy
      have hqa : memB keq q.1 (a.map (·.1)) = false := by
        rw [← Bool.not_eq_true, memB_keys_iff, lookupL_congr h a hqk]; exact fun hm => hm hk
      have := pigeon_lt h _ (b.map (·.1)) (show NodupB keq (a.map (·.1)) from ha) (fun x hx => by
        obtain ⟨p, hp, rfl⟩ := List.mem_map.mp hx
        obtain ⟨v, hv, _⟩ := hall p hp
        exact (memB_keys_iff b p.1).mpr (hv ▸ Option.some_ne_none v)) q.1 (List.mem_map_of_mem hq) hqa
      simp only [List.length_map] at this
      omega
  · rintro ⟨H1, H2⟩
    have hall : ∀ p, p ∈ a → ∃ v, lookupL keq b p.1 = some v ∧ veq v p.2 = true :=
      fun p hp => H1 p.1 p.2 (lookupL_some_of_mem h a ha p hp)
    refine ⟨Nat.le_antisymm ?_ ?_, hall⟩
    · exact length_le_of_lookupL h ha fun p hp => by
        obtain ⟨v, hv, _⟩ := hall p hp; exact hv ▸ Option.some_ne_none v
    · exact length_le_of_lookupL h hb fun q hq hnone => by
        have := H2 q.1 hnone
        rw [lookupL_some_of_mem h b hb q hq] at this
        cases this

theorem mapExtEq_symm (veq : V → V → Bool) (hv : ∀ x y, veq x y = veq y x)
    (a b : List (K × V)) (H : MapExtEq keq veq a b) : MapExtEq keq veq b a := by
  intro k
  have := H k
  revert this
  cases lookupL keq a k <;> cases lookupL keq b k <;> simp
  rename_i x y
  rw [hv]; exact id

theorem mapEqCode_symm (h : EquivB keq) (veq : V → V → Bool) (hv : ∀ x y, veq x y = veq y x)
    (a b : List (K × V)) (ha : NodupKeys keq a) (hb : NodupKeys keq b) :
    mapEqCode keq veq a b = mapEqCode keq veq b a := by
  rw [Bool.eq_iff_iff, mapEqCode_iff h veq a b ha hb, mapEqCode_iff h veq b a hb ha]
  exact ⟨mapExtEq_symm veq hv a b, mapExtEq_symm veq hv b a⟩

theorem mapEqCode_refl (h : EquivB keq) (veq : V → V → Bool) (hv : ∀ x, veq x x = true)
    (a : List (K × V)) (ha : NodupKeys keq a) : mapEqCode keq veq a a = true :=
  (mapEqCode_eq_true veq a a).mpr ⟨rfl, fun p hp => ⟨p.2, lookupL_some_of_mem h a ha p hp, hv _⟩⟩

/-- `Map::eq` does not depend on the internal order of either operand (only lookups in `b` need
    unique keys). -/
theorem mapEqCode_perm (h : EquivB keq) (veq : V → V → Bool) (a a' b b' : List (K × V))
    (_ha : NodupKeys keq a) (hb : NodupKeys keq b) (hpa : a.Perm a') (hpb : b.Perm b') :
    mapEqCode keq veq a b = mapEqCode keq veq a' b' := by
  rw [Bool.eq_iff_iff, mapEqCode_eq_true, mapEqCode_eq_true, hpa.length_eq, hpb.length_eq]
  refine and_congr Iff.rfl (forall_congr' fun p => ?_)
  rw [hpa.mem_iff, lookupL_perm h b b' hb hpb]

end Micromap.SetAlg
