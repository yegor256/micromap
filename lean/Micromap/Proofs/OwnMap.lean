/-
Ownership triples (`Own.Cons`) of the primitives, the callbacks and the functions of `Model/Map.lean`.
What can unwind only by an injected panic (the only panic of `tick`: the drops, the callbacks, the
scan of a container with `len ≤ cap`) has its triple for every `pown` (`scan_inj`, which needs a
hypothesis on the state, for `none`); `some q` is for the container's own panics (overflow, a failed
bounds check or assertion).
-/
import Micromap.Proofs.Own

set_option linter.unusedSectionVars false

namespace Micromap.Own
open Micromap Ledger
variable {K V Q : Type} {P : Event K V Q → Prop} [EvP P] {w : Obj K V → Nat}

theorem Bal.of_world {s s' : St K V Q} {ev lk} {inn out : Nat} (hr : s'.r = s.r) (hw : WExt P s.w s'.w ev lk)
    (h : inn + wsum w (createdOf ev) = out + wsum w (droppedOf ev) + wsum w lk) : Bal P w s s' inn out :=
  ⟨ev, lk, hw, by rw [hr]; omega⟩

theorem tick_cons {pown : Option Nat} : Cons P w (tick : SM K V Q Unit) 0 (fun _ => 0) pown := by
  intro s
  obtain ⟨r, ⟨profile, inject, unwinding, calls, nextId, events, leaked⟩⟩ := s
  -- a tick that returns has counted one call and at most counted the injection down
  have ok : ∀ i : Option Nat, (inject = none → i = none) →
      Bal P w ⟨r, ⟨profile, inject, unwinding, calls, nextId, events, leaked⟩⟩
        ⟨r, ⟨profile, i, unwinding, calls + 1, nextId, events, leaked⟩⟩ 0 0 := fun _ hi =>
    Bal.of_world rfl (ev := []) (lk := []) ⟨rfl, rfl, hi, by simp, by simp, by simp⟩ rfl
  unfold ConsAt tick
  cases unwinding with
  | true => exact ok _ id
  | false =>
    cases inject with
    | none => exact ok _ id
    | some n =>
      cases n with
      | zero => exact Or.inl ⟨rfl, by simp⟩
      | succ n => exact ok _ nofun

theorem logE_cons {pown : Option Nat} (e : Event K V Q) (he : P e) :
    Cons P w (logE e) (wsum w (droppedOf [e])) (fun _ => wsum w (createdOf [e])) pown := by
  intro s
  unfold ConsAt logE modS
  exact Bal.of_world rfl (ev := [e]) (lk := []) ⟨rfl, rfl, id, rfl, by simp, by simpa using he⟩ (by simp; omega)

theorem leak_cons {pown : Option Nat} (o : Obj K V) : Cons P w (leak o : SM K V Q Unit) (w o) (fun _ => 0) pown := by
  intro s
  unfold ConsAt leak modS
  exact Bal.of_world rfl (ev := []) (lk := [o]) ⟨rfl, rfl, id, by simp, rfl, by simp⟩ (by simp [createdOf, droppedOf])

theorem setS_world {s t : St K V Q} (hr : t.r = s.r) (hw : WExt P s.w t.w [] []) :
    ConsAt P w (setS t : SM K V Q Unit) s 0 (fun _ => 0) none := by
  unfold ConsAt setS
  exact Bal.of_world hr hw (by simp [createdOf, droppedOf])

variable (E : Env K V Q)

/-- values have drop glue, or the weighting does not see values (`V = ()`). -/
def HV (E : Env K V Q) (w : Obj K V → Nat) : Prop := E.vGlue = true ∨ ∀ v, w (.v v) = 0

theorem dropK_cons {pown : Option Nat} (k : K) : Cons P w (dropK k : SM K V Q Unit) (w (.k k)) (fun _ => 0) pown := by
  intro s
  unfold dropK
  have h1 := logE_cons (P := P) (w := w) (pown := pown) (Event.dropK k : Event K V Q) (EvP.of_notClone _ trivial) s
  simp only [droppedOf, createdOf, wsum_cons, wsum_nil, Nat.add_zero] at h1
  refine ConsAt.bind_all h1 (fun _ s' _ => ?_)
  exact (tick_cons s').congr_in (by omega)

theorem dropV_cons {pown : Option Nat} (hv : HV E w) (v : V) : Cons P w (dropV E v) (w (.v v)) (fun _ => 0) pown := by
  intro s
  unfold dropV
  split
  · have h1 := logE_cons (P := P) (w := w) (pown := pown) (Event.dropV v : Event K V Q) (EvP.of_notClone _ trivial) s
    simp only [droppedOf, createdOf, wsum_cons, wsum_nil, Nat.add_zero] at h1
    refine ConsAt.bind_all h1 (fun _ s' _ => ?_)
    exact (tick_cons s').congr_in (by omega)
  · rename_i hg
    rcases hv with hv | hv
    · exact absurd hv hg
    · exact ConsAt.pure (hv v)

theorem dropPair_cons {pown : Option Nat} (hv : HV E w) (p : K × V) :
    Cons P w (dropPair E p) (w (.k p.1) + w (.v p.2)) (fun _ => 0) pown := by
  intro s
  unfold dropPair
  refine ConsAt.bind_inj (ConsAt.unwindWith_inj (dropK_cons p.1 s)) (Nat.le_add_right _ _) (fun _ s' _ => ?_)
  exact (dropV_cons E hv p.2 s').congr_in (by omega)

theorem dropArgs_cons (hv : HV E w) (k : K) (v : V) :
    Cons P w (dropArgs E k v) (w (.k k) + w (.v v)) (fun _ => 0) (some 0) := by
  intro s
  unfold dropArgs
  refine ConsAt.bind_inj (ConsAt.unwindWith_inj (dropV_cons E hv v s)) (Nat.le_add_left _ _) (fun _ s' _ => ?_)
  exact (dropK_cons k s').congr_in (by omega)

theorem logE_neutral {pown : Option Nat} (e : Event K V Q) (he : notClone e) (hd : droppedOf [e] = []) (hc : createdOf [e] = []) :
    Cons P w (logE e) 0 (fun _ => 0) pown := by
  have := logE_cons (P := P) (w := w) (pown := pown) e (EvP.of_notClone _ he)
  simpa [hd, hc] using this

theorem callF_cons {pown : Option Nat} (tag : Nat) : Cons P w (callF tag : SM K V Q Unit) 0 (fun _ => 0) pown := by
  intro s
  unfold callF
  refine ConsAt.bind0_inj (tick_cons s) (fun _ s' _ => ?_)
  exact logE_neutral _ (by exact trivial) rfl rfl s'

theorem pullSrc_cons {pown : Option Nat} : Cons P w (pullSrc : SM K V Q Unit) 0 (fun _ => 0) pown := by
  intro s
  unfold pullSrc
  refine ConsAt.bind0_inj (tick_cons s) (fun _ s' _ => ?_)
  exact (logE_neutral _ (by exact trivial) rfl rfl s')

theorem eqK_cons {pown : Option Nat} (a b : K) : Cons P w (eqK E a b) 0 (fun _ => 0) pown := by
  intro s
  unfold eqK
  refine ConsAt.bind0_inj (tick_cons s) (fun _ s' _ => ?_)
  refine ConsAt.getS_bind ?_
  refine ConsAt.bind0_inj (logE_neutral _ (by exact trivial) rfl rfl s') (fun _ s'' _ => ?_)
  exact ConsAt.pure rfl

theorem eqQ_cons {pown : Option Nat} (a b : Q) : Cons P w (eqQ E a b) 0 (fun _ => 0) pown := by
  intro s
  unfold eqQ
  refine ConsAt.bind0_inj (tick_cons s) (fun _ s' _ => ?_)
  refine ConsAt.getS_bind ?_
  refine ConsAt.bind0_inj (logE_neutral _ (by exact trivial) rfl rfl s') (fun _ s'' _ => ?_)
  exact ConsAt.pure rfl

theorem eqV_cons (a b : V) : Cons P w (eqV E a b) 0 (fun _ => 0) (some 0) := by
  intro s
  unfold eqV
  split
  · refine ConsAt.bind0 (tick_cons s) (fun _ s' _ => ?_)
    refine ConsAt.bind0_inj (logE_neutral _ (by exact trivial) rfl rfl s') (fun _ s'' _ => ?_)
    exact ConsAt.pure rfl
  · exact ConsAt.pure rfl

theorem cloneK_cons (hall : ∀ e, P e) (k : K) : Cons P w (cloneK E k) 0 (fun k' => w (.k k')) (some 0) := by
  intro s
  unfold cloneK
  refine ConsAt.bind0 (tick_cons s) (fun _ s' _ => ?_)
  refine ConsAt.getS_bind ?_
  refine ConsAt.bind0_inj (setS_world rfl ⟨rfl, rfl, id, by simp, by simp, by simp⟩) (fun _ s'' _ => ?_)
  have h1 := logE_cons (P := P) (w := w) (pown := some 0) (Event.cloneK k (E.clK s'.w.nextId k) : Event K V Q) (hall _) s''
  simp only [droppedOf, createdOf, wsum_cons, wsum_nil, Nat.add_zero] at h1
  refine ConsAt.bind_all h1 (fun _ s3 _ => ?_)
  exact ConsAt.pure (by omega)

theorem cloneV_cons (hall : ∀ e, P e) (hv : HV E w) (v : V) : Cons P w (cloneV E v) 0 (fun v' => w (.v v')) (some 0) := by
  intro s
  unfold cloneV
  split
  · refine ConsAt.bind0 (tick_cons s) (fun _ s' _ => ?_)
    refine ConsAt.getS_bind ?_
    refine ConsAt.bind0_inj (setS_world rfl ⟨rfl, rfl, id, by simp, by simp, by simp⟩) (fun _ s'' _ => ?_)
    have h1 := logE_cons (P := P) (w := w) (pown := some 0) (Event.cloneV v (E.clV s'.w.nextId v) : Event K V Q) (hall _) s''
    simp only [droppedOf, createdOf, wsum_cons, wsum_nil, Nat.add_zero] at h1
    refine ConsAt.bind_all h1 (fun _ s3 _ => ?_)
    exact ConsAt.pure (by omega)
  · rename_i hg
    rcases hv with hv | hv
    · exact absurd hv hg
    · exact ConsAt.pure (hv v).symm

theorem clonePair_cons (hall : ∀ e, P e) (hv : HV E w) (p : K × V) :
    Cons P w (clonePair E p) 0 (fun p' => w (.k p'.1) + w (.v p'.2)) (some 0) := by
  intro s
  unfold clonePair
  refine ConsAt.bind_all (cloneK_cons E hall p.1 s) (fun k' s' _ => ?_)
  refine ConsAt.bind_some (i1 := w (.k k')) (o1 := fun v' => w (.k k') + w (.v v')) (q1 := 0) ?_ (by omega) (by omega) (fun v' s'' _ => ?_)
  · exact ConsAt.guard
      ((cloneV_cons E hall hv p.2 s').framed (w (.k k')) (by omega) (fun _ => by omega) (by omega)) (dropK_cons (pown := none) k')
  · exact ConsAt.pure (by simp)

theorem probeEq_cons {pown : Option Nat} (stored : K) (pr : Probe K Q) : Cons P w (probeEq E stored pr) 0 (fun _ => 0) pown := by
  cases pr with
  | key k => exact eqK_cons E stored k
  | q q => exact eqQ_cons E (E.borrow stored) q

theorem getLen_cons {pown : Option Nat} : Cons P w (getLen : SM K V Q Nat) 0 (fun _ => 0) pown := fun s => Bal.refl s 0
theorem getCap_cons {pown : Option Nat} : Cons P w (getCap : SM K V Q Nat) 0 (fun _ => 0) pown := fun s => Bal.refl s 0
theorem getProfile_cons : Cons P w (getProfile : SM K V Q Profile) 0 (fun _ => 0) none := fun s => Bal.refl s 0
theorem is_empty_cons {pown : Option Nat} : Cons P w (is_empty : SM K V Q Bool) 0 (fun _ => 0) pown :=
  fun s => (getLen_cons s).map (fun _ => rfl)

theorem setLen_cons {pown : Option Nat} (n : Nat) : Cons P w (setLen n : SM K V Q Unit) 0 (fun _ => 0) pown := by
  intro s
  unfold ConsAt setLen modS
  exact ⟨[], [], WExt.refl _, by simp [createdOf, droppedOf]⟩

theorem sliceToLen_cons : Cons P w (sliceToLen : SM K V Q Nat) 0 (fun _ => 0) (some 0) := by
  intro s
  unfold ConsAt sliceToLen
  by_cases h : s.r.len ≤ s.r.cap
  · simp only [h, if_true]; exact Bal.refl s 0
  · simp only [h, if_false]; exact Or.inr ⟨0, rfl, Bal.refl s 0⟩

theorem debugAssert_cons (c : Bool) (cls : PanicClass) :
    Cons P w (debugAssert c cls : SM K V Q Unit) 0 (fun _ => 0) (some 0) := by
  intro s
  unfold ConsAt debugAssert
  cases s.w.profile <;> cases c <;> first | exact Bal.refl s 0 | exact Or.inr ⟨0, rfl, Bal.refl s 0⟩

theorem assertP_cons (c : Bool) (cls : PanicClass) :
    Cons P w (assertP c cls : SM K V Q Unit) 0 (fun _ => 0) (some 0) := by
  intro s
  cases c
  · exact ConsAt.throwP
  · exact ConsAt.pure rfl

theorem itemRefR_cons {pown : Option Nat} (r : Raw K V) (i : Nat) : Cons P w (itemRefR r i : SM K V Q (K × V)) 0 (fun _ => 0) pown := by
  intro s
  unfold ConsAt itemRefR
  by_cases hi : i < r.cap
  · cases hs : r.slots i with
    | none => simp [hi]
    | some p => simp only [hi, if_true]; exact Bal.refl s 0
  · simp [hi]

theorem itemRef_cons {pown : Option Nat} (i : Nat) : Cons P w (itemRef i : SM K V Q (K × V)) 0 (fun _ => 0) pown :=
  fun s => itemRefR_cons s.r i s

theorem Bal.setSlot {s : St K V Q} {i : Nat} (hi : i < s.r.cap) (o : Option (K × V)) {inn out : Nat}
    (h : inn + wo w (s.r.slots i) = out + wo w o) : Bal P w s { s with r := setSlot s.r i o } inn out := by
  have := live_setSlot w hi o
  exact ⟨[], [], WExt.refl _, by simp [createdOf, droppedOf] at this ⊢; omega⟩

theorem itemRead_cons {pown : Option Nat} (i : Nat) :
    Cons P w (itemRead i : SM K V Q (K × V)) 0 (fun p => w (.k p.1) + w (.v p.2)) pown := by
  intro s
  unfold ConsAt itemRead
  by_cases hi : i < s.r.cap
  · cases hs : s.r.slots i with
    | none => simp [hi]
    | some p => simp only [hi, if_true]; exact Bal.setSlot hi none (by simp [hs])
  · simp [hi]

theorem itemWrite_cons {pown : Option Nat} (i : Nat) (p : K × V) :
    Cons P w (itemWrite i p : SM K V Q Unit) (w (.k p.1) + w (.v p.2)) (fun _ => 0) pown := by
  intro s
  unfold ConsAt itemWrite
  by_cases hi : i < s.r.cap
  · cases hs : s.r.slots i with
    | none => simp only [hi, if_true]; exact Bal.setSlot hi (some p) (by simp [hs])
    | some old =>
      -- the live pair that is overwritten is leaked
      simp only [hi, if_true]
      have := live_setSlot w hi (some p)
      rw [hs] at this
      exact ⟨[], [.k old.1, .v old.2], ⟨rfl, rfl, id, by simp, rfl, by simp⟩,
        by simp [createdOf, droppedOf] at this ⊢; omega⟩
  · simp [hi]

theorem valueReplace_cons {pown : Option Nat} (i : Nat) (v : V) :
    Cons P w (valueReplace i v : SM K V Q V) (w (.v v)) (fun old => w (.v old)) pown := by
  intro s
  unfold ConsAt valueReplace
  by_cases hi : i < s.r.cap
  · cases hs : s.r.slots i with
    | none => simp [hi]
    | some p => simp only [hi, if_true]; exact Bal.setSlot hi _ (by simp [hs]; omega)
  · simp [hi]

theorem pairReplace_cons {pown : Option Nat} (i : Nat) (p : K × V) :
    Cons P w (pairReplace i p : SM K V Q (K × V)) (w (.k p.1) + w (.v p.2))
      (fun old => w (.k old.1) + w (.v old.2)) pown := by
  intro s
  unfold ConsAt pairReplace
  by_cases hi : i < s.r.cap
  · cases hs : s.r.slots i with
    | none => simp [hi]
    | some old => simp only [hi, if_true]; exact Bal.setSlot hi _ (by simp [hs]; omega)
  · simp [hi]

theorem checkedWrite_cons (i : Nat) (p : K × V) :
    Cons P w (checkedWrite i p : SM K V Q Unit) (w (.k p.1) + w (.v p.2)) (fun _ => 0)
      (some (w (.k p.1) + w (.v p.2))) := by
  intro s
  unfold ConsAt checkedWrite
  by_cases hi : i < s.r.cap
  · simp only [hi, if_true]
    exact (itemWrite_cons i p s)
  · simp only [hi, if_false]
    exact Or.inr ⟨_, rfl, Bal.refl s _⟩

theorem itemDrop_cons {pown : Option Nat} (hv : HV E w) (i : Nat) : Cons P w (itemDrop E i) 0 (fun _ => 0) pown := by
  intro s
  unfold itemDrop
  refine ConsAt.bind_all (itemRead_cons i s) (fun p s' _ => ?_)
  exact (dropPair_cons E hv p s').congr_in (by omega)

theorem itemRef_inv {i : Nat} {p : K × V} {s s' : St K V Q} (h : itemRef i s = .ok p s') :
    s' = s ∧ i < s.r.cap ∧ s.r.slots i = some p := by
  unfold itemRef itemRefR at h
  by_cases hi : i < s.r.cap
  · cases hs : s.r.slots i with
    | none => simp [hi, hs] at h
    | some p' =>
      simp only [hi, hs, if_true] at h
      injection h with h1 h2
      exact ⟨h2.symm, hi, by rw [h1]⟩
  · simp [hi] at h

/-- `*v = v'` on a live slot, for a weighting that does not tell the old value from the new. -/
theorem modify_cons {i : Nat} {p : K × V} {v' : V} {s : St K V Q} (hc : i < s.r.cap)
    (hs : s.r.slots i = some p) (hw : w (.v v') = w (.v p.2)) :
    ConsAt P w (valueReplace i v' : SM K V Q V) s 0 (fun _ => 0) none := by
  have := valueReplace_cons (P := P) (w := w) (pown := none) i v' s
  unfold ConsAt at this ⊢
  rw [valueReplace_ok v' hc hs] at this ⊢
  obtain ⟨ev, lk, h1, h2⟩ := this
  exact ⟨ev, lk, h1, by dsimp only at h2 ⊢; omega⟩

theorem callF_r {t : Nat} {s s' : St K V Q} {u : Unit} (h : callF t s = .ok u s') : s'.r = s.r :=
  (Sat.ok_of (callF_cb t s) h).1

theorem scanFromR_cons {pown : Option Nat} (r : Raw K V) (pr : Probe K Q) : ∀ n i,
    Cons P w (scanFromR E r pr n i) 0 (fun _ => 0) pown
  | 0, _ => fun _ => ConsAt.pure rfl
  | n + 1, i => by
    intro s
    unfold scanFromR
    refine ConsAt.bind0_inj (itemRefR_cons r i s) (fun p s' _ => ?_)
    refine ConsAt.bind0_inj (probeEq_cons E p.1 pr s') (fun b s'' _ => ?_)
    split
    · exact ConsAt.pure rfl
    · exact scanFromR_cons r pr n (i + 1) s''

theorem scanR_cons (r : Raw K V) (pr : Probe K Q) : Cons P w (scanR E r pr) 0 (fun _ => 0) (some 0) := by
  intro s
  unfold scanR
  split
  · exact scanFromR_cons E r pr _ _ s
  · exact ConsAt.throwP

theorem scan_cons (pr : Probe K Q) : Cons P w (scan E pr) 0 (fun _ => 0) (some 0) :=
  fun s => scanR_cons E s.r pr s

theorem remove_index_read_cons {pown : Option Nat} (i : Nat) :
    Cons P w (remove_index_read i : SM K V Q (K × V)) 0 (fun p => w (.k p.1) + w (.v p.2)) pown := by
  intro s
  unfold remove_index_read
  refine ConsAt.bind_all (itemRead_cons i s) (fun result s1 _ => ?_)
  refine ConsAt.bind_inj (getLen_cons s1) (Nat.zero_le _) (fun len s2 _ => ?_)
  split
  · exact ConsAt.ub
  · refine ConsAt.bind_inj (setLen_cons _ s2) (Nat.zero_le _) (fun _ s3 _ => ?_)
    dsimp only
    split
    · refine ConsAt.bind_inj (itemRead_cons _ s3) (Nat.zero_le _) (fun value s4 _ => ?_)
      refine ConsAt.bind_inj (itemWrite_cons i value s4) (by omega) (fun _ s5 _ => ?_)
      exact ConsAt.pure (by simp)
    · exact ConsAt.pure (by simp)

theorem remove_index_drop_cons (hv : HV E w) (i : Nat) :
    Cons P w (remove_index_drop E i) 0 (fun _ => 0) (some 0) := by
  intro s
  unfold remove_index_drop
  refine ConsAt.bind_all (remove_index_read_cons i s) (fun p s' _ => ?_)
  exact (dropPair_cons E hv p s').congr_in (by omega)

theorem insert_ii_cons (hv : HV E w) (k : K) (v : V) (upd : Bool) :
    Cons P w (insert_ii E k v upd) (w (.k k) + w (.v v)) (fun r => wo w r.2) (some 0) := by
  intro s
  unfold insert_ii
  refine ConsAt.guard ?_ (dropArgs_cons E hv k v)
  refine ConsAt.bind0 (scan_cons E (.key k) s) (fun o s1 _ => ?_)
  cases o with
  | some i =>
    simp only
    split
    · refine ConsAt.bind_all (pairReplace_cons i (k, v) s1) (fun old s2 _ => ?_)
      exact ConsAt.pure (by simp)
    · refine ConsAt.bind_inj (valueReplace_cons i v s1) (by omega) (fun oldv s2 _ => ?_)
      exact ConsAt.pure (by simp; omega)
  | none =>
    simp only
    refine ConsAt.bind0_inj (getLen_cons s1) (fun i s2 _ => ?_)
    refine ConsAt.bind0_inj (getCap_cons s2) (fun cap s3 _ => ?_)
    refine ConsAt.bind0 (debugAssert_cons _ _ s3) (fun _ s4 _ => ?_)
    refine ConsAt.bind_all (checkedWrite_cons i (k, v) s4) (fun _ s5 _ => ?_)
    refine ConsAt.bind0_inj (setLen_cons _ s5) (fun _ s6 _ => ?_)
    exact ConsAt.pure (by simp)

theorem insert_ii_for_full_cons (hv : HV E w) (k : K) (v : V) (upd : Bool) :
    Cons P w (insert_ii_for_full E k v upd) (w (.k k) + w (.v v)) (fun r => wo w (r.map (·.2))) (some 0) := by
  intro s
  unfold insert_ii_for_full
  refine ConsAt.bind_all (o1 := fun _ => w (.k k) + w (.v v)) ?_ (fun found s1 _ => ?_)
  · refine ConsAt.guard
      ((scan_cons E (.key k) s).framed (w (.k k) + w (.v v)) (by omega) (fun _ => by omega) (by omega)) (dropArgs_cons E hv k v)
  · cases found with
    | some i =>
      simp only
      split
      · refine ConsAt.bind_inj (pairReplace_cons i (k, v) s1) (by simp) (fun old s2 _ => ?_)
        exact ConsAt.pure (by simp)
      · refine ConsAt.bind_inj (valueReplace_cons i v s1) (by omega) (fun oldv s2 _ => ?_)
        exact ConsAt.pure (by simp; omega)
    | none =>
      simp only
      refine ConsAt.bind_some (dropArgs_cons E hv k v s1) (by omega) (by omega) (fun _ s2 _ => ?_)
      exact ConsAt.pure (by simp)

theorem dropRange_cons {pown : Option Nat} (hv : HV E w) : ∀ n i, Cons P w (dropRange E n i) 0 (fun _ => 0) pown
  | 0, _ => fun _ => ConsAt.pure rfl
  | n + 1, i => by
    intro s
    unfold dropRange
    refine ConsAt.bind0_inj (itemDrop_cons E hv i s) (fun _ s' _ => ?_)
    exact dropRange_cons hv n (i + 1) s'

theorem clear_cons (hv : HV E w) : Cons P w (clear E) 0 (fun _ => 0) (some 0) := by
  intro s
  unfold clear
  refine ConsAt.bind0_inj (getLen_cons s) (fun len s1 _ => ?_)
  refine ConsAt.bind0_inj (setLen_cons 0 s1) (fun _ s2 _ => ?_)
  exact dropRange_cons E hv len 0 s2

theorem dropMap_cons {pown : Option Nat} (hv : HV E w) : Cons P w (dropMap E) 0 (fun _ => 0) pown := by
  intro s
  unfold dropMap
  refine ConsAt.bind0_inj (getLen_cons s) (fun len s1 _ => ?_)
  exact dropRange_cons E hv len 0 s1

/-- `retain`, for a weighting that does not tell the value the closure writes from the one it
    found (the closure changes the value in place; it neither creates nor destroys one). -/
theorem retainLoop_cons (hv : HV E w) (f : Nat → K → V → Bool × V)
    (hf : ∀ n k v, w (.v (f n k v).2) = w (.v v)) : ∀ fuel i,
    Cons P w (retainLoop E f fuel i) 0 (fun _ => 0) (some 0)
  | 0, i => by
    intro s
    unfold retainLoop
    refine ConsAt.bind0_inj (getLen_cons s) (fun len s1 _ => ?_)
    split
    · exact ConsAt.ub
    · exact ConsAt.pure rfl
  | fuel + 1, i => by
    intro s
    unfold retainLoop
    refine ConsAt.bind0_inj (getLen_cons s) (fun len s1 _ => ?_)
    split
    · refine ConsAt.bind0_inj (itemRef_cons i s1) (fun p s2 hp => ?_)
      obtain ⟨rfl, hc, hs⟩ := itemRef_inv hp
      refine ConsAt.bind0 (callF_cons 0 s2) (fun _ s3 h3 => ?_)
      have hr3 : s3.r = s2.r := callF_r h3
      refine ConsAt.getS_bind ?_
      have hm := modify_cons (P := P) (w := w) (i := i) (p := p) (v' := (f s3.w.calls p.1 p.2).2) (s := s3)
        (by rw [hr3]; exact hc) (by rw [hr3]; exact hs) (hf _ _ _)
      show ConsAt P w (valueReplace i (f s3.w.calls p.1 p.2).2 >>= fun _ =>
        if (f s3.w.calls p.1 p.2).1 = true then retainLoop E f fuel (i + 1)
        else remove_index_drop E i >>= fun _ => retainLoop E f fuel i) s3 _ _ _
      refine ConsAt.bind0_inj hm (fun _ s4 _ => ?_)
      split
      · exact retainLoop_cons hv f hf fuel (i + 1) s4
      · refine ConsAt.bind0 (remove_index_drop_cons E hv i s4) (fun _ s5 _ => ?_)
        exact retainLoop_cons hv f hf fuel i s5
    · exact ConsAt.pure rfl

theorem retain_cons (hv : HV E w) (f : Nat → K → V → Bool × V)
    (hf : ∀ n k v, w (.v (f n k v).2) = w (.v v)) : Cons P w (retain E f) 0 (fun _ => 0) (some 0) := by
  intro s
  unfold retain
  refine ConsAt.bind0_inj (getLen_cons s) (fun len s1 _ => ?_)
  exact retainLoop_cons E hv f hf len 0 s1

theorem contains_key_cons (pr : Probe K Q) : Cons P w (contains_key E pr) 0 (fun _ => 0) (some 0) := by
  intro s
  unfold contains_key
  refine ConsAt.bind0 (scan_cons E pr s) (fun o s1 _ => ?_)
  exact ConsAt.pure rfl

theorem get_cons (pr : Probe K Q) : Cons P w (get E pr) 0 (fun _ => 0) (some 0) := by
  intro s
  unfold get
  refine ConsAt.bind0 (scan_cons E pr s) (fun o s1 _ => ?_)
  cases o with
  | none => exact ConsAt.pure rfl
  | some i =>
    simp only
    refine ConsAt.bind0_inj (itemRef_cons i s1) (fun p s2 _ => ?_)
    exact ConsAt.pure rfl

theorem remove_cons (pr : Probe K Q) : Cons P w (remove E pr) 0 (fun o => wov w o) (some 0) := by
  intro s
  unfold remove
  refine ConsAt.bind0 (scan_cons E pr s) (fun o s1 _ => ?_)
  cases o with
  | none => exact ConsAt.pure rfl
  | some i =>
    simp only
    refine ConsAt.bind_all (remove_index_read_cons i s1) (fun p s2 _ => ?_)
    refine ConsAt.bind_inj (ConsAt.unwindWith_inj (dropK_cons p.1 s2)) (Nat.le_add_right _ _) (fun _ s3 _ => ?_)
    exact ConsAt.pure (by simp)

theorem remove_entry_cons (pr : Probe K Q) : Cons P w (remove_entry E pr) 0 (fun o => wo w o) (some 0) := by
  intro s
  unfold remove_entry
  refine ConsAt.bind0 (scan_cons E pr s) (fun o s1 _ => ?_)
  cases o with
  | none => exact ConsAt.pure rfl
  | some i =>
    simp only
    refine ConsAt.bind_all (remove_index_read_cons i s1) (fun p s2 _ => ?_)
    exact ConsAt.pure (by simp)

theorem dropReturnedKey_cons (o : Option (K × V)) :
    Cons P w (dropReturnedKey o : SM K V Q (Option V)) (wo w o) (fun r => wov w r) (some 0) := by
  intro s
  cases o with
  | none => exact ConsAt.pure rfl
  | some p =>
    obtain ⟨k, v⟩ := p
    unfold dropReturnedKey
    simp only [wo_some]
    refine ConsAt.bind_inj (ConsAt.unwindWith_inj (dropK_cons k s)) (Nat.le_add_right _ _) (fun _ s3 _ => ?_)
    exact ConsAt.pure (by simp)

theorem insert_cons (hv : HV E w) (k : K) (v : V) :
    Cons P w (insert E k v) (w (.k k) + w (.v v)) (fun r => wov w r) (some 0) := by
  intro s
  unfold insert
  refine ConsAt.bind_all (insert_ii_cons E hv k v false s) (fun r s1 _ => ?_)
  obtain ⟨j, ex⟩ := r
  exact (dropReturnedKey_cons ex s1).congr_in (by simp)

theorem insert_key_value_cons (hv : HV E w) (k : K) (v : V) :
    Cons P w (insert_key_value E k v) (w (.k k) + w (.v v)) (fun r => wo w r) (some 0) := by
  intro s
  unfold insert_key_value
  refine ConsAt.bind_all (insert_ii_cons E hv k v true s) (fun r s1 _ => ?_)
  obtain ⟨j, ex⟩ := r
  exact ConsAt.pure (by simp)

/-- weight of the result of `checked_insert`. -/
def wovv (w : Obj K V → Nat) : Option (Option V) → Nat
  | some (some v) => w (.v v)
  | _ => 0

theorem checked_insert_cons (hv : HV E w) (k : K) (v : V) :
    Cons P w (checked_insert E k v) (w (.k k) + w (.v v)) (fun r => wovv w r) (some 0) := by
  intro s
  unfold checked_insert
  refine ConsAt.bind0_inj (getLen_cons s) (fun len s1 _ => ?_)
  refine ConsAt.bind0_inj (getCap_cons s1) (fun cap s2 _ => ?_)
  split
  · refine ConsAt.bind_all (insert_ii_cons E hv k v false s2) (fun r s3 _ => ?_)
    obtain ⟨j, ex⟩ := r
    refine ConsAt.bind_all (dropReturnedKey_cons ex s3) (fun o s4 _ => ?_)
    cases o <;> exact ConsAt.pure (by simp [wovv])
  · refine ConsAt.bind_all (insert_ii_for_full_cons E hv k v false s2) (fun r s3 _ => ?_)
    cases r with
    | none => exact ConsAt.pure (by simp [wovv])
    | some x =>
      obtain ⟨j, p⟩ := x
      simp only
      refine ConsAt.bind_all (dropReturnedKey_cons (some p) s3) (fun o s4 _ => ?_)
      cases o <;> exact ConsAt.pure (by simp [wovv])

/-- `get_mut` and a write `*r = g(*r)`, for a weighting that does not tell `g v` from `v`. -/
theorem get_mut_cons (pr : Probe K Q) (g : V → V) (hg : ∀ v, w (.v (g v)) = w (.v v)) :
    Cons P w (get_mut E pr g) 0 (fun _ => 0) (some 0) := by
  intro s
  unfold get_mut
  refine ConsAt.bind0 (scan_cons E pr s) (fun o s1 _ => ?_)
  cases o with
  | none => exact ConsAt.pure rfl
  | some i =>
    simp only
    refine ConsAt.bind0_inj (itemRef_cons i s1) (fun p s2 hp => ?_)
    obtain ⟨rfl, hc, hs⟩ := itemRef_inv hp
    refine ConsAt.bind0_inj (modify_cons hc hs (hg _)) (fun _ s3 _ => ?_)
    exact ConsAt.pure rfl

theorem index_cons (pr : Probe K Q) : Cons P w (index E pr) 0 (fun _ => 0) (some 0) := by
  intro s
  unfold index
  refine ConsAt.bind0 (get_cons E pr s) (fun o s1 _ => ?_)
  cases o with
  | none => exact ConsAt.throwP
  | some r => exact ConsAt.pure rfl

theorem index_mut_cons (pr : Probe K Q) (g : V → V) (hg : ∀ v, w (.v (g v)) = w (.v v)) :
    Cons P w (index_mut E pr g) 0 (fun _ => 0) (some 0) := by
  intro s
  unfold index_mut
  refine ConsAt.bind0 (get_mut_cons E pr g hg s) (fun o s1 _ => ?_)
  cases o with
  | none => exact ConsAt.throwP
  | some r => exact ConsAt.pure rfl

theorem reqEq_cons : ∀ a b : Probe K Q, Cons P w (reqEq E a b) 0 (fun _ => 0) (some 0)
  | .key a, .key b => eqK_cons E a b
  | .q a, .q b => eqQ_cons E a b
  | .key a, .q b => eqQ_cons E (E.borrow a) b
  | .q a, .key b => eqQ_cons E a (E.borrow b)

theorem reqEqStored_cons (stored : K) : ∀ k : Probe K Q, Cons P w (reqEqStored E stored k) 0 (fun _ => 0) (some 0)
  | .key k => eqK_cons E k stored
  | .q q => eqQ_cons E q (E.borrow stored)

theorem overlapInner_cons (k : Probe K Q) : ∀ ks : List (Probe K Q),
    Cons P w (overlapInner E k ks) 0 (fun _ => 0) (some 0)
  | [] => fun _ => ConsAt.pure rfl
  | kb :: rest => by
    intro s
    unfold overlapInner
    refine ConsAt.bind0 (reqEq_cons E k kb s) (fun e s1 _ => ?_)
    refine ConsAt.bind0 (assertP_cons _ _ s1) (fun _ s2 _ => ?_)
    exact overlapInner_cons k rest s2

theorem overlapCheck_cons : ∀ ks : List (Probe K Q), Cons P w (overlapCheck E ks) 0 (fun _ => 0) (some 0)
  | [] => fun _ => ConsAt.pure rfl
  | k :: rest => by
    intro s
    unfold overlapCheck
    refine ConsAt.bind0 (overlapInner_cons E k rest s) (fun _ s1 _ => ?_)
    exact overlapCheck_cons rest s1

theorem positionOf_cons (stored : K) : ∀ (ks : List (Probe K Q)) (t : Nat),
    Cons P w (positionOf E stored ks t) 0 (fun _ => 0) (some 0)
  | [], _ => fun _ => ConsAt.pure rfl
  | k :: rest, t => by
    intro s
    unfold positionOf
    refine ConsAt.bind0 (reqEqStored_cons E stored k s) (fun b s1 _ => ?_)
    split
    · exact ConsAt.pure rfl
    · exact positionOf_cons stored rest (t + 1) s1

theorem disjointCollect_cons (ks : List (Probe K Q)) : ∀ (n i : Nat) (stack : List (Nat × Nat)),
    Cons P w (disjointCollect E ks n i stack) 0 (fun _ => 0) (some 0)
  | 0, _, _ => fun _ => ConsAt.pure rfl
  | n + 1, i, stack => by
    intro s
    unfold disjointCollect
    refine ConsAt.bind0_inj (itemRef_cons i s) (fun p s1 _ => ?_)
    refine ConsAt.bind0 (positionOf_cons E p.1 ks 0 s1) (fun o s2 _ => ?_)
    cases o with
    | some ks_i =>
      simp only
      refine ConsAt.bind0 (assertP_cons _ _ s2) (fun _ s3 _ => ?_)
      exact disjointCollect_cons ks n (i + 1) _ s3
    | none => exact disjointCollect_cons ks n (i + 1) stack s2

theorem disjointSplit_cons : ∀ (l : List (Nat × Nat)) (restLen : Nat) (ret : List (Option Nat)),
    Cons P w (disjointSplit l restLen ret : SM K V Q (List (Option Nat))) 0 (fun _ => 0) (some 0)
  | [], _, _ => fun _ => ConsAt.pure rfl
  | (pair_i, ks_i) :: rest, restLen, ret => by
    intro s
    unfold disjointSplit
    refine ConsAt.bind0 (assertP_cons _ _ s) (fun _ s1 _ => ?_)
    refine ConsAt.bind0 (assertP_cons _ _ s1) (fun _ s2 _ => ?_)
    refine ConsAt.bind0_inj (itemRef_cons pair_i s2) (fun _ s3 _ => ?_)
    refine ConsAt.bind0 (assertP_cons _ _ s3) (fun _ s4 _ => ?_)
    exact disjointSplit_cons rest pair_i _ s4

theorem get_disjoint_unchecked_mut_cons (ks : List (Probe K Q)) :
    Cons P w (get_disjoint_unchecked_mut E ks) 0 (fun _ => 0) (some 0) := by
  intro s
  unfold get_disjoint_unchecked_mut
  split
  · exact ConsAt.pure rfl
  · rename_i k
    refine ConsAt.bind0 (scan_cons E k s) (fun o s1 _ => ?_)
    cases o with
    | none => exact ConsAt.pure rfl
    | some i =>
      simp only
      refine ConsAt.bind0_inj (itemRef_cons i s1) (fun _ s2 _ => ?_)
      exact ConsAt.pure rfl
  · refine ConsAt.bind0_inj (getLen_cons s) (fun len s1 _ => ?_)
    refine ConsAt.bind0 (disjointCollect_cons E ks len 0 [] s1) (fun stack s2 _ => ?_)
    refine ConsAt.bind0 (sliceToLen_cons s2) (fun n s3 _ => ?_)
    exact disjointSplit_cons _ _ _ s3

theorem get_disjoint_mut_cons (ks : List (Probe K Q)) :
    Cons P w (get_disjoint_mut E ks) 0 (fun _ => 0) (some 0) := by
  intro s
  unfold get_disjoint_mut
  split
  · exact ConsAt.pure rfl
  · refine ConsAt.bind0 (overlapCheck_cons E ks s) (fun _ s1 _ => ?_)
    exact get_disjoint_unchecked_mut_cons E ks s1

/-- the writes `*r = g(*r)` through the references `get_disjoint_mut` returned. -/
theorem writeSlots_cons {pown : Option Nat} (g : V → V) (hg : ∀ v, w (.v (g v)) = w (.v v)) : ∀ slots : List (Option Nat),
    Cons P w (writeSlots g slots : SM K V Q Unit) 0 (fun _ => 0) pown
  | [] => fun _ => ConsAt.pure rfl
  | none :: rest => by
    intro s
    unfold writeSlots
    exact writeSlots_cons g hg rest s
  | some i :: rest => by
    intro s
    unfold writeSlots
    refine ConsAt.bind0_inj (itemRef_cons i s) (fun p s1 hp => ?_)
    obtain ⟨rfl, hc, hs⟩ := itemRef_inv hp
    refine ConsAt.bind0_inj (modify_cons hc hs (hg _)) (fun _ s2 _ => ?_)
    exact writeSlots_cons g hg rest s2

theorem dropList_cons (hv : HV E w) : ∀ l : List (K × V),
    Cons P w (dropList E l) (wpairs w l) (fun _ => 0) (some 0)
  | [] => fun _ => ConsAt.pure rfl
  | p :: rest => by
    intro s
    unfold dropList
    simp only [wpairs_cons]
    refine ConsAt.bind_inj (ConsAt.unwindWith_inj (dropPair_cons E hv p s)) (Nat.le_add_right _ _) (fun _ s1 _ => ?_)
    exact (dropList_cons hv rest s1).congr_in (by omega)

/-- `extend` / the body of `from_iter`: every pair of the source is stored, or dropped (the
    displaced old value, the supplied key of a duplicate; on an unwinding: the pair being inserted
    and the un-pulled rest of the source). -/
theorem extendLoop_cons (hv : HV E w) (pulls : Bool) : ∀ xs : List (K × V),
    Cons P w (extendLoop E pulls xs) (wpairs w xs) (fun _ => 0) (some 0)
  | [] => by
    intro s
    unfold extendLoop
    split
    · exact pullSrc_cons s
    · exact ConsAt.pure rfl
  | (k, v) :: rest => by
    intro s
    unfold extendLoop
    simp only [wpairs_cons]
    have hrest : ∀ s1 : St K V Q, ConsAt P w (do
        let o ← unwindWith (dropList E rest) (insert E k v)
        match o with
          | some old => do
            unwindWith (dropList E rest) (dropV E old)
            extendLoop E pulls rest
          | none => extendLoop E pulls rest) s1 (w (.k k) + w (.v v) + wpairs w rest) (fun _ => 0) (some 0) := by
      intro s1
      refine ConsAt.bind_some (i1 := w (.k k) + w (.v v) + wpairs w rest) (o1 := fun o => wov w o + wpairs w rest) (q1 := 0) ?_ (by omega) (by omega) (fun o s2 _ => ?_)
      · exact ConsAt.guard
          ((insert_cons E hv k v s1).framed (wpairs w rest) rfl (fun _ => rfl) (by omega)) (dropList_cons E hv rest)
      · cases o with
        | none => exact (extendLoop_cons hv pulls rest s2).congr_in (by simp)
        | some old =>
          simp only
          refine ConsAt.bind_inj (ConsAt.unwindWith_inj (dropV_cons E hv old s2)) (by simp) (fun _ s3 _ => ?_)
          exact (extendLoop_cons hv pulls rest s3).congr_in (by simp)
    split
    · refine ConsAt.bind0_inj (ConsAt.unwindWith_inj (pullSrc_cons s)) (fun _ s1 _ => ?_)
      exact hrest s1
    · exact hrest s

theorem drainStart_cons : Cons P w (drainStart : SM K V Q Nat) 0 (fun _ => 0) (some 0) := by
  intro s
  unfold drainStart
  refine ConsAt.bind0 (sliceToLen_cons s) (fun n s1 _ => ?_)
  refine ConsAt.bind0_inj (setLen_cons 0 s1) (fun _ s2 _ => ?_)
  exact ConsAt.pure rfl

theorem drainNext_cons {pown : Option Nat} (lo hi : Nat) :
    Cons P w (drainNext lo hi : SM K V Q (Option (K × V))) 0 (fun o => wo w o) pown := by
  intro s
  unfold drainNext
  split
  · refine ConsAt.bind_all (itemRead_cons lo s) (fun p s1 _ => ?_)
    exact ConsAt.pure (by simp)
  · exact ConsAt.pure rfl

theorem drainDrop_cons (hv : HV E w) (lo hi : Nat) : Cons P w (drainDrop E lo hi) 0 (fun _ => 0) (some 0) :=
  dropRange_cons E hv _ _

theorem intoIterNext_cons {pown : Option Nat} : Cons P w (intoIterNext : SM K V Q (Option (K × V))) 0 (fun o => wo w o) pown := by
  intro s
  unfold intoIterNext
  refine ConsAt.bind0_inj (getLen_cons s) (fun len s1 _ => ?_)
  split
  · refine ConsAt.bind0_inj (setLen_cons _ s1) (fun _ s2 _ => ?_)
    refine ConsAt.bind_all (itemRead_cons _ s2) (fun p s3 _ => ?_)
    exact ConsAt.pure (by simp)
  · exact ConsAt.pure rfl

theorem cloneLoop_cons (hall : ∀ e, P e) (hv : HV E w) (src : Raw K V) : ∀ n i,
    Cons P w (cloneLoop E src n i) 0 (fun _ => 0) (some 0)
  | 0, _ => fun _ => ConsAt.pure rfl
  | n + 1, i => by
    intro s
    unfold cloneLoop
    refine ConsAt.bind0_inj (getCap_cons s) (fun cap s1 _ => ?_)
    split
    · refine ConsAt.bind0_inj (itemRefR_cons src i s1) (fun p s2 _ => ?_)
      refine ConsAt.bind_all (clonePair_cons E hall hv p s2) (fun p' s3 _ => ?_)
      refine ConsAt.bind_inj (itemWrite_cons i p' s3) (by omega) (fun _ s4 _ => ?_)
      refine ConsAt.bind0_inj (setLen_cons _ s4) (fun _ s5 _ => ?_)
      exact (cloneLoop_cons hall hv src n (i + 1) s5).congr_in (by omega)
    · exact ConsAt.pure rfl

/-- `clone` into a scratch register: every object that ends up live in the destination, dropped
    or leaked is a clone result (created), whether or not a `clone` unwinds. -/
theorem cloneInto_cons (hall : ∀ e, P e) (hv : HV E w) (src : Raw K V) : Cons P w (cloneInto E src) 0 (fun _ => 0) (some 0) := by
  intro s
  unfold cloneInto
  refine ConsAt.guard ?_ (dropMap_cons (pown := none) E hv)
  split
  · exact cloneLoop_cons E hall hv src _ _ s
  · exact ConsAt.throwP

/-- `from_iter` into a scratch register: every pair of the source ends up stored, dropped or leaked. -/
theorem from_iter_cons (hv : HV E w) (pulls : Bool) (xs : List (K × V)) :
    Cons P w (from_iter E pulls xs) (wpairs w xs) (fun _ => 0) (some 0) := by
  intro s
  unfold from_iter
  exact ConsAt.guard (extendLoop_cons E hv pulls xs s) (dropMap_cons (pown := none) E hv)

theorem scan_inj (pr : Probe K Q) {s : St K V Q} (h : s.r.len ≤ s.r.cap) :
    ConsAt P w (scan E pr) s 0 (fun _ => 0) none := by
  show ConsAt P w (scanR E s.r pr) s 0 (fun _ => 0) none
  unfold scanR
  simp only [h, if_true]
  exact scanFromR_cons E s.r pr _ _ s

theorem unwindWith_ok {α : Type} {cleanup : SM K V Q Unit} {body : SM K V Q α} {s s' : St K V Q} {a : α}
    (h : Micromap.unwindWith cleanup body s = .ok a s') : body s = .ok a s' := by
  unfold Micromap.unwindWith at h
  split at h
  · exact ‹body s = _›.trans h
  · cases h
  · split at h <;> cases h

end Micromap.Own
