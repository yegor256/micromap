/-
`stepCore` and `step` by equations: which operations go to one register through `runOnMap` /
`runOnSet`, which are handled at the system level, and what `step` makes of the result.
-/
import Micromap.Model.Sys

namespace Micromap
variable {K V Q : Type} (E : Env K V Q) (R : Render K V)

def Res.mapVal {σ α β : Type} (f : α → β) : Res σ α → Res σ β
  | .ok a s => .ok (f a) s
  | .panic c s => .panic c s
  | .ub => .ub

/-- the map operations `stepCore` handles itself (a scratch or a second register is involved);
    `stepMapOp` does nothing on them. -/
def MapOp.atSys : MapOp K V Q → Bool
  | .clone_to _ | .from_iter _ _ | .serde _ => true
  | _ => false

def SetOp.atSys : SetOp K Q → Bool
  | .clone_to _ | .from_iter _ _ | .sub _ _ | .serde _ | .extend_from _ => true
  | _ => false

variable (sys : Sys K V Q) (reg : Nat)

theorem runOnMap_congr {α : Type} {m m' : SM K V Q α} (h : m ⟨sys.maps reg, sys.w⟩ = m' ⟨sys.maps reg, sys.w⟩) :
    runOnMap sys reg m = runOnMap sys reg m' := by
  unfold runOnMap; rw [h]

theorem runOnSet_congr {α : Type} {m m' : SM K Unit Q α}
    (h : m ⟨sys.sets reg, sys.w.toUnit⟩ = m' ⟨sys.sets reg, sys.w.toUnit⟩) :
    runOnSet sys reg m = runOnSet sys reg m' := by
  unfold runOnSet; rw [h]

theorem runOnMap_ub {α : Type} {m : SM K V Q α} (h : m ⟨sys.maps reg, sys.w⟩ = .ub) :
    runOnMap sys reg m = .ub := by
  unfold runOnMap; rw [h]

theorem stepCore_map {mop : MapOp K V Q} (h : mop.atSys = false) :
    stepCore E R sys (.map reg mop) = runOnMap sys reg (stepMapOp E R sys.maps mop) := by
  cases mop with
  | clone_to _ | from_iter _ _ | serde _ => cases h
  | _ => rfl

/-- `mapVal` written as the `match` that `stepCore` has in its text. -/
theorem Res.mapVal_castU (r : Res (Sys K V Q) (RV K Unit)) :
    r.mapVal RV.castU =
      (match r with | .ok a s => .ok a.castU s | .panic c s => .panic c s | .ub => .ub :
        Res (Sys K V Q) (RV K V)) := by
  cases r <;> rfl

theorem stepCore_set {sop : SetOp K Q} (h : sop.atSys = false) :
    stepCore E R sys (.set reg sop) =
      (runOnSet sys reg (stepSetOp E.toUnit R.toUnit sys.sets sop)).mapVal RV.castU := by
  rw [Res.mapVal_castU]
  cases sop with
  | clone_to _ | from_iter _ _ | sub _ _ | serde _ | extend_from _ => cases h
  | _ => rfl

theorem stepCore_umap {uop : MapOp K Unit Q} (h : uop.atSys = false) :
    stepCore E R sys (.umap reg uop) =
      (runOnSet sys reg (stepMapOp E.toUnit R.toUnit sys.sets uop)).mapVal RV.castU := by
  rw [Res.mapVal_castU]
  cases uop with
  | clone_to _ | from_iter _ _ | serde _ => cases h
  | _ => rfl

/-- the register of shape `Map<K, (), N>` is not cloned, rebuilt or serialized by the harness. -/
theorem stepCore_umap_atSys {uop : MapOp K Unit Q} (h : uop.atSys = true) :
    stepCore E R sys (.umap reg uop) = .ok .unit sys := by
  cases uop with
  | clone_to _ | from_iter _ _ | serde _ => rfl
  | _ => cases h

theorem stepCore_map_clone_to (dst : Nat) :
    stepCore E R sys (.map reg (.clone_to dst)) =
      (assignMap E sys dst (sys.maps reg).cap (cloneInto E (sys.maps reg))).mapVal fun _ => .unit := by
  simp only [stepCore]; cases assignMap E sys dst _ _ <;> rfl

theorem stepCore_map_from_iter (pulls : Bool) (xs : List (K × V)) :
    stepCore E R sys (.map reg (.from_iter pulls xs)) =
      (assignMap E sys reg (sys.maps reg).cap (from_iter E pulls xs)).mapVal fun _ => .unit := by
  simp only [stepCore]; cases assignMap E sys reg _ _ <;> rfl

theorem stepCore_map_serde (dst : Nat) {toks : List (Tok K V)} {s : St K V Q}
    (h : serializeR (Q := Q) (sys.maps reg) ⟨sys.maps reg, sys.w⟩ = .ok toks s) :
    stepCore E R sys (.map reg (.serde dst)) =
      (assignMap E { sys with w := s.w } dst (sys.maps dst).cap (deserializeInto E toks)).mapVal
        fun _ => tokSummary toks := by
  simp only [stepCore, h]; cases assignMap E _ dst _ _ <;> rfl

theorem stepCore_set_clone_to (dst : Nat) :
    stepCore E R sys (.set reg (.clone_to dst)) =
      (assignSet E sys dst (sys.sets reg).cap (cloneInto E.toUnit (sys.sets reg))).mapVal
        fun _ => .unit := by
  simp only [stepCore]; cases assignSet E sys dst _ _ <;> rfl

theorem stepCore_set_from_iter (pulls : Bool) (xs : List K) :
    stepCore E R sys (.set reg (.from_iter pulls xs)) =
      (assignSet E sys reg (sys.sets reg).cap (from_iter E.toUnit pulls (xs.map fun k => (k, ())))).mapVal
        fun _ => .unit := by
  simp only [stepCore]; cases assignSet E sys reg _ _ <;> rfl

theorem stepCore_set_sub (o dst : Nat) :
    stepCore E R sys (.set reg (.sub o dst)) =
      (assignSet E sys dst (sys.sets reg).cap (subInto E.toUnit (sys.sets reg) (sys.sets o))).mapVal
        fun _ => .unit := by
  simp only [stepCore]; cases assignSet E sys dst _ _ <;> rfl

theorem stepCore_set_serde (dst : Nat) {toks : List (Tok K Unit)} {s : St K Unit Q}
    (h : serializeR (Q := Q) (sys.sets reg) ⟨sys.sets reg, sys.w.toUnit⟩ = .ok toks s) :
    stepCore E R sys (.set reg (.serde dst)) =
      (assignSet E { sys with w := sys.w.mergeUnit s.w } dst (sys.sets dst).cap
        (deserializeInto E.toUnit toks)).mapVal fun _ => (tokSummary toks).castU := by
  simp only [stepCore, h]; cases assignSet E _ dst _ _ <;> rfl

/-- `a.extend(a)` cannot be written; the harness ignores the operation text. -/
theorem stepCore_set_extend_from_self :
    stepCore E R sys (.set reg (.extend_from reg)) = .ok .unit sys := by
  simp only [stepCore, if_true]

theorem stepCore_set_extend_from {o : Nat} (h : o ≠ reg) :
    stepCore E R sys (.set reg (.extend_from o)) = (extendFrom E sys reg o).mapVal fun _ => .unit := by
  simp only [stepCore, if_neg h]; cases extendFrom E sys reg o <;> rfl

/-- what `step` makes of the result of `stepCore` for an operation on a register: the armed
    injection is spent, the events and the number of callbacks of this step go to the output.
    This is the inner `match` of `step`, which has no name there; under a name, a fact about the
    wrapping is proved once, by cases on the result, instead of by unfolding `step` for each kind
    of operation. -/
def stepOut (sys : Sys K V Q) (op : Op K V Q) : Res (Sys K V Q) (RV K V) → Sys K V Q × Out K V Q
  | .ok r s =>
    ({ s with w := { s.w with inject := none } },
     { outcome := .ok, ret := r, events := s.w.events, calls := s.w.calls - sys.w.calls,
       touchedMaps := (touched op).1, touchedSets := (touched op).2 })
  | .panic c s =>
    ({ s with w := { s.w with inject := none } },
     { outcome := .panic c, ret := .unit, events := s.w.events, calls := s.w.calls - sys.w.calls,
       touchedMaps := (touched op).1, touchedSets := (touched op).2 })
  | .ub =>
    ({ sys with w := { sys.w with events := [] } },
     { outcome := .ub, ret := .unit, events := [], calls := 0,
       touchedMaps := (touched op).1, touchedSets := (touched op).2 })

theorem step_eq_stepOut {op : Op K V Q} (hi : ∀ j, op ≠ .inject j) (he : op ≠ .endCase) :
    step E R sys op = stepOut sys op (stepCore E R { sys with w := { sys.w with events := [] } } op) := by
  cases op with
  | inject j => exact absurd rfl (hi j)
  | endCase => exact absurd rfl he
  | map reg mop => unfold step stepOut; simp only; cases stepCore E R _ (.map reg mop) <;> rfl
  | set reg sop => unfold step stepOut; simp only; cases stepCore E R _ (.set reg sop) <;> rfl
  | umap reg uop => unfold step stepOut; simp only; cases stepCore E R _ (.umap reg uop) <;> rfl

theorem step_map (mop : MapOp K V Q) : step E R sys (.map reg mop) =
    stepOut sys (.map reg mop) (stepCore E R { sys with w := { sys.w with events := [] } } (.map reg mop)) :=
  step_eq_stepOut E R sys (fun _ => nofun) nofun

theorem step_umap (uop : MapOp K Unit Q) : step E R sys (.umap reg uop) =
    stepOut sys (.umap reg uop) (stepCore E R { sys with w := { sys.w with events := [] } } (.umap reg uop)) :=
  step_eq_stepOut E R sys (fun _ => nofun) nofun

theorem step_outcome_ub {op : Op K V Q} (hi : ∀ j, op ≠ .inject j) (he : op ≠ .endCase)
    (h : stepCore E R { sys with w := { sys.w with events := [] } } op = .ub) :
    (step E R sys op).2.outcome = .ub := by
  rw [step_eq_stepOut E R sys hi he, h]; rfl

end Micromap
