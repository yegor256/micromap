/-
C12 — Stored-key identity: `insert` keeps the old key, `insert_key_value` / `replace` swap it.

Keys are arbitrary objects and `==` is whatever `E.eqK` says: equal keys may be distinguishable
(`findKey … = some i` only says that the stored key at `i` compares equal to the supplied one).
`Rep s.r l` exposes the stored key *objects* `l[i].1`, so "which object is stored afterwards" is
a statement about the list.  The capacity and fill level are arbitrary: the full-container
replace-only path (`insert_ii_for_full`, behind `checked_insert`) is included.
-/
import Micromap.Proofs.Inv
import Micromap.Proofs.Benign
import Micromap.Props.C11

namespace Micromap.Props.C12
open Micromap Micromap.Refine
variable {K V Q : Type} (E : Env K V Q)

/-- `insert` with a key equal to a stored one: the stored key object stays (`l[i].1`), only the
    value is replaced, the old value comes back, and the supplied key object is destroyed —
    the one and only effect of the call is `drop(k)`. -/
theorem insert_keeps_stored_key (hE : E.Pure) {s : St K V Q} {l : List (K × V)} (hr : Rep s.r l)
    (hb : Benign s.w) (k : K) (v : V) {i} (hpres : findKey E l (.key k) = some i) :
    ∃ (hi : i < l.length) (s' : St K V Q), insert E k v s = .ok (some l[i].2) s' ∧
      Rep s'.r (l.set i (l[i].1, v)) ∧ WRel s.w s'.w [.dropK k] := by
  have h := insert_benign E hE hr hb k v
  rw [hpres] at h
  obtain ⟨hi, s', hm, hrep, _, hw⟩ := h
  exact ⟨hi, s', hm, hrep, hw⟩

/-- `checked_insert` behaves the same at every fill level, in particular on a FULL map, where it
    goes through the replace-only path. -/
theorem checked_insert_keeps_stored_key (hE : E.Pure) {s : St K V Q} {l : List (K × V)} (hr : Rep s.r l)
    (hb : Benign s.w) (k : K) (v : V) {i} (hpres : findKey E l (.key k) = some i) :
    ∃ (hi : i < l.length) (s' : St K V Q), checked_insert E k v s = .ok (some (some l[i].2)) s' ∧
      Rep s'.r (l.set i (l[i].1, v)) ∧ WRel s.w s'.w [.dropK k] := by
  have h := checked_insert_benign E hE hr hb k v
  rw [hpres] at h
  obtain ⟨hi, s', hm, hrep, _, hw⟩ := h
  exact ⟨hi, s', hm, hrep, hw⟩

/-- `insert_key_value` (and `Set::replace`, which is this function at `V = ()`): the SUPPLIED key
    object is stored, the old key object and old value are handed back, nothing is destroyed. -/
theorem insert_key_value_swaps_key (hE : E.Pure) {s : St K V Q} {l : List (K × V)} (hr : Rep s.r l)
    (hb : Benign s.w) (k : K) (v : V) {i} (hpres : findKey E l (.key k) = some i) :
    ∃ (hi : i < l.length) (s' : St K V Q), insert_key_value E k v s = .ok (some l[i]) s' ∧
      Rep s'.r (l.set i (k, v)) ∧ WRel s.w s'.w [] := by
  have h := insert_key_value_benign E hE hr hb k v
  rw [hpres] at h
  obtain ⟨hi, s', hm, hrep, _, hw⟩ := h
  exact ⟨hi, s', hm, hrep, hw⟩

/-- the replace-only path used on a full container honours the flag in both directions. -/
theorem insert_ii_for_full_identity (hE : E.Pure) {s : St K V Q} {l : List (K × V)} (hr : Rep s.r l)
    (hb : Benign s.w) (k : K) (v : V) (upd : Bool) {i} (hpres : findKey E l (.key k) = some i) :
    ∃ (hi : i < l.length) (s' : St K V Q),
      insert_ii_for_full E k v upd s = .ok (some (i, if upd then l[i] else (k, l[i].2))) s' ∧
      Rep s'.r (l.set i (if upd then (k, v) else (l[i].1, v))) := by
  have h := insert_ii_for_full_benign E hE hr hb k v upd
  rw [hpres] at h
  obtain ⟨hi, s', hm, hrep, _⟩ := h
  exact ⟨hi, s', hm, hrep⟩

/-- `get` / `get_key_value` / `Set::get` return the stored pair itself (object identity, not
    merely an equal key), together with its slot. -/
theorem get_exposes_stored (hE : E.Pure) {s : St K V Q} {l : List (K × V)} (hr : Rep s.r l)
    (hb : Benign s.w) (pr : Probe K Q) {i} (hpres : findKey E l pr = some i) :
    ∃ (hi : i < l.length) (s' : St K V Q), get E pr s = .ok (some (i, l[i])) s' ∧ s'.r = s.r := by
  have h := get_benign E hE hr hb pr
  rw [hpres] at h
  obtain ⟨hi, s', hm, hs, _⟩ := h
  exact ⟨hi, s', hm, hs⟩

/-- `remove_entry` / `Set::take` hand back the stored key object and value. -/
theorem remove_entry_exposes_stored (hE : E.Pure) {s : St K V Q} {l : List (K × V)} (hr : Rep s.r l)
    (hb : Benign s.w) (pr : Probe K Q) {i} (hpres : findKey E l pr = some i) :
    ∃ (hi : i < l.length) (s' : St K V Q), remove_entry E pr s = .ok (some l[i]) s' ∧
      Rep s'.r (Dict.swapRemove l i) ∧ WRel s.w s'.w [] := by
  have h := remove_entry_benign E hE hr hb pr
  rw [hpres] at h
  obtain ⟨hi, s', hm, hrep, _, hw⟩ := h
  exact ⟨hi, s', hm, hrep, hw⟩

/-- the entry API with a key equal to a stored one: `entry(k)` discards the supplied key object
    (`drop(k)` is its only effect) and leaves the container — hence the stored key — untouched;
    `or_insert` then returns the slot of the stored entry. -/
theorem entry_keeps_stored_key (hE : E.Pure) {s : St K V Q} {l : List (K × V)} (hr : Rep s.r l)
    (hb : Benign s.w) (k : K) (d : V) {i} (hf : findKey E l (.key k) = some i) :
    (∃ s', entry E k s = .ok (.occ i) s' ∧ s'.r = s.r ∧ WRel s.w s'.w [.dropK k]) ∧
    (∃ s', (entry E k >>= or_insert E d) s = .ok i s' ∧ s'.r = s.r ∧
      WRel s.w s'.w (.dropK k :: dropVTr E d)) :=
  ⟨C11.entry_occupied E hE hr hb k hf, C11.entry_or_insert_occupied E hE hr hb k d hf⟩

/-- iteration (`iter`, `keys`, `Set::iter`, `Debug`, …) reads the stored objects: the entries of
    a container represented by `l` are exactly `l`. -/
theorem iteration_exposes_stored {r : Raw K V} {l : List (K × V)} (hr : Rep r l) (s : St K V Q) :
    entriesOf r s = .ok l s := entriesOf_ok hr s

/-- Sets are maps with `V = ()`: `Set::insert` of a present element keeps the stored element and
    reports `false` (the `Option` is `Some`); `Set::replace` stores the supplied element and returns
    the old one. -/
theorem set_insert_keeps_stored (F : Env K Unit Q) (hF : F.Pure) {s : St K Unit Q} {l : List (K × Unit)}
    (hr : Rep s.r l) (hb : Benign s.w) (k : K) {i} (hpres : findKey F l (.key k) = some i) :
    ∃ (s' : St K Unit Q), insert F k () s = .ok (some ()) s' ∧ Rep s'.r l ∧ WRel s.w s'.w [.dropK k] := by
  obtain ⟨hi, s', hm, hrep, hw⟩ := insert_keeps_stored_key F hF hr hb k () hpres
  exact ⟨s', hm, by rwa [List.set_getElem_self hi] at hrep, hw⟩

theorem set_replace_swaps (F : Env K Unit Q) (hF : F.Pure) {s : St K Unit Q} {l : List (K × Unit)}
    (hr : Rep s.r l) (hb : Benign s.w) (k : K) {i} (hpres : findKey F l (.key k) = some i) :
    ∃ (hi : i < l.length) (s' : St K Unit Q), insert_key_value F k () s = .ok (some l[i]) s' ∧
      Rep s'.r (l.set i (k, ())) ∧ WRel s.w s'.w [] :=
  insert_key_value_swaps_key F hF hr hb k () hpres

/-! ### non-vacuity (tests): equal but distinguishable keys -/

def exEnv : Env (Nat × Nat) Nat Nat :=
  { eqK := fun _ a b => a.1 == b.1, eqQ := fun _ a b => a == b, eqV := fun a b => a == b,
    borrow := fun a => a.1, clK := fun n k => (k.1, n), clV := fun _ v => v }

example : exEnv.Pure := ⟨fun _ _ _ => rfl, fun _ _ _ => rfl⟩
/-- key `(7, 99)` equals the stored `(7, 1)` (same class) but is a different object. -/
example : findKey exEnv [((7, 1), 70), ((8, 2), 80)] (.key (7, 99)) = some 0 := by decide
example : ((7, 99) : Nat × Nat) ≠ (7, 1) := by decide

end Micromap.Props.C12
