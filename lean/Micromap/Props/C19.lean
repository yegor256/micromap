/-
C19 — Debug/Display render exactly the current (or not-yet-yielded) entries.

`Spec/StdFmt.lean` is the reference: the layout rules of `core::fmt`'s `debug_map` / `debug_set`
/ `debug_list` builders (plain and alternate form) over already rendered element strings, and the
`{k: v, k: v}` / `{a, b}` layout of `Display` (`", "`-joined).  It is a trusted model of std,
validated on every run against the real `format!` by the correspondence check.  The element
renderings `R : Render K V` (the user's `Debug`/`Display` impls) are arbitrary.
What is proved: the strings the model produces are those reference layouts applied to EXACTLY the
entries stored (for containers, in iteration order) or not yet yielded (for iterators and
drains, at every consumption prefix), and formatting leaves the container unchanged.
-/
import Micromap.Proofs.Fmt
import Micromap.Proofs.Refine
import Micromap.Props.C08
import Micromap.Props.C10

namespace Micromap.Props.C19
open Micromap Micromap.Refine
variable {K V Q : Type}

/-- `{:?}`, `{:#?}` and `{}` of a `Map`: `debug_map` resp. the `Display` layout over the entries
    in iteration order (= slot order `l`); the container and the world are untouched. -/
theorem map_fmt (R : Render K V) {s : St K V Q} {l : List (K × V)} (hr : Rep s.r l) :
    fmtMap R .debug s = .ok (StdFmt.debugMap false (l.map fun p => (R.dbgK false p.1, R.dbgV false p.2))) s ∧
    fmtMap R .debugAlt s = .ok (StdFmt.debugMap true (l.map fun p => (R.dbgK true p.1, R.dbgV true p.2))) s ∧
    fmtMap R .display s = .ok (StdFmt.displayMap (l.map fun p => (R.dspK p.1, R.dspV p.2))) s := by
  refine ⟨?_, ?_, ?_⟩ <;>
    simp [fmtMap, bind_apply, Micromap.getS, entriesOf_ok hr, Fmt.displayMapCode_eq]

/-- the same for `Set`: `debug_set` and `{a, b}`. -/
theorem set_fmt (R : Render K Unit) {s : St K Unit Q} {l : List (K × Unit)} (hr : Rep s.r l) :
    fmtSet R .debug s = .ok (StdFmt.debugSet false (l.map fun p => R.dbgK false p.1)) s ∧
    fmtSet R .debugAlt s = .ok (StdFmt.debugSet true (l.map fun p => R.dbgK true p.1)) s ∧
    fmtSet R .display s = .ok (StdFmt.displaySet (l.map fun p => R.dspK p.1)) s := by
  refine ⟨?_, ?_, ?_⟩ <;>
    simp [fmtSet, bind_apply, Micromap.getS, entriesOf_ok hr, Fmt.displaySetCode_eq]

/-- `Display` writes `{`, the entries and `}` directly: width, fill, alignment and the alternate flag
    of the caller's format spec change nothing (`{:>30}`, `{:#}`); `{:30?}` hands the width to the
    elements only, the layout is that of `{:?}`. -/
theorem fmt_flags_ignored (R : Render K V) (s : St K V Q) :
    fmtMap R .displayPad s = fmtMap R .display s ∧ fmtMap R .displayAlt s = fmtMap R .display s ∧
    fmtMap R .debugPad s = fmtMap R .debug s := ⟨rfl, rfl, rfl⟩

theorem set_fmt_flags_ignored (R : Render K Unit) (s : St K Unit Q) :
    fmtSet R .displayPad s = fmtSet R .display s ∧ fmtSet R .displayAlt s = fmtSet R .display s ∧
    fmtSet R .debugPad s = fmtSet R .debug s := ⟨rfl, rfl, rfl⟩

/-- the hand-written `Display` loop (first entry, then `", "`-prefixed entries) is the documented
    `'{' entries joined by ", " '}'`, for every content including empty and one entry. -/
theorem display_is_joined (R : Render K V) (l : List (K × V)) :
    displayMapCode R l = "{" ++ ", ".intercalate (l.map fun p => R.dspK p.1 ++ ": " ++ R.dspV p.2) ++ "}" := by
  rw [Fmt.displayMapCode_eq]
  simp [StdFmt.displayMap, StdFmt.joinComma, List.map_map, Function.comp_def]

theorem display_set_is_joined (dsp : K → String) (l : List (K × Unit)) :
    displaySetCode dsp l = "{" ++ ", ".intercalate (l.map fun p => dsp p.1) ++ "}" := by
  rw [Fmt.displaySetCode_eq]; rfl

/-- **Borrowing iterators at every consumption prefix**: a `Debug` probe issued after `k` items
    have been yielded (`it = ⟨k, |l|⟩`) prints `debug_list` of exactly the entries not yet yielded,
    `l.drop k` (pairs, keys or values according to the iterator kind), and the script continues
    from the very same state. -/
theorem iter_debug_at_prefix (R : Render K V) (kind : IterKind) (g : V → V) (cs : List IterCmd)
    (forks : List SliceIt) {s : St K V Q} {l : List (K × V)} (hr : Rep s.r l) {k : Nat} (hk : k ≤ l.length) :
    iterScript R kind g (.debug :: cs) ⟨k, l.length⟩ forks s =
      (do let rest ← iterScript R kind g cs ⟨k, l.length⟩ forks
          pure (RV.str (renderRest R kind false (l.drop k)) :: rest)) s ∧
    iterScript R kind g (.debugAlt :: cs) ⟨k, l.length⟩ forks s =
      (do let rest ← iterScript R kind g cs ⟨k, l.length⟩ forks
          pure (RV.str (renderRest R kind true (l.drop k)) :: rest)) s := by
  constructor <;>
    simp [iterScript, bind_apply, Micromap.getS, Iters.restR_rep hr hk s]

/-- what `renderRest` is: `debug_list` over the element renderings of the remaining entries. -/
theorem renderRest_keys (R : Render K V) (alt : Bool) (l : List (K × V)) :
    renderRest R .keys alt l = StdFmt.debugList alt (l.map fun p => R.dbgK alt p.1) ∧
    renderRest R .values alt l = StdFmt.debugList alt (l.map fun p => R.dbgV alt p.2) ∧
    renderRest R .values_mut alt l = StdFmt.debugList alt (l.map fun p => R.dbgV alt p.2) :=
  ⟨rfl, rfl, rfl⟩

/-- **`Drain`**: after `take` items its `Debug` lists exactly the entries it still owns,
    `l.drop take`. -/
theorem drain_debug (E : Env K V Q) (R : Render K V) (other : Nat → Raw K V) (take : Nat) (forget : Bool)
    {s : St K V Q} {l : List (K × V)} (hr : Rep s.r l) (hb : Benign s.w) :
    ∃ s', stepMapOp E R other (.drain take forget) s =
      .ok (.list [.list ((l.take take).map fun p => .pair p.1 p.2), .nat (l.length - take),
        .str (renderRest R .iter false (l.drop take))]) s' := by
  obtain ⟨s', h, _⟩ := C10.drain_op E take forget hr hb
  exact ⟨s', show (drainOp E take forget >>= _) s = _ from bind_ok h⟩

/-- **`IntoIter` / `IntoKeys` / `IntoValues`**: after `take` items (popped from the end) the
    `Debug` output lists exactly the remaining entries `l.take (|l| - take)`, ascending. -/
theorem into_iter_debug (E : Env K V Q) (R : Render K V) (other : Nat → Raw K V) (take : Nat)
    (forget : Bool) {s : St K V Q} {l : List (K × V)} (hr : Rep s.r l) (hb : Benign s.w) :
    ∃ s', stepMapOp E R other (.into_iter .pairs take forget) s =
      .ok (.list [.list ((l.reverse.take take).map fun p => .pair p.1 p.2), .nat (l.length - take),
        .str (renderRest R .iter false (l.take (l.length - take)))]) s' := by
  obtain ⟨s', h, _⟩ := C10.into_iter_op E .pairs take forget hr hb
  exact ⟨s', show (intoIterOp E .pairs take forget >>= _) s = _ from bind_ok h⟩

/-- **Set-algebra iterators**: `Debug` of `Union` / `Intersection` / `Difference` /
    `SymmetricDifference` in any well-formed state prints `debug_list` of exactly the items the
    iterator will still yield (`Alg.algRest`, the lazily recomputed remainder); operands untouched. -/
theorem alg_debug (F : Env K Unit Q) (hF : F.Pure) (dbg : Bool → K → String) {a b : Raw K Unit}
    {la lb : List (K × Unit)} (hra : Rep a la) (hrb : Rep b lb) (it : AlgIt)
    (hit : Alg.AlgInv la.length lb.length it) (hm : Alg.meas it ≤ a.len + b.len)
    (cs : List IterCmd) (forks : List AlgIt) {s : St K Unit Q} (hw : Benign s.w) :
    ∃ s1 : St K Unit Q, s1.r = s.r ∧ WRel s.w s1.w [] ∧
      algScript F dbg a b (.debug :: cs) it forks s =
        (do let rest ← algScript F dbg a b cs it forks
            pure (RV.str (StdFmt.debugList false
              ((Alg.algRest F.keq la lb it).map fun (x : AlgItem K) => dbg false x.2.2)) :: rest)) s1 := by
  obtain ⟨s1, h1, h2, h3⟩ := C08.algRunOut_exact F hF hra hrb it hit (a.len + b.len + 1) (by omega) hw
  refine ⟨s1, h2, h3, ?_⟩
  rw [algScript]
  exact bind_ok h1

/-! ### non-vacuity (tests): the reference layouts on concrete data -/

example : StdFmt.debugMap false [("1", "\"a\""), ("2", "\"b\"")] = "{1: \"a\", 2: \"b\"}" := by decide +kernel
example : StdFmt.displayMap [("k1", "v1"), ("k2", "v2")] = "{k1: v1, k2: v2}" := by decide +kernel
example : StdFmt.displaySet ([] : List String) = "{}" := by decide
example : StdFmt.debugList false ["a", "b"] = "[a, b]" := by decide

end Micromap.Props.C19
