/-
C02 — Each element is destroyed exactly once; dead or uninit slots are never used.

Three kinds of statements.
(1) History level, any world: no step of any history over the whole safe operation language —
    including every consuming iterator and drain with every `take` count, dropped early or
    `mem::forget`-ten — reaches `ub`.  In the model `ub` is exactly: a slot that holds no live
    element is read, compared, returned, moved out or dropped (`itemRef`/`itemRead`/`itemDrop`/
    `valueReplace`/`pairReplace` on a `none` slot or beyond `cap`).  A second destruction of a
    stored element is a drop of a moved-out slot, hence `ub`: so elements in slots are destroyed
    at most once, and dead/uninitialised slots are never used.
(2) Operation level, benign world: the exact effect trace, return value and final list of each
    operation, from which "exactly one place" can be read off: every object of the old list and
    of the arguments is afterwards in exactly one of: the new list, the return value, the drop
    events of the step (once), or — only for `forget` — leaked.
(3) The ledger over histories — passed in = stored ⊎ handed back ⊎ destroyed, as a multiset
    equation — is proved for the owning dictionary operations (`history_ledger`), and, with
    created, leaked and unreachable objects in the equation, for every safe operation on ONE map
    register (`history_ledger2`: entry API, all iterators, drains and consuming iterators dropped or
    forgotten, retain, extend, drop, forget; `history_ledger2_sets` for `V = ()`), through an
    ownership logic (`Proofs/Own.lean`) whose step lemma (`step_ledger2`) holds in ANY world.
    Over the model's real transition function `step` / `run` and the WHOLE safe operation language
    with its four registers (clone, `==`, serde, set algebra, bulk construction, `endCase`) it is
    `run_ledger` / `run_and_drop_ledger` / `step_ledger_sys` (section (3c), the last of this file).
-/
import Micromap.Props.C03
import Micromap.Props.C10
import Micromap.Props.C12
import Micromap.Proofs.OwnSys

namespace Micromap.Props.C02
open Micromap Dict Refine
variable {K V Q : Type} (E : Env K V Q) (R : Render K V)

/-- **(1) Dead or uninitialised slots are never used, nothing in a slot is destroyed twice** —
    for every history of safe operations from `new()`, any capacities, any user equality, any
    injected panics, either profile, with iterators and drains abandoned at any point. -/
theorem run_no_ub (capM capS : Nat → Nat) (w : World K V Q) (ops : List (Op K V Q))
    (hops : ∀ op, op ∈ ops → op.safeApi = true) :
    ∀ o, o ∈ (run E R (Sys.init capM capS w) ops).2 → o.outcome ≠ .ub :=
  (run_inv E R ops _ (SysInv.init E capM capS w) hops).1

/-- … and the final drop of every register (`endCase`) is included. -/
theorem run_and_drop_no_ub (capM capS : Nat → Nat) (w : World K V Q) (ops : List (Op K V Q))
    (hops : ∀ op, op ∈ ops → op.safeApi = true) :
    ∀ o, o ∈ (run E R (Sys.init capM capS w) (ops ++ [.endCase])).2 → o.outcome ≠ .ub := by
  refine (run_inv E R _ _ (SysInv.init E capM capS w) ?_).1
  intro op hop
  rcases List.mem_append.mp hop with h | h
  · exact hops op h
  · have : op = .endCase := by simpa using h
    subst this; rfl

/-- abandoning iterators: the operations with `forget = true` are part of the language. -/
example : (Op.map 0 (.drain 1 true) : Op K V Q).safeApi = true := rfl
example : (Op.map 0 (.into_iter .keys 2 true) : Op K V Q).safeApi = true := rfl
example : (Op.set 0 (.drain 0 true) : Op K V Q).safeApi = true := rfl
example : (Op.map 0 .forget : Op K V Q).safeApi = true := rfl

/-! ### (2) where every object is after one operation (benign world) -/

/-- duplicate key on `insert`: the supplied key is destroyed exactly once (the only effect), the
    old value is handed back, the new value is stored next to the ORIGINAL key, every other
    entry is untouched. -/
theorem insert_dup_drops_arg (hE : E.Pure) {s : St K V Q} {l : List (K × V)} (hr : Rep s.r l)
    (hb : Benign s.w) (k : K) (v : V) {i} (hpres : findKey E l (.key k) = some i) :
    ∃ (hi : i < l.length) (s' : St K V Q), insert E k v s = .ok (some l[i].2) s' ∧
      Rep s'.r (l.set i (l[i].1, v)) ∧ WRel s.w s'.w [.dropK k] :=
  C12.insert_keeps_stored_key E hE hr hb k v hpres

/-- a new key with room: nothing is destroyed, the pair is stored (appended). -/
theorem insert_new_stores_args (hE : E.Pure) {s : St K V Q} {l : List (K × V)} (hr : Rep s.r l)
    (hb : Benign s.w) (k : K) (v : V) (habs : findKey E l (.key k) = none) (hroom : l.length < s.r.cap) :
    ∃ s', insert E k v s = .ok none s' ∧ Rep s'.r (l ++ [(k, v)]) ∧ WRel s.w s'.w [] := by
  have h := insert_benign E hE hr hb k v
  rw [habs] at h
  rcases h with ⟨_, s', hm, hrep, _, hw⟩ | ⟨hfull, _⟩
  · exact ⟨s', hm, hrep, hw⟩
  · omega

/-- rejected insert (full, absent): both arguments are destroyed exactly once, the container is
    bit-for-bit unchanged. -/
theorem rejected_insert_drops_args (hE : E.Pure) {s : St K V Q} {l : List (K × V)} (hr : Rep s.r l)
    (hb : Benign s.w) (hfull : l.length = s.r.cap) (k : K) (v : V)
    (habs : findKey E l (.key k) = none) :
    ∃ c s', insert E k v s = .panic c s' ∧ s'.r = s.r ∧ WRel s.w s'.w (dropVTr E v ++ [.dropK k]) := by
  obtain ⟨c, s', h1, h2, _, h4⟩ := C03.insert_full_absent E hE hr hb hfull k v habs
  exact ⟨c, s', h1, h2, h4⟩

theorem rejected_checked_insert_drops_args (hE : E.Pure) {s : St K V Q} {l : List (K × V)}
    (hr : Rep s.r l) (hb : Benign s.w) (hfull : l.length = s.r.cap) (k : K) (v : V)
    (habs : findKey E l (.key k) = none) :
    ∃ s', checked_insert E k v s = .ok none s' ∧ s'.r = s.r ∧
      WRel s.w s'.w (dropVTr E v ++ [.dropK k]) :=
  C03.checked_insert_full_absent E hE hr hb hfull k v habs

/-- `remove`: the value is handed back, the stored key is destroyed exactly once, and the rest
    is exactly the other entries (a permutation of `l` without position `i`). -/
theorem remove_conserves (hE : E.Pure) {s : St K V Q} {l : List (K × V)} (hr : Rep s.r l)
    (hb : Benign s.w) (pr : Probe K Q) {i} (hpres : findKey E l pr = some i) :
    ∃ (hi : i < l.length) (s' : St K V Q), remove E pr s = .ok (some l[i].2) s' ∧
      Rep s'.r (swapRemove l i) ∧ (swapRemove l i).Perm (l.eraseIdx i) ∧
      WRel s.w s'.w [.dropK l[i].1] := by
  have h := remove_benign E hE hr hb pr
  rw [hpres] at h
  obtain ⟨hi, s', hm, hrep, _, hw⟩ := h
  exact ⟨hi, s', hm, hrep, swapRemove_perm hi, hw⟩

/-- `remove_entry` / `take`: both objects are handed back, nothing is destroyed. -/
theorem remove_entry_conserves (hE : E.Pure) {s : St K V Q} {l : List (K × V)} (hr : Rep s.r l)
    (hb : Benign s.w) (pr : Probe K Q) {i} (hpres : findKey E l pr = some i) :
    ∃ (hi : i < l.length) (s' : St K V Q), remove_entry E pr s = .ok (some l[i]) s' ∧
      Rep s'.r (swapRemove l i) ∧ (swapRemove l i).Perm (l.eraseIdx i) ∧ WRel s.w s'.w [] := by
  obtain ⟨hi, s', h1, h2, h3⟩ := C12.remove_entry_exposes_stored E hE hr hb pr hpres
  exact ⟨hi, s', h1, h2, swapRemove_perm hi, h3⟩

/-- an absent key: lookups and removals destroy nothing and change nothing. -/
theorem remove_absent_noop (hE : E.Pure) {s : St K V Q} {l : List (K × V)} (hr : Rep s.r l)
    (hb : Benign s.w) (pr : Probe K Q) (habs : findKey E l pr = none) :
    ∃ s', remove E pr s = .ok none s' ∧ s'.r = s.r ∧ WRel s.w s'.w [] := by
  have h := remove_benign E hE hr hb pr
  rw [habs] at h
  exact h

/-- `clear`: every stored key and value is destroyed exactly once, in slot order; the map is
    empty afterwards (so none of them can be destroyed again). -/
theorem clear_drops_each_once {s : St K V Q} {l : List (K × V)} (hr : Rep s.r l) (hb : Benign s.w) :
    ∃ s', clear E s = .ok () s' ∧ Rep s'.r [] ∧ WRel s.w s'.w (dropTrace E l) := by
  obtain ⟨s', hm, h1, _, h3⟩ := clear_benign E hr hb
  exact ⟨s', hm, h1, h3⟩

/-- dropping the container: every stored key and value is destroyed exactly once and every
    slot below `len` is dead afterwards; slots at or beyond `len` are not touched. -/
theorem drop_drops_each_once {s : St K V Q} {l : List (K × V)} (hr : Rep s.r l) (hb : Benign s.w) :
    ∃ s', dropMap E s = .ok () s' ∧ (∀ j, j < l.length → s'.r.slots j = none) ∧
      (∀ j, l.length ≤ j → s'.r.slots j = s.r.slots j) ∧ WRel s.w s'.w (dropTrace E l) := by
  obtain ⟨s', hm, _, h⟩ := dropMap_benign E hr hb
  exact ⟨s', hm, h⟩

/-- `drain`, partially consumed then dropped: the taken prefix is handed to the caller, the rest
    is destroyed exactly once, the map is empty.  Forgotten instead of dropped: the rest is not
    destroyed at all (leaked), never twice — the map is empty all the same. -/
theorem drain_conserves (take : Nat) (forget : Bool) {s : St K V Q} {l : List (K × V)}
    (hr : Rep s.r l) (hb : Benign s.w) :
    ∃ s', drainOp E take forget s = .ok (l.take take, l.length - take, l.drop take) s' ∧
      Rep s'.r [] ∧ l.take take ++ l.drop take = l ∧
      WRel s.w s'.w (if forget then [] else dropTrace E (l.drop take)) := by
  obtain ⟨s', h1, h2, _, h4⟩ := C10.drain_op E take forget hr hb
  exact ⟨s', h1, h2, List.take_append_drop _ _, h4⟩

/-- consuming iterators: the taken items are handed to the caller (for `into_keys`/`into_values`
    the other half of each is destroyed once), the remaining entries are destroyed exactly once
    when the iterator is dropped and not at all when it is forgotten; the register is renewed. -/
theorem into_iter_conserves (kind : IntoKind) (take : Nat) (forget : Bool) {s : St K V Q}
    {l : List (K × V)} (hr : Rep s.r l) (hb : Benign s.w) :
    ∃ s', intoIterOp E kind take forget s =
        .ok (l.reverse.take take, l.length - take, l.take (l.length - take)) s' ∧
      s'.r = Raw.new s.r.cap ∧ l.take (l.length - take) ++ (l.reverse.take take).reverse = l ∧
      WRel s.w s'.w ((l.reverse.take take).flatMap (Iters.discardTr E kind) ++
        if forget then [] else dropTrace E (l.take (l.length - take))) := by
  obtain ⟨s', h1, h2, h3⟩ := C10.into_iter_op E kind take forget hr hb
  exact ⟨s', h1, h2, C10.into_iter_partition l take, h3⟩

/-- `mem::forget(map)`: nothing is destroyed, every live object goes to the leak list, and the
    register holds a fresh `new()` — so nothing of the old content can be destroyed later. -/
theorem forget_leaks_never_drops (s : St K V Q) :
    ∃ s', (forgetMap : SM K V Q Unit) s = .ok () s' ∧ s'.r = Raw.new s.r.cap ∧
      s'.w.events = s.w.events ∧ s'.w.leaked = s.w.leaked ++ liveObjs s.r s.r.cap :=
  ⟨_, rfl, rfl, rfl, rfl⟩

/-! ### (3a) the ledger over histories of the owning dictionary operations -/

/-- **Every object is in exactly one place, over any history.**  For any sequence of the owning
    operations `insert`, `insert_key_value`, `checked_insert`, `remove`, `remove_entry`, `clear`,
    `drain` (partially consumed, then dropped) and lookups, from `new()` of any capacity, in a benign
    world, for ANY user equality (lawful or not) and a value type with drop glue: the history runs without
    `ub`, and for EVERY weighting `w` of objects

        Σ w(objects passed in) = Σ w(objects stored at the end) + Σ w(objects handed back) + Σ w(objects dropped)

    — the multiset equation "passed in = stored ⊎ handed back ⊎ destroyed".  With `w` the indicator
    of one object: an object passed in once is, at the end, in exactly one of the three places
    and was destroyed at most once; nothing is ever destroyed that was not passed in.
    (Steps that end in the overflow panic are included: there both arguments are dropped.) -/
theorem history_ledger (hv : E.vGlue = true) (cap : Nat) (w0 : World K V Q) (hb : Benign w0)
    (ops : List (Ledger.LOp K V Q)) (w : Obj K V → Nat) :
    ∃ sf back tr lf, Ledger.lmhist E ops ⟨Raw.new cap, w0⟩ = some (sf, back) ∧ Rep sf.r lf ∧
      WRel w0 sf.w tr ∧
      Ledger.wsum w (ops.flatMap Ledger.LOp.inObjs) =
        Ledger.wpairs w lf + Ledger.wsum w back + Ledger.wsum w (Ledger.droppedOf tr) := by
  obtain ⟨sf, back, tr, lf, h1, h2, _, h4, h5⟩ :=
    Ledger.lmhist_conserves E hv w ops ⟨Raw.new cap, w0⟩ [] (Rep.new cap) hb
  exact ⟨sf, back, tr, lf, h1, h2, h4, by simpa using h5⟩

/-- with a time-independent `==` the history is moreover the list-level one (`Ledger.lhist`):
    which object ends up where is determined. -/
theorem history_ledger_exact (hE : E.Pure) (cap : Nat) (w0 : World K V Q) (hb : Benign w0)
    (ops : List (Ledger.LOp K V Q)) :
    ∃ sf, Ledger.lmhist E ops ⟨Raw.new cap, w0⟩ = some (sf, (Ledger.lhist E cap ops []).2.2.1) ∧
      Rep sf.r (Ledger.lhist E cap ops []).1 ∧ WRel w0 sf.w (Ledger.lhist E cap ops []).2.2.2 := by
  obtain ⟨sf, h1, h2, _, h4⟩ := Ledger.lmhist_refines E hE ops ⟨Raw.new cap, w0⟩ [] (Rep.new cap) hb
  exact ⟨sf, h1, h2, h4⟩

/-- the step-level fact behind it (list level, any list): stored + passed in = stored' + handed
    back + dropped, for each owning operation. -/
theorem step_ledger (hv : E.vGlue = true) (w : Obj K V → Nat) (cap : Nat) (l : List (K × V))
    (op : Ledger.LOp K V Q) :
    match Ledger.lstep E cap l op with
    | .ok l' back tr => Ledger.wpairs w l + Ledger.wsum w op.inObjs =
        Ledger.wpairs w l' + Ledger.wsum w back + Ledger.wsum w (Ledger.droppedOf tr)
    | .overflow tr => Ledger.wsum w op.inObjs = Ledger.wsum w (Ledger.droppedOf tr) :=
  Ledger.lstep_conserves E hv w cap l op

/-! ### (3b) the ledger over histories of every safe single-register operation -/

section Ledger2
open Ledger Ledger2

/-- **Every object is in exactly one place, over any history of `L2Op`.**

    COVERED (one map register; every operation is the model's `stepMapOp` on it — `l2mrun_is_step` —
    except `extend`, which is the model's `extendLoop`, the `Extend for Set` — `l2mrun_extend_is_set_extend`):
    `insert`, `insert_key_value`, `checked_insert` (with the overflow panic / the rejection: both
    arguments dropped), `get`, `get_key_value`, `contains_key`, `len`, `is_empty`, `capacity`,
    `with_capacity`, `fmt`, `remove`, `remove_entry`, `clear`, `retain` (the predicate may write
    through its `&mut V`), `get_mut` / `index` / `index_mut` (followed by a write; `index` of an
    absent key panics), `get_disjoint_mut` (followed by a write through every returned reference;
    overlapping keys panic), the borrowing iterators `iter` / `keys` / `values` / `iter_mut` /
    `values_mut` with any script (`next`, `len`, `size_hint`, `Debug`, `clone`, `count`, `fold`; the
    `*_mut` kinds write through the references they yield), `drain` with any `take`, the `Drain`
    dropped OR `mem::forget`-ten, `into_iter` / `into_keys` / `into_values` with any `take`, the
    iterator dropped OR forgotten (the register holds a fresh `new()` afterwards: stored' = []), the entry chains `entry(k).and_modify(g)*.<fin>`
    for all 16 terminals (`or_insert`, `or_insert_with`, `or_insert_with_key`, `or_default`, `key`,
    dropped unused, `OccupiedEntry::{key, get, get_mut, insert, remove, remove_entry, into_mut}`,
    `VacantEntry::{key, into_key, insert}`), `extend` (the loop `for (k, v) in xs { m.insert(k, v); }`
    on the register: the body of `from_iter` and of `Extend for Set`, with or without an
    instrumented source, including the overflow panic in the middle: what was inserted stays, the
    pair being inserted is dropped, the un-pulled rest of the source is dropped), `drop` of the
    map (the register holds a fresh `new()` afterwards) and `mem::forget` of the map.

    STATEMENT: from `new()` of any capacity, in a benign world, for ANY user equality (lawful or
    not) and a value type with drop glue, the history runs without `ub`, and for EVERY weighting
    `w` of objects that the in-place writes of the history respect (`L2Op.WOk w`: `w (g v) = w v` for
    the functions `g` written through `&mut V` — a write changes a value in place, it neither
    creates nor destroys one; no condition for histories without such writes)

        Σ w(passed in) + Σ w(created)
          = Σ w(stored at the end) + Σ w(unreachable at the end) + Σ w(handed back) + Σ w(dropped) + Σ w(leaked)

    "created" are the clone results in the effect trace (none: `createdOf tr = []`, these
    operations do not clone — so the left side is just Σ w(passed in); see
    `Ledger2.clone_conserves` for `clone`), "dropped" the drop log, "leaked" the suffix
    `World.leaked` grew by (`forget` of the map, of a consuming iterator; an `insert` that
    overwrites an unreachable slot), and "unreachable" (`Ledger2.garb`, the weight of `garbage`)
    the ghost-live slots at or beyond `len`: that is where a forgotten `Drain` leaves its
    un-yielded entries — as in the crate they are not destroyed and not recorded anywhere at that
    moment; they are leaked in place.  With `w` the indicator of one object: an object passed in
    once is at the end in exactly one of the five places, and was destroyed at most once.
    Accounting conventions: a value passed to a terminal that does not consume it
    (`or_insert_with(|| v)` on an occupied entry — the closure is not run —, `occ_insert v` on a
    vacant entry, …) counts as handed back; `into_keys` hands back the keys and drops the values.

    NOT IN THIS THEOREM (one register, benign world): everything that involves a second register —
    `eq` (reads two maps), `serde`, `clone_to` and `from_iter` at the system level (their
    scratch-register halves are `Ledger2.clone_conserves` and `Ledger2.from_iter_conserves`; the
    assignment to the destination drops its old content: `L2Op.drop`), the set-only operations
    (`alg`, `sub`, `is_subset`, …; every forwarding `Set` method is the `Map<T, (), N>` method, see
    `history_ledger2_sets`), histories over several registers — and injected panics (for those the
    step lemma `Ledger2.l2mrun_cons` gives: an unwinding step is either an injected panic or
    exactly balanced).  All of these are in the system-level ledger (`run_ledger`,
    `run_ledger_inj`, section (3c)).  The two `unsafe fn`s (`insert_unchecked`,
    `get_disjoint_unchecked_mut`) are in neither. -/
theorem history_ledger2 (hv : E.vGlue = true) (cap : Nat) (w0 : World K V Q) (hb : Benign w0)
    (ops : List (L2Op K V Q)) (w : Obj K V → Nat) (hops : ∀ op ∈ ops, op.WOk w) :
    ∃ sf back tr lk lf, l2mhist E ops ⟨Raw.new cap, w0⟩ = some (sf, back) ∧ Rep sf.r lf ∧
      WRel w0 sf.w tr ∧ sf.w.leaked = w0.leaked ++ lk ∧ Own.createdOf tr = [] ∧
      wsum w (ops.flatMap L2Op.inObjs) + wsum w (Own.createdOf tr) =
        wpairs w lf + garb w sf.r + wsum w back + wsum w (droppedOf tr) + wsum w lk :=
  l2mhist_conserves_new (Or.inl hv) ops cap w0 hops hb

/-- the restricted form: for histories whose closures do not write (`L2Op.NoWrite`: `retain`
    predicates that only look, no `and_modify` / `get_mut` writes), EVERY weighting is admissible. -/
theorem history_ledger2_noWrite (hv : E.vGlue = true) (cap : Nat) (w0 : World K V Q) (hb : Benign w0)
    (ops : List (L2Op K V Q)) (hops : ∀ op ∈ ops, op.NoWrite) (w : Obj K V → Nat) :
    ∃ sf back tr lk lf, l2mhist E ops ⟨Raw.new cap, w0⟩ = some (sf, back) ∧ Rep sf.r lf ∧
      WRel w0 sf.w tr ∧ sf.w.leaked = w0.leaked ++ lk ∧ Own.createdOf tr = [] ∧
      wsum w (ops.flatMap L2Op.inObjs) + wsum w (Own.createdOf tr) =
        wpairs w lf + garb w sf.r + wsum w back + wsum w (droppedOf tr) + wsum w lk :=
  history_ledger2 E hv cap w0 hb ops w (fun op hop => L2Op.WOk_of_noWrite w op (hops op hop))

/-- the same for `V = ()` (the set registers: `Set<T, N>` is a `Map<T, (), N>`) and generally for
    any `E` — with or without drop glue for values — when the weighting does not see values: then
    the ledger is about the keys alone. -/
theorem history_ledger2_sets (cap : Nat) (w0 : World K V Q) (hb : Benign w0)
    (ops : List (L2Op K V Q)) (w : Obj K V → Nat) (hw0 : ∀ v, w (.v v) = 0) :
    ∃ sf back tr lk lf, l2mhist E ops ⟨Raw.new cap, w0⟩ = some (sf, back) ∧ Rep sf.r lf ∧
      WRel w0 sf.w tr ∧ sf.w.leaked = w0.leaked ++ lk ∧ Own.createdOf tr = [] ∧
      wsum w (ops.flatMap L2Op.inObjs) + wsum w (Own.createdOf tr) =
        wpairs w lf + garb w sf.r + wsum w back + wsum w (droppedOf tr) + wsum w lk :=
  l2mhist_conserves_new (Or.inr hw0) ops cap w0 (fun op _ => L2Op.WOk_of_blind w hw0 op) hb

/-- `history_ledger` is the special case of the operations of `Ledger.LOp`: the two runners agree. -/
theorem l2mhist_ofLOp : ∀ (ops : List (LOp K V Q)) (s : St K V Q),
    l2mhist E (ops.map L2Op.ofLOp) s = lmhist E ops s
  | [], _ => rfl
  | op :: ops, s => by
    simp only [List.map_cons, l2mhist, lmhist, l2mrun_ofLOp]
    cases lmrun E op s with
    | ok back s' => simp only [l2mhist_ofLOp ops s']
    | panic c s' => simp only [l2mhist_ofLOp ops s']
    | ub => rfl

/-- the step-level fact behind it, in ANY world (injected panics included) and for any user
    equality, on a container that satisfies the invariant: the step does not reach `ub`; if it
    returns, `live slots + passed in + created = live slots' + handed back + dropped + leaked`
    (`Own.Bal`); if it unwinds it hands nothing back, and either the panic is an injected one or
    the same equation holds with nothing handed back. -/
theorem step_ledger2 (hv : E.vGlue = true) (w : Obj K V → Nat) (op : L2Op K V Q) (hop : op.WOk w)
    {s : St K V Q} (hs : Inv E s.r) :
    match l2mrun E op s with
    | .ok back s' => Own.Bal Own.notClone w s s' (wsum w op.inObjs) (wsum w back)
    | .panic c s' => (c = .inject ∧ s.w.inject ≠ none) ∨ Own.Bal Own.notClone w s s' (wsum w op.inObjs) 0
    | .ub => False := by
  have hC := l2mrun_cons (P := Own.notClone) (Or.inl hv) op hop hs
  cases hm : l2mrun E op s with
  | ok back s' => exact hC.ok_of hm
  | panic c s' => exact hC.panic_of hm
  | ub => exact Sat.not_ub (l2mrun_opInv E op s hs) hm

/-! ### the operation language contains the operations listed; the hypotheses are satisfiable -/

/-- forgotten drains and consuming iterators, entry chains, `retain`, `extend`, `drop`, `forget`
    are operations of the language, and they are the model's operations. -/
example : (L2Op.drain 1 true : L2Op Nat Nat Nat).toMapOp = some (.drain 1 true) := rfl
example : (L2Op.into_iter .keys 2 true : L2Op Nat Nat Nat).toMapOp = some (.into_iter .keys 2 true) := rfl
example : (L2Op.entry 3 [(· + 1)] (.or_insert 7) : L2Op Nat Nat Nat).toMapOp =
    some (.entry 3 [(· + 1)] (.or_insert 7)) := rfl
example : (L2Op.ofLOp (.drain 2) : L2Op Nat Nat Nat) = .drain 2 false := rfl
example : (L2Op.get_disjoint_mut (· + 1) [.key 1, .key 2] : L2Op Nat Nat Nat).toMapOp =
    some (.get_disjoint_mut false (· + 1) [.key 1, .key 2]) := rfl

/-- a concrete run: `u64` keys and values with the derived `==`. -/
def ledgerEnv0 : Env Nat Nat Nat :=
  { eqK := fun _ a b => a == b, eqQ := fun _ a b => a == b, eqV := fun a b => a == b, borrow := id,
    clK := fun _ k => k, clV := fun _ v => v }

/-- two inserts, a `drain` that yields one pair and is then FORGOTTEN, two more inserts into the
    map of capacity 2 -/
def ledgerOps0 : List (L2Op Nat Nat Nat) :=
  [.insert 1 10, .insert 2 20, .drain 1 true, .insert 3 30, .insert 4 40]

/-- after the forgotten drain and one insert: one stored pair, nothing recorded as leaked, but the
    un-yielded pair `(2, 20)` still sits in slot 1 beyond `len`: two unreachable objects … -/
example : (l2mhist ledgerEnv0 (ledgerOps0.take 4) ⟨Raw.new 2, {}⟩).map
    (fun r => (r.1.r.len, r.1.w.leaked.length, (garbage r.1.r).length)) = some (1, 0, 2) := by decide +kernel

/-- … which the next insert overwrites: now they are in `World.leaked` and nothing is unreachable;
    two objects (the yielded pair) were handed back. -/
example : (l2mhist ledgerEnv0 ledgerOps0 ⟨Raw.new 2, {}⟩).map
    (fun r => (r.1.r.len, r.1.w.leaked.length, (garbage r.1.r).length, r.2.length)) = some (2, 2, 0, 2) := by
  decide +kernel

/-- a weighting by identity of keys (values unweighted … or any weighting invariant under the
    writes): `WOk` holds for a history that writes through `&mut V`. -/
example : ∀ op ∈ ([.insert 1 10, .retain (fun _ _ v => (true, v + 1)), .get_mut (.key 1) (· * 2),
      .entry 1 [(· + 1)] (.occ_get_mut (· + 5)), .drain 1 true, .extend false [(2, 20), (3, 30)],
      .into_iter .values 1 true, .forget] : List (L2Op Nat Nat Nat)),
    op.WOk (fun o => match o with | .k k => k + 1 | .v _ => 0) := by
  intro op hop
  simp only [List.mem_cons, List.mem_nil_iff, or_false] at hop
  rcases hop with rfl | rfl | rfl | rfl | rfl | rfl | rfl | rfl <;> simp [L2Op.WOk, Own.finWOk]

/-- … and for histories without in-place writes every weighting is admissible. -/
example (w : Obj Nat Nat → Nat) : ∀ op ∈ ([.insert 1 10, .drain 0 true, .insert 2 20,
      .entry 1 [] (.vac_insert 5), .into_iter .keys 1 false, .drop] : List (L2Op Nat Nat Nat)), op.WOk w := by
  intro op hop
  simp only [List.mem_cons, List.mem_nil_iff, or_false] at hop
  rcases hop with rfl | rfl | rfl | rfl | rfl | rfl <;> simp [L2Op.WOk, Own.finWOk]


end Ledger2

/-! ### (3c) the system-level ledger

The system-level ledger — "each element is destroyed exactly once unless it was handed to
the caller or forgotten", over the model's real transition function `Micromap.step` / `Micromap.run`
and the whole safe operation language `Op` with its four registers (`maps 0/1`, `sets 0/1`):
every `MapOp` on a map register, every `SetOp` on a set register, every `Map<K, (), N>` operation on a
set register (`umap`), the operations that involve a second or a scratch register (`clone_to`,
`from_iter`, `eq`, `serde`, the lazy set algebra `alg`, `is_subset` / `is_superset` / `is_disjoint`,
`&a - &b`, `extend`, `a.extend(b)` with the set `b` moved in — `extend_from`, which consumes a second
register), fault injection (`inject`) and the final drop of all registers (`endCase`).

ACCOUNTING CONVENTIONS (all definitions are in `Proofs/OwnAlg.lean`, `Proofs/OwnSys.lean`).
* `sysLive w sys`: the weight of ALL ghost-live slots of the four registers (`Own.live`: stored
  entries and unreachable slots at or beyond `len`); a set register holds only keys (`wU w`: the
  unit values carry no object).
* `Op.inObjs op` ("passed in"): every key and value object the operation text carries — arguments of
  the inserts, the lists of `from_iter` / `extend`, the key of an entry chain and the value of its
  terminal.  For `umap` only the keys; the three `umap` operations that `stepCore` does not execute
  (`clone_to`, `from_iter`, `serde`) carry nothing.  `extend_from` carries nothing either: the objects
  it moves are those of the source register, which is one of the four registers of `sysLive`.
* "created": `Own.createdOf out.events`, the results of the `clone` callbacks of the step, PLUS the
  decode results `dec` of a `serde` step: `decodeK` / `decodeV` (the element types' `deserialize`)
  return a fresh object and log NO event, so they are not in `createdOf`;
  they are pinned down by `Op.DecOf` / `OwnSys.DecOf`: one key and one value object per entry of a
  PREFIX of the serialized source register (`Raw.abs`) — of all entries when the step returned —,
  with exactly the identities the model gives them: `E.clK n k`, `E.clV (n + 1) v` (`v` itself without
  drop glue), `n` = the fresh-object counter `World.nextId` at the start of the step, advancing by 2
  (1) per entry.  `dec = []` for every other operation.
* `Op.owned op out.ret` ("handed back"): the keys, values and pairs of the returned value tree that
  are NOT under a `ref` / `oref` constructor (`RV.owned`: `remove` returns an owned value, `get` a
  reference, drained / consumed items are owned, iterator and set-algebra items are references),
  EXCEPT for entry chains, where it is `Own.finBack` read off the result `[tag "occ"/"vac", r]`
  (`entryOwned`; `uEntryOwned` after the cast for `umap`): the terminals `key`, `OccupiedEntry::key`,
  `VacantEntry::key` return the key BY REFERENCE in Rust, but the model renders it as a bare `.key k`
  (a vacant entry has no slot to refer to) — it is NOT owned; and a value passed to a terminal that
  does not consume it (`or_insert_with(|| v)` on an occupied entry — the closure is not run —,
  `occ_insert v` on a vacant entry, …) stays with the caller: it counts as handed back.
  A step that unwinds shows `ret = unit`: it hands nothing back.
* "dropped": `Ledger.droppedOf out.events`, the drop log of the step (`Out.events` is per step).
* "leaked": the suffix `lk` that `World.leaked` grew by.  After `endCase` every register is a fresh
  `new()`, so `sysLive = 0`, nothing is unreachable, and the step's `Out.leaks`
  (`World.leaked ++ allGarbage`) is exactly `World.leaked`.
* `Op.WOk w op`: the weighting does not tell `g v` from `v` for the functions `g` the operation writes
  through `&mut V` (`Own.HV E w`: values have drop glue, or the weighting does not see values).

EXCLUDED: the two `unsafe fn`s (`insert_unchecked`, `get_disjoint_unchecked_mut`: `Op.safeApi`), and
operations that name a register other than the `nRegs = 2` registers of each kind that `endCase`
drops (`Op.regsOk`, defined through the model's `touched`): the ledger counts four registers.
After an INJECTED panic (a user callback panicked) nothing is claimed about that step.
-/

section SysLedger
open Ledger Own OwnSys

/-- **One step of the system conserves objects.**  For `Micromap.step` on every safe operation over
    the existing registers, ANY user equality, ANY world (armed injections included), either
    profile, from any state that satisfies the invariant, and every weighting `w` admissible for the
    in-place writes of the operation: the step does not reach `ub`, keeps the invariant, and

    * if it returns:
      `live + passed in + created (+ decoded) = live' + handed back + dropped + leaked`;
    * if it unwinds with class `c`: either `c = inject` and an injection was armed, or the same
      equation holds with nothing handed back (`out.ret = unit`) — the container's own panics
      (overflow, `index` of an absent key, overlapping keys, capacity mismatch) balance exactly. -/
theorem step_ledger_sys (w : Obj K V → Nat) (hv : HV E w) {sys : Sys K V Q} (hs : SysInv E sys) (op : Op K V Q)
    (hsafe : op.safeApi = true) (hreg : op.regsOk = true) (hop : op.WOk w) :
    (step E R sys op).2.outcome ≠ .ub ∧ SysInv E (step E R sys op).1 ∧
    ((step E R sys op).2.outcome = .ok →
      ∃ lk dec, (step E R sys op).1.w.leaked = sys.w.leaked ++ lk ∧ op.DecOf E sys true dec ∧
        sysLive w sys + wsum w op.inObjs + wsum w (createdOf (step E R sys op).2.events) + wsum w dec =
          sysLive w (step E R sys op).1 + wsum w (op.owned (step E R sys op).2.ret) +
            wsum w (droppedOf (step E R sys op).2.events) + wsum w lk) ∧
    (∀ c, (step E R sys op).2.outcome = .panic c → (c = .inject ∧ sys.w.inject ≠ none) ∨
      ∃ lk dec, (step E R sys op).1.w.leaked = sys.w.leaked ++ lk ∧ op.DecOf E sys false dec ∧
        (step E R sys op).2.ret = .unit ∧
        sysLive w sys + wsum w op.inObjs + wsum w (createdOf (step E R sys op).2.events) + wsum w dec =
          sysLive w (step E R sys op).1 + wsum w (droppedOf (step E R sys op).2.events) + wsum w lk) := by
  obtain ⟨h1, h2, h3⟩ := step_scons (w := w) E hv R hs op hsafe hreg hop
  refine ⟨h1, h2, ?_, ?_⟩
  · intro hok
    rcases h3 with ⟨hp, _⟩ | ⟨lk, dec, hl, hd, he⟩
    · rw [hok] at hp; cases hp
    · rw [hok] at hd
      exact ⟨lk, dec, hl, hd, he⟩
  · intro c hc
    rcases h3 with ⟨hp, ha⟩ | ⟨lk, dec, hl, hd, he⟩
    · rw [hc] at hp
      injection hp with hp
      exact Or.inl ⟨hp, ha⟩
    · rw [hc] at hd
      have hret := step_ret_panic E R sys op hc
      refine Or.inr ⟨lk, dec, hl, hd, hret, ?_⟩
      unfold StepEq at he
      rw [hret, Op.owned_unit] at he
      omega

/-- **The ledger over every history** (no injection: every step balances exactly).  From `new()`
    registers of any capacities, a world in which no fault is armed, ANY user equality, for every list
    of safe operations (none of them `inject`) over the existing registers and every weighting
    admissible for their in-place writes: no step reaches `ub`, and

        Σ w(passed in) + Σ w(created) + Σ w(decoded)
          = sysLive w (final state) + Σ w(handed back) + Σ w(dropped) + Σ w(leaked)

    summed over all steps (`runIn`, `runCreated`, `runOwned`, `runDropped`; `DecRun`: the decode results
    of the `serde` steps; `lk`: what `World.leaked` grew by).  With `w` the indicator of one object:
    an object passed in or created once is, at the end, in exactly one place — a live slot, the
    caller's hands, the drop log (once), or the leak list. -/
theorem run_ledger (capM capS : Nat → Nat) (w0 : World K V Q) (hb : Benign w0) (ops : List (Op K V Q))
    (w : Obj K V → Nat) (hv : HV E w)
    (hops : ∀ op ∈ ops, op.safeApi = true ∧ op.regsOk = true ∧ op.WOk w ∧ ∀ j, op ≠ .inject j) :
    (∀ o ∈ (run E R (Sys.init capM capS w0) ops).2, o.outcome ≠ .ub) ∧
    ∃ lk dec, (run E R (Sys.init capM capS w0) ops).1.w.leaked = w0.leaked ++ lk ∧
      DecRun E R (Sys.init capM capS w0) ops dec ∧
      wsum w (runIn ops) + wsum w (runCreated (run E R (Sys.init capM capS w0) ops).2) + wsum w dec =
        sysLive w (run E R (Sys.init capM capS w0) ops).1 +
          wsum w (runOwned ops (run E R (Sys.init capM capS w0) ops).2) +
          wsum w (runDropped (run E R (Sys.init capM capS w0) ops).2) + wsum w lk := by
  have hs := SysInv.init E capM capS w0
  refine ⟨(run_inv E R ops _ hs (fun op ho => (hops op ho).1)).1, ?_⟩
  rcases run_bal_init (w := w) E hv R capM capS w0 ops
      (fun op ho => ⟨(hops op ho).1, (hops op ho).2.1, (hops op ho).2.2.1⟩) with hinj | h
  · exact absurd hinj (not_injectedRun E R ops _ hs hb.1 (fun op ho => ⟨(hops op ho).1, (hops op ho).2.2.2⟩))
  · exact h

/-- … with injections allowed (any world, `inject` operations in the history): either some step
    unwound from an injected panic (then nothing is claimed), or the same equation holds. -/
theorem run_ledger_inj (capM capS : Nat → Nat) (w0 : World K V Q) (ops : List (Op K V Q))
    (w : Obj K V → Nat) (hv : HV E w) (hops : ∀ op ∈ ops, op.safeApi = true ∧ op.regsOk = true ∧ op.WOk w) :
    (∃ o ∈ (run E R (Sys.init capM capS w0) ops).2, o.outcome = .panic .inject) ∨
    ∃ lk dec, (run E R (Sys.init capM capS w0) ops).1.w.leaked = w0.leaked ++ lk ∧
      DecRun E R (Sys.init capM capS w0) ops dec ∧
      wsum w (runIn ops) + wsum w (runCreated (run E R (Sys.init capM capS w0) ops).2) + wsum w dec =
        sysLive w (run E R (Sys.init capM capS w0) ops).1 +
          wsum w (runOwned ops (run E R (Sys.init capM capS w0) ops).2) +
          wsum w (runDropped (run E R (Sys.init capM capS w0) ops).2) + wsum w lk :=
  (run_bal_init (w := w) E hv R capM capS w0 ops hops).imp_left (injectedRun_out E R ops _)

theorem endCase_ok (w : Obj K V → Nat) : (Op.endCase : Op K V Q).safeApi = true ∧ (Op.endCase : Op K V Q).regsOk = true ∧
    (Op.endCase : Op K V Q).WOk w ∧ ∀ j, (Op.endCase : Op K V Q) ≠ .inject j :=
  ⟨rfl, rfl, trivial, fun _ h => by cases h⟩

/-- **Each element is destroyed exactly once unless it was handed to the caller or forgotten.**
    The history of `run_ledger` followed by `endCase` (the drop of every register): the last step
    returns, the registers are empty afterwards (`sysLive = 0`), so EVERYTHING passed in, created or
    decoded during the history was handed back, dropped (it is in the drop log of some step, once),
    or is listed in the last step's `Out.leaks` (= `World.leaked ++ allGarbage` = everything ever
    leaked: forgotten containers, iterators and drains, values lost when a `Drop` unwinds, slots
    overwritten while live). -/
theorem run_and_drop_ledger (capM capS : Nat → Nat) (w0 : World K V Q) (hb : Benign w0) (ops : List (Op K V Q))
    (w : Obj K V → Nat) (hv : HV E w)
    (hops : ∀ op ∈ ops, op.safeApi = true ∧ op.regsOk = true ∧ op.WOk w ∧ ∀ j, op ≠ .inject j) :
    (∀ o ∈ (run E R (Sys.init capM capS w0) (ops ++ [.endCase])).2, o.outcome ≠ .ub) ∧
    ∃ last lk dec, (run E R (Sys.init capM capS w0) (ops ++ [.endCase])).2.getLast? = some last ∧
      last.outcome = .ok ∧ last.leaks = w0.leaked ++ lk ∧
      sysLive w (run E R (Sys.init capM capS w0) (ops ++ [.endCase])).1 = 0 ∧
      DecRun E R (Sys.init capM capS w0) (ops ++ [.endCase]) dec ∧
      wsum w (runIn (ops ++ [.endCase])) + wsum w (runCreated (run E R (Sys.init capM capS w0) (ops ++ [.endCase])).2) +
          wsum w dec =
        wsum w (runOwned (ops ++ [.endCase]) (run E R (Sys.init capM capS w0) (ops ++ [.endCase])).2) +
          wsum w (runDropped (run E R (Sys.init capM capS w0) (ops ++ [.endCase])).2) + wsum w lk := by
  have hops' : ∀ op ∈ ops ++ [Op.endCase], op.safeApi = true ∧ op.regsOk = true ∧ op.WOk w ∧ ∀ j, op ≠ .inject j := by
    intro op ho
    rcases List.mem_append.mp ho with h | h
    · exact hops op h
    · have : op = .endCase := by simpa using h
      subst this
      exact endCase_ok w
  obtain ⟨hub, lk, dec, hl, hd, he⟩ := run_ledger E R capM capS w0 hb (ops ++ [.endCase]) w hv hops'
  refine ⟨hub, ?_⟩
  obtain ⟨hfin, hlast, g1, g3, g4⟩ := run_endCase (w := w) E hv R (SysInv.init E capM capS w0) ops
    (fun op ho => (hops op ho).1)
  refine ⟨_, lk, dec, hlast, g1, ?_, ?_, hd, ?_⟩
  · rw [g4, ← hfin, hl]
  · rw [hfin]; exact g3
  · rw [hfin, g3] at he
    omega

/-- … with injections allowed: `endCase` disarms the fault before it drops, so the last step always
    returns and empties the registers; either some earlier step unwound from an injected panic, or
    the equation of `run_and_drop_ledger` holds. -/
theorem run_and_drop_ledger_inj (capM capS : Nat → Nat) (w0 : World K V Q) (ops : List (Op K V Q))
    (w : Obj K V → Nat) (hv : HV E w) (hops : ∀ op ∈ ops, op.safeApi = true ∧ op.regsOk = true ∧ op.WOk w) :
    sysLive w (run E R (Sys.init capM capS w0) (ops ++ [.endCase])).1 = 0 ∧
    ((∃ o ∈ (run E R (Sys.init capM capS w0) (ops ++ [.endCase])).2, o.outcome = .panic .inject) ∨
    ∃ lk dec, (run E R (Sys.init capM capS w0) (ops ++ [.endCase])).1.w.leaked = w0.leaked ++ lk ∧
      DecRun E R (Sys.init capM capS w0) (ops ++ [.endCase]) dec ∧
      wsum w (runIn (ops ++ [.endCase])) + wsum w (runCreated (run E R (Sys.init capM capS w0) (ops ++ [.endCase])).2) +
          wsum w dec =
        wsum w (runOwned (ops ++ [.endCase]) (run E R (Sys.init capM capS w0) (ops ++ [.endCase])).2) +
          wsum w (runDropped (run E R (Sys.init capM capS w0) (ops ++ [.endCase])).2) + wsum w lk) := by
  have hops' : ∀ op ∈ ops ++ [Op.endCase], op.safeApi = true ∧ op.regsOk = true ∧ op.WOk w := by
    intro op ho
    rcases List.mem_append.mp ho with h | h
    · exact hops op h
    · have : op = .endCase := by simpa using h
      subst this
      exact ⟨rfl, rfl, trivial⟩
  obtain ⟨hfin, _, _, g3, _⟩ := run_endCase (w := w) E hv R (SysInv.init E capM capS w0) ops
    (fun op ho => (hops op ho).1)
  refine ⟨by rw [hfin]; exact g3, ?_⟩
  rcases run_ledger_inj E R capM capS w0 (ops ++ [.endCase]) w hv hops' with h | ⟨lk, dec, hl, hd, he⟩
  · exact Or.inl h
  · refine Or.inr ⟨lk, dec, hl, hd, ?_⟩
    rw [hfin, g3] at he
    omega

/-! ### the operation language contains the multi-register operations; a concrete run balances -/

example : (Op.map 0 (.clone_to 1) : Op K V Q).safeApi = true := rfl
example : (Op.map 0 (.eq 1) : Op K V Q).safeApi = true := rfl
example : (Op.map 0 (.serde 1) : Op K V Q).safeApi = true := rfl
example (xs : List (K × V)) : (Op.map 1 (.from_iter true xs) : Op K V Q).safeApi = true := rfl
example : (Op.set 0 (.alg .symmetric_difference 1 [.next, .clone, .fold]) : Op K V Q).safeApi = true := rfl
example : (Op.set 0 (.sub 1 0) : Op K V Q).safeApi = true := rfl
example : (Op.set 1 (.serde 0) : Op K V Q).safeApi = true := rfl
example : (Op.set 0 (.extend_from 1) : Op K V Q).safeApi = true := rfl
example : (Op.set 0 (.extend_from 1) : Op K V Q).regsOk = true := rfl
example : (Op.set 0 (.extend_from 2) : Op K V Q).regsOk = false := rfl
example : (Op.set 0 (.extend_from 1) : Op K V Q).inObjs = [] := rfl
example (w : Obj K V → Nat) : (Op.set 0 (.extend_from 1) : Op K V Q).WOk w := trivial
example (k : K) : (Op.umap 0 (.entry k [] .occ_remove_entry) : Op K V Q).safeApi = true := rfl
example : (Op.map 0 (.clone_to 1) : Op K V Q).regsOk = true := rfl
example : (Op.set 0 (.sub 1 0) : Op K V Q).regsOk = true := rfl
example : (Op.map 0 (.clone_to 2) : Op K V Q).regsOk = false := rfl

/-- `u64` keys and values with the derived `==`; `clone` and `deserialize` make objects with fresh
    identities (`+ 1000 · (id + 1)`). -/
def sysEnv0 : Env Nat Nat Nat :=
  { eqK := fun _ a b => a == b, eqQ := fun _ a b => a == b, eqV := fun a b => a == b, borrow := id,
    clK := fun n k => k + 1000 * (n + 1), clV := fun n v => v + 1000 * (n + 1) }

def sysR0 : Render Nat Nat :=
  { dbgK := fun _ _ => "", dbgV := fun _ _ => "", dspK := fun _ => "", dspV := fun _ => "" }

/-- a history over three of the four registers: an insert, a clone into `maps 1`, `==` of the two
    maps, a `remove` in the clone, `from_iter` with a duplicate into `sets 1`, `&sets 1 - &sets 0`
    assigned to `sets 0`, a serde round trip of `maps 0` into `maps 1` (whose old content is dropped), a
    `drain` of `maps 1` that yields nothing and is FORGOTTEN, `endCase`. -/
def sysOps0 : List (Op Nat Nat Nat) :=
  [.map 0 (.insert 1 10), .map 0 (.clone_to 1), .map 0 (.eq 1), .map 1 (.remove (.key 1001)),
   .set 1 (.from_iter false [5, 6, 5]), .set 1 (.sub 0 0), .map 0 (.serde 1), .map 1 (.drain 0 true), .endCase]

example : ∀ op ∈ sysOps0, op.safeApi = true ∧ op.regsOk = true := by decide

/-- what `Op.DecOf` says: with the id counter at 4, decoding the entry `(1, 10)` creates the key with
    id 4 and the value with id 5. -/
example : OwnSys.DecOf sysEnv0 true 4 [(1, 10)] [.k (sysEnv0.clK 4 1), .v (sysEnv0.clV 5 10)] :=
  .cons true 4 1 10 (.done true _)

/-- the history writes nothing in place: EVERY weighting is admissible (`Op.WOk_of_noWrite`). -/
example (w : Obj Nat Nat → Nat) : ∀ op ∈ sysOps0, op.WOk w := by
  intro op hop
  apply Op.WOk_of_noWrite
  simp only [sysOps0, List.mem_cons, List.mem_nil_iff, or_false] at hop
  rcases hop with rfl | rfl | rfl | rfl | rfl | rfl | rfl | rfl | rfl <;> exact trivial

/-- a weighting by the identity of keys is admissible for operations that write through `&mut V`. -/
example : (Op.map 0 (.entry 1 [(· + 1)] (.occ_get_mut (· * 2))) : Op Nat Nat Nat).WOk
    (fun o => match o with | .k k => k + 1 | .v _ => 0) := by
  simp [Op.WOk, MapOp.WOk, Own.finWOk]

/-- the numbers of the ledger for that history, every object counting 1. -/
def sysNumbers0 : List Nat :=
  let r := run sysEnv0 sysR0 (Sys.init (fun _ => 1) (fun _ => 2) {}) sysOps0
  [sysLive (fun _ => 1) r.1, (runIn sysOps0).length, (runCreated r.2).length, r.1.w.nextId,
    (runOwned sysOps0 r.2).length, (runDropped r.2).length, r.1.w.leaked.length]

/-- 5 objects passed in, 4 cloned, 2 decoded (the id counter ends at 6 = 4 + 2); no live slot at the
    end, 1 handed back (the removed value), 8 dropped, 2 leaked (the pair the forgotten `Drain` left
    behind, unreachable until `endCase` forgets it): 5 + 4 + 2 = 0 + 1 + 8 + 2. -/
example : sysNumbers0 = [0, 5, 4, 6, 1, 8, 2] := by decide +kernel

/-- `a.extend(b)` with the set `b` moved in (`extend_from`), capacity 2 each: `a = {5, 6}`,
    `b = {6, 7}`; the consuming iterator yields `7` first, which finds `a` full: the step unwinds with
    the container's own overflow panic, `insert` drops `7`, the rest of `b` (`6`) is dropped with the
    iterator.  The step passes nothing in (`Op.inObjs = []`: the objects are those of register `b`). -/
def sysOps1 : List (Op Nat Nat Nat) :=
  [.set 0 (.from_iter false [5, 6]), .set 1 (.from_iter false [6, 7]), .set 0 (.extend_from 1), .endCase]

example : ∀ op ∈ sysOps1, op.safeApi = true ∧ op.regsOk = true := by decide

def sysNumbers1 : List Nat :=
  let r := run sysEnv0 sysR0 (Sys.init (fun _ => 1) (fun _ => 2) {}) sysOps1
  [sysLive (fun _ => 1) r.1, (runIn sysOps1).length, (runCreated r.2).length,
    (runOwned sysOps1 r.2).length, (runDropped r.2).length, r.1.w.leaked.length] ++
  r.2.map fun o => (droppedOf o.events).length

/-- 4 keys passed in, none created; at the end no live slot, nothing handed back, 4 dropped — 2 of them
    by the overflowing `extend_from` step (the surplus key and the rest of the source), 2 by `endCase` —,
    nothing leaked: 4 + 0 = 0 + 0 + 4 + 0. -/
example : sysNumbers1 = [0, 4, 0, 0, 4, 0, 0, 0, 2, 2] := by decide +kernel
example : ((run sysEnv0 sysR0 (Sys.init (fun _ => 1) (fun _ => 2) {}) sysOps1).2.map (·.outcome)) =
    [.ok, .ok, .panic .overflow, .ok] := by decide +kernel

end SysLedger

end Micromap.Props.C02
