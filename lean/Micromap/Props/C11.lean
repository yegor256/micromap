/-
C11 — The Entry API is equivalent to the corresponding direct map operations.

Property theorems only (helper triples live in `Micromap/Proofs/EntryOps.lean`).  All
statements are about the L0 model functions of `Micromap/Model/Entry.lean` / `Map.lean`.
An entry is the data it carries (`EntryS.occ i` / `EntryS.vac key`); a "returned reference"
is the slot position it points to.
-/
import Micromap.Proofs.EntryOps

namespace Micromap.Props.C11
open Micromap Micromap.EntryOps
open Micromap.Dict (swapRemove lookupP)
open Micromap.SetAlg (NodupKeys)
variable {K V Q : Type} (E : Env K V Q)

/-- In a world where no injected fault is armed an operation cannot unwind by injection. -/
theorem no_inj {s s' : St K V Q} {c} (hb : Benign s.w) (h : InjPanic s s' c) : False := h.not_benign hb

/-! ### `entry(k)` is Occupied exactly when `k` is present -/

/-- present key: `entry(k)` is `Occupied` at exactly the slot the scan (`get`, `contains_key`)
    finds; the supplied key is dropped and nothing else happens. -/
theorem entry_occupied (hE : E.Pure) {s : St K V Q} {l : List (K × V)} (hr : Rep s.r l)
    (hb : Benign s.w) (k : K) {i} (hf : findKey E l (.key k) = some i) :
    ∃ s', entry E k s = .ok (.occ i) s' ∧ s'.r = s.r ∧ WRel s.w s'.w [.dropK k] := by
  have h := entry_benign E hE hr hb k
  rw [hf] at h
  exact h.2

/-- absent key: `entry(k)` is `Vacant` and owns the key; no effect at all. -/
theorem entry_vacant (hE : E.Pure) {s : St K V Q} {l : List (K × V)} (hr : Rep s.r l)
    (hb : Benign s.w) (k : K) (hf : findKey E l (.key k) = none) :
    ∃ s', entry E k s = .ok (.vac k) s' ∧ s'.r = s.r ∧ WRel s.w s'.w [] := by
  have h := entry_benign E hE hr hb k
  rwa [hf] at h

/-- `entry(k)` is `Occupied` exactly when `contains_key(k)` answers `true` on the same state,
    and then its index is the slot of the key. -/
theorem entry_occupied_iff_contains_key (hE : E.Pure) {s : St K V Q} {l : List (K × V)} (hr : Rep s.r l)
    (hb : Benign s.w) (k : K) :
    ∃ e s1 b s2, entry E k s = .ok e s1 ∧ contains_key E (.key k) s = .ok b s2 ∧
      (b = true ↔ ∃ i, e = .occ i) ∧ (∀ i, e = .occ i ↔ findKey E l (.key k) = some i) := by
  obtain ⟨s2, hc, _, _⟩ := contains_key_benign E hE hr hb (.key k)
  cases hf : findKey E l (.key k) with
  | some i =>
    obtain ⟨s1, h1, _, _⟩ := entry_occupied E hE hr hb k hf
    exact ⟨_, s1, _, s2, h1, hc, by simp [hf], fun j => by simp⟩
  | none =>
    obtain ⟨s1, h1, _, _⟩ := entry_vacant E hE hr hb k hf
    exact ⟨_, s1, _, s2, h1, hc, by simp [hf], fun j => by simp⟩

/-! ### `or_insert`, `or_insert_with` (`or_insert_with_key`, `or_default`) -/

/-- occupied: `or_insert_with` does NOT run its closure (the only effect of the whole chain is the
    drop of the supplied key — no `call` event), leaves the container untouched and returns the
    slot of the present key. -/
theorem entry_or_insert_with_occupied (hE : E.Pure) {s : St K V Q} {l : List (K × V)} (hr : Rep s.r l)
    (hb : Benign s.w) (k : K) (tag : Nat) (mk : V) {i} (hf : findKey E l (.key k) = some i) :
    ∃ s', (entry E k >>= or_insert_with E tag mk) s = .ok i s' ∧ s'.r = s.r ∧
      WRel s.w s'.w [.dropK k] := by
  obtain ⟨s1, h1, hs, hw⟩ := entry_occupied E hE hr hb k hf
  refine ⟨s1, ?_, hs, hw⟩
  exact (bind_ok h1).trans (or_insert_with_occ E (hs ▸ hr) tag mk (findKey_lt E hf))

/-- vacant, with room: the closure runs exactly once (`[call tag]` is the whole trace), the pair
    `(k, mk)` is appended exactly as by `insert` (`Rep s'.r (l ++ [(k, mk)])`), and the returned
    reference is the new slot `len`. -/
theorem entry_or_insert_with_vacant (hE : E.Pure) {s : St K V Q} {l : List (K × V)} (hr : Rep s.r l)
    (hb : Benign s.w) (k : K) (tag : Nat) (mk : V) (hf : findKey E l (.key k) = none)
    (hroom : l.length < s.r.cap) :
    ∃ s', (entry E k >>= or_insert_with E tag mk) s = .ok l.length s' ∧
      Rep s'.r (l ++ [(k, mk)]) ∧ s'.r.cap = s.r.cap ∧ WRel s.w s'.w [.call tag] := by
  obtain ⟨s1, h1, hs1, hw1⟩ := entry_vacant E hE hr hb k hf
  obtain ⟨s2, h2, hs2, hw2⟩ := or_insert_with_vac_benign E (hw1.benign hb) tag mk k
  have hs := hs2.trans hs1
  have hw := hw1.trans hw2
  obtain ⟨s3, h3, hrep, hc, hw3⟩ :=
    vacant_insert_room E hE (hs ▸ hr) (hw.benign hb) k mk hf (hs ▸ hroom)
  refine ⟨s3, ?_, hrep, hc.trans (by rw [hs]), hw.trans hw3⟩
  exact (bind_ok h1).trans (h2.trans h3)

/-- vacant on a full map: the closure still runs once, then the overflow panic of `insert`, with
    the container untouched and the produced value and the key dropped. -/
theorem entry_or_insert_with_full (hE : E.Pure) {s : St K V Q} {l : List (K × V)} (hr : Rep s.r l)
    (hb : Benign s.w) (k : K) (tag : Nat) (mk : V) (hf : findKey E l (.key k) = none)
    (hfull : l.length = s.r.cap) :
    ∃ c s', (entry E k >>= or_insert_with E tag mk) s = .panic c s' ∧ s'.r = s.r ∧
      OverflowPanic s c ∧ WRel s.w s'.w (.call tag :: (dropVTr E mk ++ [.dropK k])) := by
  obtain ⟨s1, h1, hs1, hw1⟩ := entry_vacant E hE hr hb k hf
  obtain ⟨s2, h2, hs2, hw2⟩ := or_insert_with_vac_benign E (hw1.benign hb) tag mk k
  have hs := hs2.trans hs1
  have hw := hw1.trans hw2
  obtain ⟨c, s3, h3, hs3, ho, hw3⟩ :=
    vacant_insert_full E hE (hs ▸ hr) (hw.benign hb) k mk hf (hs ▸ hfull)
  refine ⟨c, s3, ?_, hs3.trans hs, ho.after hw, hw.trans hw3⟩
  exact (bind_ok h1).trans (h2.trans h3)

/-- occupied: `or_insert` inserts nothing; the supplied key and the unused default are dropped,
    the container is untouched and the slot of the present key is returned. -/
theorem entry_or_insert_occupied (hE : E.Pure) {s : St K V Q} {l : List (K × V)} (hr : Rep s.r l)
    (hb : Benign s.w) (k : K) (d : V) {i} (hf : findKey E l (.key k) = some i) :
    ∃ s', (entry E k >>= or_insert E d) s = .ok i s' ∧ s'.r = s.r ∧
      WRel s.w s'.w (.dropK k :: dropVTr E d) := by
  obtain ⟨s1, h1, hs, hw⟩ := entry_occupied E hE hr hb k hf
  obtain ⟨s2, h2, hs2, hw2⟩ :=
    or_insert_occ_benign E (hs ▸ hr) (hw.benign hb) d (findKey_lt E hf)
  refine ⟨s2, ?_, hs2.trans hs, hw.trans hw2⟩
  exact (bind_ok h1).trans h2

/-- vacant, with room: `or_insert` appends `(k, d)` exactly as `insert` does and returns the new
    slot; no drop, no other effect. -/
theorem entry_or_insert_vacant (hE : E.Pure) {s : St K V Q} {l : List (K × V)} (hr : Rep s.r l)
    (hb : Benign s.w) (k : K) (d : V) (hf : findKey E l (.key k) = none)
    (hroom : l.length < s.r.cap) :
    ∃ s', (entry E k >>= or_insert E d) s = .ok l.length s' ∧
      Rep s'.r (l ++ [(k, d)]) ∧ s'.r.cap = s.r.cap ∧ WRel s.w s'.w [] := by
  obtain ⟨s1, h1, hs, hw⟩ := entry_vacant E hE hr hb k hf
  obtain ⟨s2, h2, hrep, hc, hw2⟩ :=
    vacant_insert_room E hE (hs ▸ hr) (hw.benign hb) k d hf (hs ▸ hroom)
  refine ⟨s2, ?_, hrep, hc.trans (by rw [hs]), hw.trans hw2⟩
  exact (bind_ok h1).trans h2

/-- vacant on a full map: the overflow panic of `insert`, container untouched, both dropped. -/
theorem entry_or_insert_full (hE : E.Pure) {s : St K V Q} {l : List (K × V)} (hr : Rep s.r l)
    (hb : Benign s.w) (k : K) (d : V) (hf : findKey E l (.key k) = none)
    (hfull : l.length = s.r.cap) :
    ∃ c s', (entry E k >>= or_insert E d) s = .panic c s' ∧ s'.r = s.r ∧
      OverflowPanic s c ∧ WRel s.w s'.w (dropVTr E d ++ [.dropK k]) := by
  obtain ⟨s1, h1, hs, hw⟩ := entry_vacant E hE hr hb k hf
  obtain ⟨c, s2, h2, hs2, ho, hw2⟩ :=
    vacant_insert_full E hE (hs ▸ hr) (hw.benign hb) k d hf (hs ▸ hfull)
  refine ⟨c, s2, ?_, hs2.trans hs, ho.after hw, hw.trans hw2⟩
  exact (bind_ok h1).trans h2

theorem overflowPanic_unique {s : St K V Q} {c c'} (h : OverflowPanic s c) (h' : OverflowPanic s c') :
    c = c' := h.unique h'

/-- `map.entry(k).or_insert(v)` ≡ `if contains_key(k) { get_mut(k) } else { insert(k, v);
    get_mut(k) }` (`direct_or_insert`, composed of the model's own `contains_key`, `insert`,
    `get_mut`): from the same state both return the same slot and leave the same list of
    entries — or both panic with the same overflow class and the container untouched. -/
theorem entry_or_insert_eq_direct (hE : E.Lawful) {s : St K V Q} {l : List (K × V)} (hr : Rep s.r l)
    (hb : Benign s.w) (k : K) (v : V) :
    (∃ i l' s1 s2, (entry E k >>= or_insert E v) s = .ok i s1 ∧
        direct_or_insert E k v s = .ok (some i) s2 ∧ Rep s1.r l' ∧ Rep s2.r l' ∧
        s1.r.cap = s.r.cap ∧ s2.r.cap = s.r.cap) ∨
    (∃ c s1 s2, (entry E k >>= or_insert E v) s = .panic c s1 ∧
        direct_or_insert E k v s = .panic c s2 ∧ s1.r = s.r ∧ s2.r = s.r ∧ OverflowPanic s c) :=
  eq_direct_or_insert E hE hr hb k v (entry_or_insert_occupied E hE.toPure hr hb k v)
    (entry_or_insert_vacant E hE.toPure hr hb k v) (entry_or_insert_full E hE.toPure hr hb k v)

/-- the same equivalence for `or_insert_with(f)` where `f` returns `mk`. -/
theorem entry_or_insert_with_eq_direct (hE : E.Lawful) {s : St K V Q} {l : List (K × V)}
    (hr : Rep s.r l) (hb : Benign s.w) (k : K) (tag : Nat) (mk : V) :
    (∃ i l' s1 s2, (entry E k >>= or_insert_with E tag mk) s = .ok i s1 ∧
        direct_or_insert E k mk s = .ok (some i) s2 ∧ Rep s1.r l' ∧ Rep s2.r l' ∧
        s1.r.cap = s.r.cap ∧ s2.r.cap = s.r.cap) ∨
    (∃ c s1 s2, (entry E k >>= or_insert_with E tag mk) s = .panic c s1 ∧
        direct_or_insert E k mk s = .panic c s2 ∧ s1.r = s.r ∧ s2.r = s.r ∧ OverflowPanic s c) :=
  eq_direct_or_insert E hE hr hb k mk (entry_or_insert_with_occupied E hE.toPure hr hb k tag mk)
    (entry_or_insert_with_vacant E hE.toPure hr hb k tag mk)
    (entry_or_insert_with_full E hE.toPure hr hb k tag mk)

/-! ### `and_modify` -/

/-- occupied: `and_modify` runs its closure exactly once and replaces exactly the value of the
    found slot by `g` of it — the same final list as `get_mut(k)` followed by the write. -/
theorem entry_and_modify_occupied (hE : E.Pure) {s : St K V Q} {l : List (K × V)} (hr : Rep s.r l)
    (hb : Benign s.w) (k : K) (g : V → V) {i} (hf : findKey E l (.key k) = some i) :
    ∃ (hi : i < l.length) (s' : St K V Q), (entry E k >>= and_modify g) s = .ok (.occ i) s' ∧
      Rep s'.r (l.set i (l[i].1, g l[i].2)) ∧ s'.r.cap = s.r.cap ∧
      WRel s.w s'.w [.dropK k, .call 1] := by
  obtain ⟨s1, h1, hs, hw⟩ := entry_occupied E hE hr hb k hf
  have hi := (findKey_lt E hf)
  obtain ⟨s2, h2, hrep, hc, hw2⟩ := and_modify_occ_benign (hs ▸ hr) (hw.benign hb) g hi
  refine ⟨hi, s2, ?_, hrep, hc.trans (by rw [hs]), hw.trans hw2⟩
  exact (bind_ok h1).trans h2

/-- vacant: `and_modify` does not run its closure and changes nothing; the entry stays vacant. -/
theorem entry_and_modify_vacant (hE : E.Pure) {s : St K V Q} {l : List (K × V)} (hr : Rep s.r l)
    (hb : Benign s.w) (k : K) (g : V → V) (hf : findKey E l (.key k) = none) :
    ∃ s', (entry E k >>= and_modify g) s = .ok (.vac k) s' ∧ s'.r = s.r ∧ WRel s.w s'.w [] := by
  obtain ⟨s1, h1, hs, hw⟩ := entry_vacant E hE hr hb k hf
  refine ⟨s1, ?_, hs, hw⟩
  exact bind_ok h1

/-- `and_modify` agrees with the direct `get_mut(k)` + write: same final list. -/
theorem entry_and_modify_eq_get_mut (hE : E.Pure) {s : St K V Q} {l : List (K × V)} (hr : Rep s.r l)
    (hb : Benign s.w) (k : K) (g : V → V) :
    ∃ e s1 o s2 l', (entry E k >>= and_modify g) s = .ok e s1 ∧ get_mut E (.key k) g s = .ok o s2 ∧
      Rep s1.r l' ∧ Rep s2.r l' ∧ (∀ i, e = .occ i ↔ o.map (·.1) = some i) := by
  have hg := get_mut_benign E hE hr hb (.key k) g
  cases hf : findKey E l (.key k) with
  | some i =>
    rw [hf] at hg
    obtain ⟨_, s2, h2, hrep2, _, _⟩ := hg
    obtain ⟨_, s1, h1, hrep, _, _⟩ := entry_and_modify_occupied E hE hr hb k g hf
    exact ⟨_, s1, _, s2, _, h1, h2, hrep, hrep2, fun i' => by simp [eq_comm]⟩
  | none =>
    rw [hf] at hg
    obtain ⟨s2, h2, hs2, _⟩ := hg
    obtain ⟨s1, h1, hs1, _⟩ := entry_and_modify_vacant E hE hr hb k g hf
    exact ⟨_, s1, _, s2, l, h1, h2, hs1 ▸ hr, hs2 ▸ hr, fun i' => by simp⟩

/-! ### `OccupiedEntry` methods ≡ the direct operation on that key

The hypothesis `findKey E l pr = some i` is what `entry` established for `pr = .key k`; by
`findKey_self` every valid index is found by its own stored key. -/

/-- every live slot is found by its own key (lawful `==`, unique keys). -/
theorem findKey_self (hE : E.Lawful) {l : List (K × V)} (hn : NodupKeys E.keq l) {i}
    (hi : i < l.length) : findKey E l (.key l[i].1) = some i :=
  (findKey_some_iff hE hn _).2 ⟨hi, hE.refl _⟩

/-- `OccupiedEntry::get` / `into_mut` ≡ `get` / `get_key_value`: same slot, same pair, container
    untouched. -/
theorem occ_get_eq_get (hE : E.Pure) {s : St K V Q} {l : List (K × V)} (hr : Rep s.r l)
    (hb : Benign s.w) (pr : Probe K Q) {i} (hf : findKey E l pr = some i) :
    ∃ (hi : i < l.length) (s1 : St K V Q), get E pr s = .ok (some (i, l[i])) s1 ∧ s1.r = s.r ∧
      occ_get i s = .ok l[i] s := by
  have hg := get_benign E hE hr hb pr
  rw [hf] at hg
  obtain ⟨hi, s1, h1, hs, _⟩ := hg
  exact ⟨hi, s1, h1, hs, occ_get_eq hr hi⟩

/-- `OccupiedEntry::key` returns the stored key, the one `get_key_value` returns. -/
theorem occ_key_eq_get (hE : E.Pure) {s : St K V Q} {l : List (K × V)} (hr : Rep s.r l)
    (hb : Benign s.w) (pr : Probe K Q) {i} (hf : findKey E l pr = some i) :
    ∃ (hi : i < l.length) (s1 : St K V Q), get E pr s = .ok (some (i, l[i])) s1 ∧
      entry_key (.occ i) s = .ok l[i].1 s := by
  obtain ⟨hi, s1, h1, _, _⟩ := occ_get_eq_get E hE hr hb pr hf
  exact ⟨hi, s1, h1, entry_key_occ hr hi⟩

/-- `OccupiedEntry::get_mut` + write ≡ `get_mut` + write: same returned pair, same final list,
    which differs from `l` only at index `i`. -/
theorem occ_get_mut_eq_get_mut (hE : E.Pure) {s : St K V Q} {l : List (K × V)} (hr : Rep s.r l)
    (hb : Benign s.w) (pr : Probe K Q) (g : V → V) {i} (hf : findKey E l pr = some i) :
    ∃ (hi : i < l.length) (s1 s2 : St K V Q),
      get_mut E pr g s = .ok (some (i, (l[i].1, g l[i].2))) s1 ∧
      occ_get_mut i g s = .ok (l[i].1, g l[i].2) s2 ∧
      Rep s1.r (l.set i (l[i].1, g l[i].2)) ∧ Rep s2.r (l.set i (l[i].1, g l[i].2)) ∧
      s2.w = s.w := by
  have hg := get_mut_benign E hE hr hb pr g
  rw [hf] at hg
  obtain ⟨hi, s1, h1, hrep, _, _⟩ := hg
  exact ⟨hi, s1, _, h1, occ_get_mut_eq hr hi g, hrep, by simpa using hr.set hi _, rfl⟩

/-- `OccupiedEntry::insert(v)` ≡ `insert(k, v)` on the present key: the old value is returned and
    the value of slot `i` is replaced (the stored key stays); no other slot changes. -/
theorem occ_insert_eq_insert (hE : E.Pure) {s : St K V Q} {l : List (K × V)} (hr : Rep s.r l)
    (hb : Benign s.w) (k : K) (v : V) {i} (hf : findKey E l (.key k) = some i) :
    ∃ (hi : i < l.length) (s1 s2 : St K V Q),
      insert E k v s = .ok (some l[i].2) s1 ∧ occ_insert E i v s = .ok l[i].2 s2 ∧
      Rep s1.r (l.set i (l[i].1, v)) ∧ Rep s2.r (l.set i (l[i].1, v)) ∧ s2.w = s.w := by
  have hg := insert_benign E hE hr hb k v
  rw [hf] at hg
  obtain ⟨hi, s1, h1, hrep, _, _⟩ := hg
  exact ⟨hi, s1, _, h1, occ_insert_eq E hr hi v, hrep, by simpa using hr.set hi _, rfl⟩

/-- `OccupiedEntry::remove` ≡ `remove`: same returned value, same final list (`swapRemove l i`:
    both go through `remove_index_read`), same effect (the stored key is dropped). -/
theorem occ_remove_eq_remove (hE : E.Pure) {s : St K V Q} {l : List (K × V)} (hr : Rep s.r l)
    (hb : Benign s.w) (pr : Probe K Q) {i} (hf : findKey E l pr = some i) :
    ∃ (hi : i < l.length) (s1 s2 : St K V Q),
      remove E pr s = .ok (some l[i].2) s1 ∧ occ_remove i s = .ok l[i].2 s2 ∧
      Rep s1.r (swapRemove l i) ∧ Rep s2.r (swapRemove l i) ∧
      WRel s.w s1.w [.dropK l[i].1] ∧ WRel s.w s2.w [.dropK l[i].1] := by
  have hg := remove_benign E hE hr hb pr
  rw [hf] at hg
  obtain ⟨hi, s1, h1, hrep, _, hw⟩ := hg
  obtain ⟨v, s2, g1, rfl, g2, _, g3⟩ := (occ_remove_sat (Q := Q) hr hi).must_return
    (fun c s' h => no_inj hb h.2.2)
  exact ⟨hi, s1, s2, h1, g1, hrep, g2, hw, g3⟩

/-- `OccupiedEntry::remove_entry` ≡ `remove_entry`: same returned pair, same final list, no
    callback. -/
theorem occ_remove_entry_eq_remove_entry (hE : E.Pure) {s : St K V Q} {l : List (K × V)}
    (hr : Rep s.r l) (hb : Benign s.w) (pr : Probe K Q) {i} (hf : findKey E l pr = some i) :
    ∃ (hi : i < l.length) (s1 s2 : St K V Q),
      remove_entry E pr s = .ok (some l[i]) s1 ∧ occ_remove_entry i s = .ok l[i] s2 ∧
      Rep s1.r (swapRemove l i) ∧ Rep s2.r (swapRemove l i) ∧ WRel s.w s2.w [] := by
  have hg := remove_entry_benign E hE hr hb pr
  rw [hf] at hg
  obtain ⟨hi, s1, h1, hrep, _, _⟩ := hg
  obtain ⟨p, s2, g1, rfl, g2, _, g3⟩ := (occ_remove_entry_sat (Q := Q) hr hi
    (P := fun _ _ => False)).must_return (fun c s' h => h)
  exact ⟨hi, s1, s2, h1, g1, hrep, g2, g3⟩

/-- `VacantEntry::insert(v)` ≡ `insert(k, v)` of the absent key: the append branch of
    `insert_ii`; the returned reference is the new slot `len`. -/
theorem vacant_insert_eq_insert (hE : E.Pure) {s : St K V Q} {l : List (K × V)} (hr : Rep s.r l)
    (hb : Benign s.w) (k : K) (v : V) (hf : findKey E l (.key k) = none)
    (hroom : l.length < s.r.cap) :
    ∃ s1 s2, insert E k v s = .ok none s1 ∧ vacant_insert E k v s = .ok l.length s2 ∧
      Rep s1.r (l ++ [(k, v)]) ∧ Rep s2.r (l ++ [(k, v)]) ∧
      WRel s.w s1.w [] ∧ WRel s.w s2.w [] := by
  have hg := insert_benign E hE hr hb k v
  rw [hf] at hg
  rcases hg with ⟨_, s1, h1, hrep, _, hw⟩ | ⟨hfull, _⟩
  · obtain ⟨s2, g1, hrep2, _, hw2⟩ := vacant_insert_room E hE hr hb k v hf hroom
    exact ⟨s1, s2, h1, g1, hrep, hrep2, hw, hw2⟩
  · omega

/-! ### frame: no other entry is touched -/

/-- the list after an in-place entry operation differs from `l` only at index `i`. -/
theorem set_frame {l : List (K × V)} {i j : Nat} (p : K × V) (hji : j ≠ i) : (l.set i p)[j]? = l[j]? :=
  List.getElem?_set_ne (Ne.symm hji)

/-- after an in-place value update of slot `i` (`and_modify`, `get_mut`, `OccupiedEntry::insert`,
    `or_insert*`), every lookup that does not hit the key of slot `i` is unchanged, and the
    lookup that hits it finds the same stored key with the new value. -/
theorem lookup_frame_set (hE : E.Lawful) {l : List (K × V)} (hn : NodupKeys E.keq l) {i}
    (hi : i < l.length) (v : V) (pr : Probe K Q) :
    lookupP (E.hitP pr) (l.set i (l[i].1, v)) =
      if E.hitP pr l[i].1 then some (l[i].1, v) else lookupP (E.hitP pr) l :=
  Dict.lookupP_set hE.equivB (hE.probeOK pr) hn hi l[i].1 v (hE.refl _)

/-- after an entry removal, lookups of the removed key find nothing and every other lookup is
    unchanged. -/
theorem lookup_frame_swapRemove (hE : E.Lawful) {l : List (K × V)} (hn : NodupKeys E.keq l) {i}
    (hi : i < l.length) (pr : Probe K Q) :
    lookupP (E.hitP pr) (swapRemove l i) =
      if E.hitP pr l[i].1 then none else lookupP (E.hitP pr) l :=
  Dict.lookupP_swapRemove hE.equivB (hE.probeOK pr) hn hi

/-- after a vacant insertion, every lookup that found something still finds the same pair. -/
theorem lookup_frame_append {l : List (K × V)} (k : K) (v : V) (pr : Probe K Q) {p}
    (h : lookupP (E.hitP pr) l = some p) : lookupP (E.hitP pr) (l ++ [(k, v)]) = some p := by
  rw [Dict.lookupP_append, h]

/-! ### safety: any oracle, any injection point, both profiles -/

/-- `entry` never reaches UB and never changes the container; an occupied result points at a
    live slot. -/
theorem entry_safe {s : St K V Q} {l : List (K × V)} (hr : Rep s.r l) (k : K) :
    Sat (entry E k) s (fun e s' => s'.r = s.r ∧ Valid l e) (fun _ s' => s'.r = s.r) :=
  entry_valid E hr k

/-- `or_insert` on any valid entry: no UB; the container stays well-formed with the same
    capacity and the returned slot is live — whatever `==` answers, wherever a panic is injected. -/
theorem or_insert_safe {s : St K V Q} {l : List (K × V)} (hr : Rep s.r l) (d : V) (e : EntryS K)
    (hv : Valid l e) :
    Sat (or_insert E d e) s
      (fun idx s' => ∃ l', Rep s'.r l' ∧ s'.r.cap = s.r.cap ∧ idx < l'.length)
      (fun _ s' => ∃ l', Rep s'.r l' ∧ s'.r.cap = s.r.cap) := by
  cases e with
  | occ i =>
    refine Sat.mono (or_insert_occ_sat E hr d hv) ?_ ?_
    · intro idx s' ⟨h1, h2, _⟩; subst h1; exact ⟨l, h2 ▸ hr, by rw [h2], hv⟩
    · intro c s' ⟨h1, _⟩; exact ⟨l, h1 ▸ hr, by rw [h1]⟩
  | vac key => exact vacant_insert_safe E hr key d

/-- the same for `or_insert_with` / `or_insert_with_key` / `or_default`. -/
theorem or_insert_with_safe {s : St K V Q} {l : List (K × V)} (hr : Rep s.r l) (tag : Nat) (mk : V)
    (e : EntryS K) (hv : Valid l e) :
    Sat (or_insert_with E tag mk e) s
      (fun idx s' => ∃ l', Rep s'.r l' ∧ s'.r.cap = s.r.cap ∧ idx < l'.length)
      (fun _ s' => ∃ l', Rep s'.r l' ∧ s'.r.cap = s.r.cap) := by
  cases e with
  | occ i => exact Sat.of_ok (or_insert_with_occ E hr tag mk hv) ⟨l, hr, rfl, hv⟩
  | vac key =>
    show Sat (Micromap.unwindWith (dropK key) (callF tag) >>= _) s _ _
    refine Sat.cb (CbOk.unwindWith (dropK_cb key) (callF_cb tag)) ?_ ?_
    · intro _ s1 h1 _ _
      have := vacant_insert_safe E (h1 ▸ hr) key mk
      rwa [h1] at this
    · intro s1 _ h1 _ _ _
      exact ⟨l, h1 ▸ hr, by rw [h1]⟩

/-- `and_modify` on any valid entry: no UB, the result is again a valid entry of a well-formed
    container of the same length; on unwinding the container is untouched. -/
theorem and_modify_safe {s : St K V Q} {l : List (K × V)} (hr : Rep s.r l) (g : V → V) (e : EntryS K)
    (hv : Valid l e) :
    Sat (and_modify (Q := Q) g e) s
      (fun e' s' => ∃ l', Rep s'.r l' ∧ l'.length = l.length ∧ s'.r.cap = s.r.cap ∧ Valid l' e')
      (fun _ s' => s'.r = s.r) := by
  cases e with
  | occ i =>
    refine Sat.mono (and_modify_occ_sat hr g hv) ?_ (fun _ _ h => h.1)
    intro e' s' ⟨h1, h2, h3, _⟩
    subst h1
    exact ⟨_, h3, by simp, h2, by simpa [Valid] using hv⟩
  | vac key => exact Sat.of_ok (and_modify_vac g key s) ⟨l, hr, rfl, rfl, trivial⟩

/-- the whole chain `map.entry(k).or_insert(d)`, any oracle, any injection point: no UB, the
    container stays well-formed with the same capacity, the returned reference is a live slot. -/
theorem entry_or_insert_safe {s : St K V Q} {l : List (K × V)} (hr : Rep s.r l) (k : K) (d : V) :
    Sat (entry E k >>= or_insert E d) s
      (fun idx s' => ∃ l', Rep s'.r l' ∧ s'.r.cap = s.r.cap ∧ idx < l'.length)
      (fun _ s' => ∃ l', Rep s'.r l' ∧ s'.r.cap = s.r.cap) :=
  entry_bind_safe E hr k (Qv := fun idx l' => idx < l'.length) fun _ e hr1 hv => or_insert_safe E hr1 d e hv

/-- the same for `map.entry(k).or_insert_with(f)` / `or_insert_with_key` / `or_default`. -/
theorem entry_or_insert_with_safe {s : St K V Q} {l : List (K × V)} (hr : Rep s.r l) (k : K)
    (tag : Nat) (mk : V) :
    Sat (entry E k >>= or_insert_with E tag mk) s
      (fun idx s' => ∃ l', Rep s'.r l' ∧ s'.r.cap = s.r.cap ∧ idx < l'.length)
      (fun _ s' => ∃ l', Rep s'.r l' ∧ s'.r.cap = s.r.cap) :=
  entry_bind_safe E hr k (Qv := fun idx l' => idx < l'.length) fun _ e hr1 hv =>
    or_insert_with_safe E hr1 tag mk e hv

/-- the same for `map.entry(k).and_modify(f)`; on unwinding the container is untouched. -/
theorem entry_and_modify_safe {s : St K V Q} {l : List (K × V)} (hr : Rep s.r l) (k : K) (g : V → V) :
    Sat (entry E k >>= and_modify g) s
      (fun e' s' => ∃ l', Rep s'.r l' ∧ l'.length = l.length ∧ s'.r.cap = s.r.cap ∧ Valid l' e')
      (fun _ s' => s'.r = s.r) := by
  refine Sat.bind (entry_valid E hr k) ?_
  intro e s1 ⟨h1, hv⟩
  have := and_modify_safe (h1 ▸ hr) g e hv
  rwa [h1] at this

/-- the `OccupiedEntry` methods at a live slot never reach UB, whatever `==` answers and wherever
    a panic is injected; removal shrinks the list by one, the others keep its length. -/
theorem occ_ops_safe {s : St K V Q} {l : List (K × V)} (hr : Rep s.r l) {i} (hi : i < l.length)
    (g : V → V) (v : V) :
    occ_get i s ≠ .ub ∧ entry_key (.occ i) s ≠ .ub ∧ occ_get_mut i g s ≠ .ub ∧
    occ_insert E i v s ≠ .ub ∧
    Sat (occ_remove (Q := Q) i) s
      (fun _ s' => Rep s'.r (swapRemove l i) ∧ s'.r.cap = s.r.cap)
      (fun _ s' => Rep s'.r (swapRemove l i) ∧ s'.r.cap = s.r.cap) ∧
    Sat (occ_remove_entry i) s
      (fun _ s' => Rep s'.r (swapRemove l i) ∧ s'.r.cap = s.r.cap) (fun _ _ => False) := by
  refine ⟨?_, ?_, ?_, ?_, ?_, ?_⟩
  · rw [occ_get_eq hr hi]; intro h; cases h
  · rw [entry_key_occ hr hi]; intro h; cases h
  · rw [occ_get_mut_eq hr hi]; intro h; cases h
  · rw [occ_insert_eq E hr hi]; intro h; cases h
  · exact Sat.mono (occ_remove_sat hr hi) (fun _ _ h => ⟨h.2.1, h.2.2.1⟩) (fun _ _ h => ⟨h.1, h.2.1⟩)
  · exact Sat.mono (occ_remove_entry_sat hr hi) (fun _ _ h => ⟨h.2.1, h.2.2.1⟩) (fun _ _ h => h)

/-! Non-vacuity: concrete data meeting the hypotheses (tests, not proofs). -/

def exEnv : Env Nat Nat Nat :=
  { eqK := fun _ a b => a == b, eqQ := fun _ a b => a == b, eqV := fun a b => a == b, borrow := id,
    clK := fun _ k => k, clV := fun _ v => v }

def exRaw : Raw Nat Nat :=
  { cap := 3, len := 2, slots := fun i => if i = 0 then some (7, 70) else if i = 1 then some (8, 80) else none }

example : exEnv.Pure := ⟨fun _ _ _ => rfl, fun _ _ _ => rfl⟩
example : Rep exRaw [(7, 70), (8, 80)] :=
  ⟨rfl, by decide, fun i hi => match i, hi with | 0, _ => rfl | 1, _ => rfl⟩
example : Benign ({} : World Nat Nat Nat) := ⟨rfl, rfl⟩
example : findKey exEnv [(7, 70), (8, 80)] (.key 9) = none := by decide
example : findKey exEnv [(7, 70), (8, 80)] (.key 8) = some 1 := by decide
example : [(7, 70), (8, 80)].length < exRaw.cap := by decide
example : Valid [(7, 70), (8, 80)] (.occ 1 : EntryS Nat) := by show 1 < 2; decide

end Micromap.Props.C11
