/-
C16 — Bulk construction equals inserting the items one by one in order.

`extendLoop E pulls xs` is the model of the loop `for (k, v) in iter { m.insert(k, v); }`
behind `FromIterator`, `From<[_; N]>` and `Extend`; `from_iter E pulls xs` is the same loop on a
fresh local `Raw.new cap` that is dropped if the loop unwinds.  With `pulls = true` the source is
an instrumented iterator whose every `next` is a user callback (event `pull`); with
`pulls = false` it is std's array iterator.  The list-level reference is
`foldInsert E l xs = xs.foldl (fun acc (k, v) => insertL E acc k v) l` — inserting one at a time.
`Set` versions are the `V = ()` instance (`E.toUnit`, items `xs.map fun k => (k, ())`).
-/
import Micromap.Proofs.FromIter
import Micromap.Proofs.ListSysRefine

namespace Micromap.Props.C16
open Micromap SetAlg EqClone FromIter
variable {K V Q : Type} (E : Env K V Q)

/-- In a world where no injected fault is armed an operation cannot unwind by injection. -/
theorem no_inj {s s' : St K V Q} {c} (hb : Benign s.w) (h : InjPanic s s' c) : False := h.not_benign hb

/-! ### the result is the fold of single inserts -/

/-- **`extend` = inserting one by one.**  Benign world, time-independent `==`, container
    holding `l0`, and no item overflows (`overflowAt … = none`: each item finds its key present
    or the container not full — see `fit_meaning`).  Then `extend` returns, and the
    container holds EXACTLY `foldInsert E l0 xs`: the list obtained by inserting the items one at
    a time in order — same slot order, same stored key objects (first key object kept, last
    value wins: `first_key_kept`, `last_value_wins`).  The effect trace is `extendTrace`:
    per item one `pull` (instrumented source) followed by that `insert`'s own effects (for a
    repeated key: drop of the supplied key, then of the displaced value), and one final `pull`. -/
theorem extend_eq_fold (hE : E.Pure) (pulls : Bool) (xs : List (K × V)) {s : St K V Q}
    {l0 : List (K × V)} (hr : Rep s.r l0) (hw : Benign s.w)
    (hfit : overflowAt E s.r.cap l0 xs = none) :
    ∃ s', extendLoop E pulls xs s = .ok () s' ∧ Rep s'.r (foldInsert E l0 xs) ∧
      s'.r.cap = s.r.cap ∧ WRel s.w s'.w (extendTrace E pulls l0 xs) := by
  have h := extendLoop_benign E hE pulls xs hr hw
  rwa [hfit] at h

/-- every single `insert` of the fold is the model's `insert`: one step of `foldInsert` is the
    list the model function `insert` leaves behind (so the fold really is "inserting the items
    one at a time"). -/
theorem insertL_is_insert (hE : E.Pure) {s : St K V Q} {l : List (K × V)} (hr : Rep s.r l)
    (hw : Benign s.w) (k : K) (v : V)
    (hfit : ¬ (findKey E l (.key k) = none ∧ s.r.cap ≤ l.length)) :
    ∃ o s', insert E k v s = .ok o s' ∧ Rep s'.r (insertL E l k v) := by
  obtain ⟨o, s', h1, h2, _⟩ := insert_fit E hE hr hw k v hfit
  exact ⟨o, s', h1, h2⟩

/-- **`from_iter` / `collect` / `From<[_; N]>` = inserting one by one into `new()`.** -/
theorem from_iter_eq_fold (hE : E.Pure) (pulls : Bool) (xs : List (K × V)) (cap : Nat)
    {s : St K V Q} (hs : s.r = Raw.new cap) (hw : Benign s.w)
    (hfit : overflowAt E cap [] xs = none) :
    ∃ s', from_iter E pulls xs s = .ok () s' ∧ Rep s'.r (foldInsert E [] xs) ∧
      s'.r.cap = cap ∧ WRel s.w s'.w (extendTrace E pulls [] xs) := by
  have h := from_iter_benign E hE pulls xs (hs ▸ Rep.new cap : Rep s.r []) hw
  rwa [show s.r.cap = cap by rw [hs]; rfl, hfit] at h

/-- **first key object kept.**  The key objects stored after the fold are, in slot order, the
    initial ones followed by the first occurrence of each new key class among the items
    (`firstKeys`: a key object is stored only if no equal key is stored already). -/
theorem first_key_kept (l xs : List (K × V)) :
    (foldInsert E l xs).map (·.1) = firstKeys E.keq (l.map (·.1)) (xs.map (·.1)) :=
  foldInsert_keys E xs l

/-- **last value wins.**  After the fold every key maps to the value of the last item with an
    equal key, or keeps its old value if no item has an equal key. -/
theorem last_value_wins (hE : E.Lawful) (l xs : List (K × V)) (hn : NodupKeys E.keq l) (q : K) :
    lookupL E.keq (foldInsert E l xs) q =
      match xs.reverse.find? (fun p => E.keq p.1 q) with
      | some p => some p.2
      | none => lookupL E.keq l q :=
  lookupL_foldInsert hE xs l hn q

/-- the container invariant (unique keys) is maintained by the fold. -/
theorem fold_nodup (hE : E.Lawful) (l xs : List (K × V)) (hn : NodupKeys E.keq l) :
    NodupKeys E.keq (foldInsert E l xs) := foldInsert_nodup hE xs l hn

/-! ### the source is consumed exactly once, front to back -/

/-- a complete run over an instrumented source calls `next` exactly `|xs| + 1` times (once per
    item, in order, plus the final call that returns `None`); the trace interleaves them with
    the per-item effects of `insert` as laid out by `itemsTrace`. -/
theorem pulls_complete (l xs : List (K × V)) :
    countPulls (extendTrace E true l xs) = xs.length + 1 ∧
    countPulls (extendTrace E false l xs) = 0 := by
  rw [countPulls_extendTrace, countPulls_extendTrace]; simp

/-- the layout of the trace, item by item: `pull`, then the effects of inserting that item into
    what the earlier items built. -/
theorem trace_layout (pulls : Bool) (l : List (K × V)) (k : K) (v : V) (rest : List (K × V)) :
    extendTrace E pulls l ((k, v) :: rest) =
      pullTr pulls ++ (itemTrace E l k v ++ extendTrace E pulls (insertL E l k v) rest) := by
  simp [extendTrace, itemsTrace, List.append_assoc]

/-! ### repeats do not consume capacity -/

/-- the number of entries after the fold is the number of distinct keys: the length of any
    duplicate-free system `d` of representatives of the keys involved. -/
theorem len_eq_distinct (hE : E.Lawful) (xs : List (K × V)) (d : List K) (hdn : NodupB E.keq d)
    (hd1 : ∀ x, x ∈ xs.map (·.1) → memB E.keq x d = true)
    (hd2 : ∀ y, y ∈ d → memB E.keq y (xs.map (·.1)) = true) :
    (foldInsert E [] xs).length = d.length :=
  foldInsert_length_eq_distinct hE [] xs List.Pairwise.nil d hdn
    (fun x hx => hd1 x (by simpa using hx)) (fun y hy => by simpa using hd2 y hy)

/-- **at most `cap` distinct keys always fit**, however long the sequence and however many
    repeats: no item overflows. -/
theorem fits_of_distinct_le_cap (hE : E.Lawful) (cap : Nat) (xs : List (K × V)) (d : List K)
    (hd : ∀ x, x ∈ xs.map (·.1) → memB E.keq x d = true) (hdc : d.length ≤ cap) :
    overflowAt E cap [] xs = none :=
  overflowAt_none_of_cover hE cap d hdc xs [] List.Pairwise.nil
    (fun x hx => hd x (by simpa using hx))

/-- hence `from_iter` of a sequence with at most `cap` distinct keys succeeds and yields the
    fold, whose length is at most the number of distinct keys. -/
theorem from_iter_succeeds (hE : E.Lawful) (pulls : Bool) (xs : List (K × V)) (cap : Nat)
    (d : List K) (hd : ∀ x, x ∈ xs.map (·.1) → memB E.keq x d = true) (hdc : d.length ≤ cap)
    {s : St K V Q} (hs : s.r = Raw.new cap) (hw : Benign s.w) :
    ∃ s', from_iter E pulls xs s = .ok () s' ∧ Rep s'.r (foldInsert E [] xs) ∧
      (foldInsert E [] xs).length ≤ d.length ∧ WRel s.w s'.w (extendTrace E pulls [] xs) := by
  obtain ⟨s', h1, h2, _, h4⟩ := from_iter_eq_fold E hE.toPure pulls xs cap hs hw
    (fits_of_distinct_le_cap E hE cap xs d hd hdc)
  refine ⟨s', h1, h2, ?_, h4⟩
  exact foldInsert_length_le_cover hE [] xs List.Pairwise.nil d
    (fun x hx => hd x (by simpa using hx))

/-- the same for `extend` on a container that already holds `l0`. -/
theorem extend_fits_of_distinct_le_cap (hE : E.Lawful) (cap : Nat) (l0 xs : List (K × V))
    (hn : NodupKeys E.keq l0) (d : List K)
    (hd : ∀ x, x ∈ l0.map (·.1) ∨ x ∈ xs.map (·.1) → memB E.keq x d = true) (hdc : d.length ≤ cap) :
    overflowAt E cap l0 xs = none :=
  overflowAt_none_of_cover hE cap d hdc xs l0 hn hd

/-! ### overflow: more than `cap` distinct keys -/

/-- **overflow.**  If some item overflows (`overflowAt = some m`: the key of item `m` is absent
    from the full container built from the items before it), `extend` panics with the overflow
    class of the build profile at exactly that first surplus item: the container holds the
    fold of the items before it, the surplus item was pulled and its value and key were dropped,
    the rest of the source was dropped without being pulled (`m + 1` calls of `next` in all,
    none after the panic). -/
theorem extend_overflow (hE : E.Pure) (pulls : Bool) (xs : List (K × V)) {s : St K V Q}
    {l0 : List (K × V)} (hr : Rep s.r l0) (hw : Benign s.w) {m : Nat}
    (hov : overflowAt E s.r.cap l0 xs = some m) :
    ∃ c s' k v, extendLoop E pulls xs s = .panic c s' ∧ OverflowPanic s c ∧ xs[m]? = some (k, v) ∧
      Rep s'.r (foldInsert E l0 (xs.take m)) ∧ s'.r.cap = s.r.cap ∧
      WRel s.w s'.w (itemsTrace E pulls l0 (xs.take m) ++
        (pullTr pulls ++ (dropVTr E v ++ (.dropK k :: dropTrace E (xs.drop (m + 1)))))) ∧
      countPulls (itemsTrace E pulls l0 (xs.take m) ++
        (pullTr pulls ++ (dropVTr E v ++ (.dropK k :: dropTrace E (xs.drop (m + 1)))))) =
        (if pulls then m + 1 else 0) := by
  have h := extendLoop_benign E hE pulls xs hr hw
  rw [hov] at h
  obtain ⟨c, s', k, v, h1, ho, f2, f3, h2, f4⟩ := h
  exact ⟨c, s', k, v, h1, ho, f2, f3, h2, f4,
    countPulls_overflow E pulls l0 xs m (List.getElem?_eq_some_iff.mp f2).1 k v⟩

/-- `from_iter` with a surplus item: it panics with the overflow class, and the partially built
    local (the fold of the items before the surplus one) has been dropped — each of its entries
    exactly once, after the effects of the loop. -/
theorem from_iter_overflow (hE : E.Pure) (pulls : Bool) (xs : List (K × V)) (cap : Nat)
    {s : St K V Q} (hs : s.r = Raw.new cap) (hw : Benign s.w) {m : Nat}
    (hov : overflowAt E cap [] xs = some m) :
    ∃ c s' k v, from_iter E pulls xs s = .panic c s' ∧ OverflowPanic s c ∧ xs[m]? = some (k, v) ∧
      Dropped s'.r (foldInsert E [] (xs.take m)) ∧
      WRel s.w s'.w ((itemsTrace E pulls [] (xs.take m) ++
        (pullTr pulls ++ (dropVTr E v ++ (.dropK k :: dropTrace E (xs.drop (m + 1)))))) ++
        dropTrace E (foldInsert E [] (xs.take m))) := by
  have h := from_iter_benign E hE pulls xs (hs ▸ Rep.new cap : Rep s.r []) hw
  rwa [show s.r.cap = cap by rw [hs]; rfl, hov] at h

/-- **the panic happens exactly when more than `cap` distinct keys are supplied.**
    (⇐) `fits_of_distinct_le_cap`; (⇒) if the items contain more than `cap` pairwise unequal
    keys, some item overflows. -/
theorem overflows_of_many_distinct (hE : E.Lawful) (cap : Nat) (xs : List (K × V)) (d : List K)
    (hdn : NodupB E.keq d) (hd : ∀ y, y ∈ d → memB E.keq y (xs.map (·.1)) = true)
    (hbig : cap < d.length) : ∃ m, overflowAt E cap [] xs = some m :=
  Option.ne_none_iff_exists'.1 (overflowAt_some_of_distinct hE cap [] xs (Nat.zero_le _) d hdn
    (fun y hy => by simpa using hd y hy) hbig)

/-- what "item `m` overflows" means, spelled out: its key is absent from the full container
    built from the items before it, and none of those overflowed. -/
theorem overflow_meaning (cap : Nat) (l xs : List (K × V)) (m : Nat)
    (h : overflowAt E cap l xs = some m) :
    ∃ k v, xs[m]? = some (k, v) ∧ findKey E (foldInsert E l (xs.take m)) (.key k) = none ∧
      cap ≤ (foldInsert E l (xs.take m)).length ∧ overflowAt E cap l (xs.take m) = none := by
  fun_induction overflowAt E cap l xs generalizing m with
  | case1 => cases h
  | case2 l k v rest hstep => cases h; exact ⟨k, v, rfl, hstep.1, hstep.2, rfl⟩
  | case3 l k v rest hstep ih =>
    obtain ⟨m', hm', rfl⟩ := Option.map_eq_some_iff.1 h
    obtain ⟨k', v', h1, h2, h3, h4⟩ := ih m' hm'
    refine ⟨k', v', h1, h2, h3, ?_⟩
    rw [List.take_succ_cons, overflowAt, if_neg hstep, h4]; rfl

/-- what "no item overflows" means: every prefix fits. -/
theorem fit_meaning (cap : Nat) (l xs : List (K × V)) :
    overflowAt E cap l xs = none ↔
      ∀ m k v, xs[m]? = some (k, v) →
        ¬ (findKey E (foldInsert E l (xs.take m)) (.key k) = none ∧
            cap ≤ (foldInsert E l (xs.take m)).length) := by
  fun_induction overflowAt E cap l xs with
  | case1 => simp
  | case2 l k v rest hstep => exact ⟨nofun, fun h => (h 0 k v rfl hstep).elim⟩
  | case3 l k v rest hstep ih =>
    rw [Option.map_eq_none_iff, ih]
    constructor
    · intro h m k' v' hm
      cases m with
      | zero => cases hm; exact hstep
      | succ m => exact h m k' v' hm
    · exact fun h m => h (m + 1)

/-! ### exception safety: any oracle, any injection point, either profile -/

/-- `extend` on a well-formed container never reaches `ub`; whether it returns or unwinds (by an
    injected panic of a user `==`, `Drop` or `next`, or by the overflow check) the container is
    well-formed and its capacity unchanged.  On unwinding the rest of the source has been
    dropped by `extendLoop` itself (`dropList`). -/
theorem extend_safe (pulls : Bool) (xs : List (K × V)) {s : St K V Q} (hs : Safe s.r) :
    Sat (extendLoop E pulls xs) s (fun _ s' => Safe s'.r ∧ s'.r.cap = s.r.cap)
      (fun c s' => Safe s'.r ∧ s'.r.cap = s.r.cap ∧ (InjPanic s s' c ∨ OverflowPanic s c)) := by
  refine Sat.mono (extendLoop_sat E pulls xs s ⟨_, hs.rep⟩) ?_ ?_
  · intro _ s' ⟨h1, ⟨_, h2⟩, _⟩; exact ⟨h2.safe, h1⟩
  · intro c s' ⟨⟨h1, ⟨_, h2⟩, _⟩, hc⟩; exact ⟨h2.safe, h1, hc⟩

/-- `from_iter` never reaches `ub`; it returns a well-formed container of the requested
    capacity, or unwinds (injected panic or overflow) after dropping the partially built local:
    every slot that was live in it (`lq`) is dead, and the drops of `lq` end the trace. -/
theorem from_iter_safe (pulls : Bool) (xs : List (K × V)) (cap : Nat) {s : St K V Q}
    (hs : s.r = Raw.new cap) :
    Sat (from_iter E pulls xs) s (fun _ s' => Safe s'.r ∧ s'.r.cap = cap)
      (fun c s' => s'.r.cap = cap ∧ (InjPanic s s' c ∨ OverflowPanic s c) ∧
        ∃ lq tr, Dropped s'.r lq ∧ WRel s.w s'.w (tr ++ dropTrace E lq)) := by
  have hcap : s.r.cap = cap := by rw [hs]; rfl
  refine Sat.mono (from_iter_sat E pulls xs (hs ▸ Rep.new cap : Rep s.r [])) ?_ ?_
  · intro _ s' ⟨h1, ⟨_, h2⟩, _⟩; exact ⟨h2.safe, h1.trans hcap⟩
  · intro c s' ⟨h1, h⟩; exact ⟨h1.trans hcap, h⟩

/-! ### sets: `V = ()` -/

/-- the set view of an environment is lawful when the environment is. -/
theorem toUnit_lawful {E : Env K V Q} (hE : E.Lawful) : E.toUnit.Lawful := hE.toUnit

/-- **`Set::from_iter` / `From<[T; N]>` / `Extend<T>`**: the same loop at `V = ()` over the items
    `(k, ())`.  The resulting set holds the first occurrence of every element class, in order of
    first appearance; a repeated element is dropped (no value effects exist for `()`). -/
theorem set_from_iter_eq_fold (hE : E.Pure) (pulls : Bool) (ks : List K) (cap : Nat)
    {s : St K Unit Q} (hs : s.r = Raw.new cap) (hw : Benign s.w)
    (hfit : overflowAt E.toUnit cap [] (ks.map fun k => (k, ())) = none) :
    ∃ s', from_iter E.toUnit pulls (ks.map fun k => (k, ())) s = .ok () s' ∧
      Rep s'.r (foldInsert E.toUnit [] (ks.map fun k => (k, ()))) ∧ s'.r.cap = cap ∧
      (foldInsert E.toUnit [] (ks.map fun k => (k, ()))).map (·.1) = firstKeys E.keq [] ks ∧
      WRel s.w s'.w (extendTrace E.toUnit pulls [] (ks.map fun k => (k, ()))) := by
  obtain ⟨s', h1, h2, h3, h4⟩ := from_iter_eq_fold E.toUnit hE.toUnit pulls _ cap hs hw hfit
  refine ⟨s', h1, h2, h3, ?_, h4⟩
  rw [first_key_kept, List.map_map]
  exact congrArg (firstKeys E.keq []) (List.map_id ks)

/-- sets: `extend` on an existing set. -/
theorem set_extend_eq_fold (hE : E.Pure) (pulls : Bool) (ks : List K) {s : St K Unit Q}
    {l0 : List (K × Unit)} (hr : Rep s.r l0) (hw : Benign s.w)
    (hfit : overflowAt E.toUnit s.r.cap l0 (ks.map fun k => (k, ())) = none) :
    ∃ s', extendLoop E.toUnit pulls (ks.map fun k => (k, ())) s = .ok () s' ∧
      Rep s'.r (foldInsert E.toUnit l0 (ks.map fun k => (k, ()))) ∧ s'.r.cap = s.r.cap :=  by
  obtain ⟨s', h1, h2, h3, _⟩ := extend_eq_fold E.toUnit hE.toUnit pulls _ hr hw hfit
  exact ⟨s', h1, h2, h3⟩

/-- sets: at most `cap` distinct elements always fit; any-oracle safety is `from_iter_safe` /
    `extend_safe` at `E.toUnit`. -/
theorem set_fits_of_distinct_le_cap (hE : E.Lawful) (cap : Nat) (ks : List K) (d : List K)
    (hd : ∀ x, x ∈ ks → memB E.keq x d = true) (hdc : d.length ≤ cap) :
    overflowAt E.toUnit cap [] (ks.map fun k => (k, ())) = none :=
  fits_of_distinct_le_cap E.toUnit (toUnit_lawful hE) cap _ d
    (fun x hx => hd x (by simpa [List.map_map] using hx)) hdc

/-! ### `a.extend(b)` with the set `b` moved in (`SetOp.extend_from`)

`Extend<T> for Set<T, N>` fed with another set: `b.into_iter()` is the consuming iterator
`SetIntoIter` (it pops from the END of `b`), every key it yields goes through `a.insert`.  The
model operation is `Op.set i (.extend_from j)` (`stepCore` → `extendFrom` → `extendFromLoop`,
`Model/Sys.lean`); its list-level meaning in the interpreter `ListSys.lstepCore` is the fold of
single inserts of `b`'s keys, last first, and `b = []` afterwards (`ListSys.extendFrom_ok`, part of
`ListSys.step_refines` / `run_refines`). -/

section extendFrom
open ListSys
variable (R : Render K V)

/-- **`a.extend(b)`, `b` a set moved in, for a lawful key type in a benign world — the set-level
    statement.**  `a = sets i` holds `la`, `b = sets j` holds `lb` (`j ≠ i`), both with pairwise
    unequal keys (what the invariant guarantees for a lawful key type, see
    `set_extend_from_gains_inv`), and there is room in `a` for the elements of `b` that `a` does not
    hold.  Then the step returns `()`; afterwards `a` holds its old entries — same slots, same key
    objects — followed by EXACTLY the elements of `b` it did not hold (`ListSys.gained`: in the
    order the consuming iterator yields them, last slot of `b` first); `b` is empty (consumed:
    every element was moved into `a` or, being a duplicate, dropped); capacities are unchanged and
    the world is again benign. -/
theorem set_extend_from_gains (hE : E.Lawful) {sys : Sys K V Q} {ls : LSys K V} (hb : Benign sys.w)
    (hs : SysRep sys ls) (i j : Nat) (hij : j ≠ i)
    (hnd : NodupKeys E.toUnit.keq (ls.sets i).l) (hns : NodupKeys E.toUnit.keq (ls.sets j).l)
    (hroom : (ls.sets i).l.length + (gained E.toUnit (ls.sets i).l (ls.sets j).l).length ≤ (ls.sets i).cap) :
    (step E R sys (.set i (.extend_from j))).2.outcome = .ok ∧
    (step E R sys (.set i (.extend_from j))).2.ret = .unit ∧
    SysRep (step E R sys (.set i (.extend_from j))).1
      ((ls.setSet j ⟨(ls.sets j).cap, []⟩).setSet i
        ⟨(ls.sets i).cap, (ls.sets i).l ++ gained E.toUnit (ls.sets i).l (ls.sets j).l⟩) ∧
    Benign (step E R sys (.set i (.extend_from j))).1.w := by
  have hF : E.toUnit.Lawful := toUnit_lawful hE
  have hov := overflowAt_none_of_gain E.toUnit hF (ls.sets i).cap (ls.sets i).l (ls.sets j).l hnd hroom
  have hfold := foldInsert_gain E.toUnit hF (ls.sets i).l (ls.sets j).l hns
  have hl : lstepCore E R ls (.set i (.extend_from j)) = .ok .unit
      ((ls.setSet j ⟨(ls.sets j).cap, []⟩).setSet i
        ⟨(ls.sets i).cap, (ls.sets i).l ++ gained E.toUnit (ls.sets i).l (ls.sets j).l⟩) := by
    simp only [lstepCore]
    rw [if_neg hij, if_pos hov, hfold]
  obtain ⟨h1, h2, h3⟩ := step_refines E R hE.toPure hb hs (.set i (.extend_from j)) rfl trivial
  simp only [lstep, hl] at h1 h2
  exact ⟨congrArg LOut.outcome h1, congrArg LOut.ret h1, h2, h3⟩

/-- … with the hypotheses on the keys discharged by the invariant: from registers that satisfy
    `SysInv` (every reachable state does: `run_inv`), for lawful `Eq`/`Borrow` and a `Clone` that
    respects them (`Env.Good`). -/
theorem set_extend_from_gains_inv (hG : E.Good) {sys : Sys K V Q} {ls : LSys K V} (hb : Benign sys.w)
    (hinv : SysInv E sys) (hs : SysRep sys ls) (i j : Nat) (hij : j ≠ i)
    (hroom : (ls.sets i).l.length + (gained E.toUnit (ls.sets i).l (ls.sets j).l).length ≤ (ls.sets i).cap) :
    (step E R sys (.set i (.extend_from j))).2.outcome = .ok ∧
    (step E R sys (.set i (.extend_from j))).2.ret = .unit ∧
    SysRep (step E R sys (.set i (.extend_from j))).1
      ((ls.setSet j ⟨(ls.sets j).cap, []⟩).setSet i
        ⟨(ls.sets i).cap, (ls.sets i).l ++ gained E.toUnit (ls.sets i).l (ls.sets j).l⟩) ∧
    Benign (step E R sys (.set i (.extend_from j))).1.w := by
  have hnod : ∀ r, NodupKeys E.toUnit.keq (ls.sets r).l := by
    intro r
    obtain ⟨l, hr, hn⟩ := hinv.2 r
    have : l = (ls.sets r).l := Rep.unique hr (hs.2.1 r).1
    exact this ▸ hn (Env.Good.toUnit hG)
  exact set_extend_from_gains E R hG.1 hb hs i j hij (hnod i) (hnod j) hroom

/-- the general case (any contents, a pure `==`): the step is what the list-level interpreter says
    — the fold of single inserts of `b`'s keys, last first; on overflow the panic class of the
    profile, with what went in before the first surplus key kept; `b` empty in either case. -/
theorem set_extend_from_refines (hE : E.Pure) {sys : Sys K V Q} {ls : LSys K V} (hb : Benign sys.w)
    (hs : SysRep sys ls) (i j : Nat) :
    view (step E R sys (.set i (.extend_from j))).2 = (lstep E R ls (.set i (.extend_from j))).2 ∧
    SysRep (step E R sys (.set i (.extend_from j))).1 (lstep E R ls (.set i (.extend_from j))).1 ∧
    Benign (step E R sys (.set i (.extend_from j))).1.w :=
  step_refines E R hE hb hs (.set i (.extend_from j)) rfl trivial

end extendFrom

/-! Non-vacuity: concrete data meeting the hypotheses (tests, not proofs). -/

def exEnv : Env Nat Nat Nat :=
  { eqK := fun _ a b => a % 10 == b % 10, eqQ := fun _ a b => a % 10 == b % 10,
    eqV := fun a b => a == b, borrow := id, clK := fun _ k => k, clV := fun _ v => v }

example : exEnv.Pure := ⟨fun _ _ _ => rfl, fun _ _ _ => rfl⟩
example : Benign ({} : World Nat Nat Nat) := ⟨rfl, rfl⟩
/-- five items, two key classes (`7 ≡ 17 ≡ 27`, `8`), capacity 2: fits although `5 > 2`;
    first key object `7` kept, last value `300` wins. -/
example : overflowAt exEnv 2 [] [(7, 100), (8, 1), (17, 200), (8, 2), (27, 300)] = none := by decide
example : foldInsert exEnv [] [(7, 100), (8, 1), (17, 200), (8, 2), (27, 300)] = [(7, 300), (8, 2)] := by
  decide
/-- three key classes into capacity 2: the third distinct key (item 3) overflows. -/
example : overflowAt exEnv 2 [] [(7, 100), (8, 1), (17, 200), (9, 2), (27, 300)] = some 3 := by decide
example : ∀ x, x ∈ [(7, 100), (8, 1), (17, 200)].map (·.1) → memB exEnv.keq x [7, 8] = true := by
  decide

/-- `a = {7}`, `b = {8, 17, 9}` (slot order), `17 ≡ 7`: `a` gains `9` and `8` — `b`'s elements it did
    not hold, last first —, the duplicate `17` is dropped; `a`'s key object `7` stays. -/
example : ListSys.gained exEnv.toUnit [(7, ())] [(8, ()), (17, ()), (9, ())] = [(9, ()), (8, ())] := by
  decide
example : foldInsert exEnv.toUnit [(7, ())] [(8, ()), (17, ()), (9, ())].reverse =
    [(7, ())] ++ ListSys.gained exEnv.toUnit [(7, ())] [(8, ()), (17, ()), (9, ())] := by decide
example : (Op.set 0 (.extend_from 1) : Op Nat Nat Nat).inSpec = true := rfl

end Micromap.Props.C16
