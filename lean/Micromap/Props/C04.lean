/-
C04 — A panic in user code never corrupts a container (exception safety).

User code enters the model through callbacks (`eqK`/`eqQ`/`eqV`, `cloneK`/`cloneV`, `dropK`/`dropV`,
`callF` for retain predicates and entry closures, `pullSrc` for source iterators); every callback
passes through `tick`, the single place where the injected panic of `World.inject = some j`
fires (at the `j`-th callback from now).  Unwinding is explicit (`unwindWith`): the locals still
owned are dropped, a partially built local container is dropped by `dropMap`.
The theorems quantify over EVERY world, hence every injection point `j` (and every operation of
the safe API, every state satisfying the invariant, every capacity, both profiles, any oracle).
The model is of the repaired code (`fix:` commits f1d9076, 09f1297, 992fc5c in /repo); the three
defects are kept as replay files in `/verif/corpus/c04-*.ops`.
-/
import Micromap.Proofs.SysInv
import Micromap.Model.Legacy

namespace Micromap.Props.C04
open Micromap SetAlg Dict
variable {K V Q : Type} (E : Env K V Q) (R : Render K V)

/-- **One operation, any injection point.**  From registers satisfying the invariant, whatever
    callback of the operation panics: the step does not reach `ub` (no dead or uninitialised slot
    is read, compared, returned or dropped — in particular no element is destroyed twice), and
    afterwards every register — including the target of a partially built `clone`, `collect` or
    `&a - &b`, whose local was dropped while unwinding — satisfies the invariant again
    (`len ≤ cap`, all slots below `len` live, keys unique for a lawful key type). -/
theorem step_panic_safe {sys : Sys K V Q} (hs : SysInv E sys) (j : Nat) (op : Op K V Q)
    (hop : op.safeApi = true) :
    let armed := (step E R sys (.inject j)).1
    (step E R armed op).2.outcome ≠ .ub ∧ SysInv E (step E R armed op).1 :=
  step_inv E R (step_inv E R hs (.inject j) rfl).2 op hop

/-- the world really is armed by `inject j` (the hypothesis above is not vacuous). -/
theorem inject_arms (sys : Sys K V Q) (j : Nat) : (step E R sys (.inject j)).1.w.inject = some j := rfl

/-- **After unwinding the containers can be used and dropped normally**: any further history —
    more operations, more injected panics, the final drops of all registers (`endCase`) — still
    never reaches `ub` and keeps the invariant.  (No double drop "later".) -/
theorem run_panic_safe {sys : Sys K V Q} (hs : SysInv E sys) (ops : List (Op K V Q))
    (hops : ∀ op, op ∈ ops → op.safeApi = true) :
    (∀ o, o ∈ (run E R sys (ops ++ [.endCase])).2 → o.outcome ≠ .ub) ∧
    SysInv E (run E R sys (ops ++ [.endCase])).1 :=
  run_inv E R _ sys hs (List.forall_mem_append.mpr ⟨hops, List.forall_mem_singleton.mpr rfl⟩)

/-! ### `a.extend(b)` with the set `b` moved in

`Extend<T> for Set<T, N>` fed with another set is a loop over TWO containers: the consuming
iterator owns what is left of `b`, `insert` works on `a`.  If the user's `==` panics inside
`a.insert(k)` (or `a` is full: the container's own panic), `insert` unwinds — dropping the key
it was given — and the iterator is dropped during the unwinding, i.e. the rest of `b` is dropped
(`Model/Sys.lean`, `extendFromLoop`).  The model operation is `Op.set i (.extend_from j)`; it is part
of the safe API, so `step_inv` / `run_inv` cover it. -/

/-- `extend_from` is in the scope of the system-level theorems. -/
example (i j : Nat) : (Op.set i (.extend_from j) : Op K V Q).safeApi = true := rfl

/-- **A panic of the user's `==` (or the destination's overflow) in the middle of `a.extend(b)`
    leaves both sets well-formed and destroys nothing twice.**  From registers satisfying the
    invariant, with a panic armed at ANY callback `n` (the `n`-th `==` of the scans inside the
    `insert`s), any user equality, either profile: the step does not reach `ub` — no dead slot of
    `a` or `b` is read, compared or dropped, in particular the clean-up drop of the rest of `b`
    touches only live slots, each once — and afterwards EVERY register satisfies the invariant
    again: `a`, `b`, and the registers not involved.  (What `a` and `b` hold afterwards is not part
    of the statement; the test at the end of the file shows it on one input.) -/
theorem extend_from_panic_safe {sys : Sys K V Q} (hs : SysInv E sys) (n : Nat) (i j : Nat) :
    let armed := (step E R sys (.inject n)).1
    (step E R armed (.set i (.extend_from j))).2.outcome ≠ .ub ∧
      SysInv E (step E R armed (.set i (.extend_from j))).1 :=
  step_panic_safe E R hs n (.set i (.extend_from j)) rfl

/-- … and both sets can be used and dropped normally afterwards: any further history (more
    operations, more injected panics) and the final drops of all registers never reach `ub` — no
    element of `a` or `b` is destroyed a second time "later". -/
theorem extend_from_panic_then_any_history {sys : Sys K V Q} (hs : SysInv E sys) (n : Nat) (i j : Nat)
    (ops : List (Op K V Q)) (hops : ∀ op, op ∈ ops → op.safeApi = true) :
    (∀ o, o ∈ (run E R sys (.inject n :: .set i (.extend_from j) :: ops ++ [.endCase])).2 → o.outcome ≠ .ub) ∧
    SysInv E (run E R sys (.inject n :: .set i (.extend_from j) :: ops ++ [.endCase])).1 :=
  run_panic_safe E R hs (.inject n :: .set i (.extend_from j) :: ops)
    (List.forall_mem_cons.mpr ⟨rfl, List.forall_mem_cons.mpr ⟨rfl, hops⟩⟩)

/-- the loop itself, on the pair (source, destination), in ANY world: whether it returns or
    unwinds (injected panic inside `insert`, or overflow), both registers satisfy the invariant and
    keep their capacities; it never reaches `ub` — the clean-up drop runs in unwinding mode and
    completes. -/
theorem extend_from_loop_safe (F : Env K Unit Q) (fuel : Nat) {rs : Raw K Unit} {sd : St K Unit Q}
    (hsrc : Inv F rs) (hdst : Inv F sd.r) :
    PairInv F rs.cap sd.r.cap (extendFromLoop F fuel rs sd) :=
  extendFromLoop_inv F fuel rs sd hsrc hdst

/-- per container operation: the triple of `clear` (repaired): whether it returns or a `Drop`
    unwinds, the map is empty and well-formed — the old elements are never reachable again. -/
theorem clear_exception_safe {s : St K V Q} {l : List (K × V)} (hr : Rep s.r l) :
    Sat (clear E) s (fun _ s' => Rep s'.r [] ∧ s'.r.cap = s.r.cap)
      (fun _ s' => Rep s'.r [] ∧ s'.r.cap = s.r.cap) :=
  Sat.mono (clear_sat E hr) (fun _ _ h => ⟨h.1, h.2.1⟩) (fun _ _ h => ⟨h.1, h.2.1⟩)

/-- `retain` (repaired `remove_index_drop`: compact first, drop afterwards): a panicking predicate
    or a panicking `Drop` of a removed element leaves a well-formed map. -/
theorem retain_exception_safe (f : Nat → K → V → Bool × V) {s : St K V Q} {l : List (K × V)}
    (hr : Rep s.r l) :
    Sat (retain E f) s (fun _ s' => ∃ l', Rep s'.r l' ∧ l'.length ≤ l.length ∧ s'.r.cap = s.r.cap)
      (fun _ s' => ∃ l', Rep s'.r l' ∧ l'.length ≤ l.length ∧ s'.r.cap = s.r.cap) :=
  Sat.mono (retain_sat E f (fun k v => f 0 k v) hr)
    (fun _ _ ⟨hc, _, l', h1, h2, _⟩ => ⟨l', h1, h2, hc⟩)
    (fun _ _ ⟨hc, _, l', h1, h2, _⟩ => ⟨l', h1, h2, hc⟩)

/-- `clone` (repaired: `len` is published slot by slot): a panicking `Clone` never makes the
    unwinding drop run on uninitialised slots (no `ub`); the half-built local is dropped. -/
theorem clone_exception_safe {src : Raw K V} (hsrc : Inv E src) (w : World K V Q) :
    Sat (cloneInto E src) ⟨Raw.new src.cap, w⟩ (fun _ s' => Inv E s'.r ∧ s'.r.cap = src.cap)
      (fun _ _ => True) :=
  cloneInto_inv E hsrc w

/-! ### the three defects before the `fix:` commits, formally (negative theorems by concrete witness)

`Model/Legacy.lean` mirrors `clear`, `remove_index_drop` and `clone` as they were before the `fix:`
commits.  Each admits a well-formed map and an injection point after which a dead or
uninitialised slot is dropped — the model's `ub`.  The repaired functions (above) do not. -/

/-- integers as keys/values, honest `==`. -/
def nEnv : Env Nat Nat Nat :=
  { eqK := fun _ a b => a == b, eqQ := fun _ a b => a == b, eqV := fun a b => a == b, borrow := id,
    clK := fun _ k => k, clV := fun _ v => v }

/-- a map `{7: 70, 8: 80}` of capacity 3. -/
def twoRaw : Raw Nat Nat :=
  { cap := 3, len := 2, slots := fun i => if i = 0 then some (7, 70) else if i = 1 then some (8, 80) else none }

def isUb {σ α : Type} : Res σ α → Bool
  | .ub => true
  | _ => false

/-- pre-fix `clear`: the `Drop` of the first value panics (2nd callback); `len` is still 2 although
    slot 0 is dead, so dropping the map afterwards destroys slot 0 a second time. -/
theorem legacy_clear_double_drop :
    (match Legacy.clear nEnv ⟨twoRaw, { inject := some 1 }⟩ with
      | .panic _ s' => s'.r.len == 2 && (s'.r.slots 0).isNone && isUb (dropMap nEnv s')
      | _ => false) = true := by decide +kernel

/-- the repaired `clear` on the same input: the map is empty, dropping it is fine. -/
theorem fixed_clear_ok :
    (match Micromap.clear nEnv ⟨twoRaw, { inject := some 1 }⟩ with
      | .panic _ s' => s'.r.len == 0 && !isUb (dropMap nEnv s')
      | _ => false) = true := by decide +kernel

/-- pre-fix `remove_index_drop` (behind `retain`): the `Drop` of the removed value panics; the dead
    slot stays below `len` and is dropped again with the map. -/
theorem legacy_retain_double_drop :
    (match Legacy.remove_index_drop nEnv 0 ⟨twoRaw, { inject := some 1 }⟩ with
      | .panic _ s' => s'.r.len == 2 && (s'.r.slots 0).isNone && isUb (dropMap nEnv s')
      | _ => false) = true := by decide +kernel

theorem fixed_remove_index_drop_ok :
    (match Micromap.remove_index_drop nEnv 0 ⟨twoRaw, { inject := some 1 }⟩ with
      | .panic _ s' => s'.r.len == 1 && !isUb (dropMap nEnv s')
      | _ => false) = true := by decide +kernel

/-- pre-fix `clone`: `Clone` of the second key panics (3rd callback); the half-built local has
    `len = 2` but only slot 0 written, and the unwinding drop reads the uninitialised slot 1. -/
theorem legacy_clone_drops_uninit :
    isUb (Legacy.cloneInto nEnv twoRaw ⟨Raw.new 3, { inject := some 2 }⟩) = true := by decide +kernel

theorem fixed_clone_ok :
    isUb (Micromap.cloneInto nEnv twoRaw ⟨Raw.new 3, { inject := some 2 }⟩) = false := by decide +kernel

/-! ### non-vacuity (tests) -/

example : (step (K := Nat) (V := Nat) (Q := Nat)
    { eqK := fun _ a b => a == b, eqQ := fun _ a b => a == b, eqV := fun a b => a == b, borrow := id,
      clK := fun _ k => k, clV := fun _ v => v }
    { dbgK := fun _ => toString, dbgV := fun _ => toString, dspK := toString, dspV := toString }
    (Sys.init (fun _ => 2) (fun _ => 2) {}) (.inject 0)).1.w.inject = some 0 := rfl

/-- the scenario of the driver script: `a = {0}` (capacity 2), `b = {1, 10, 3}` with `10 ≡ 0`; the
    second `==` of `a.extend(b)` panics (inside the `insert` of `10`).  The step unwinds with the
    injected panic; `a` holds two elements (`3` went in before), `b` is empty, and the final drop of
    all registers is clean (no `ub`, nothing leaked). -/
def xEnv : Env Nat Nat Nat :=
  { eqK := fun _ a b => a % 10 == b % 10, eqQ := fun _ a b => a % 10 == b % 10, eqV := fun a b => a == b,
    borrow := id, clK := fun _ k => k, clV := fun _ v => v }

def xR : Render Nat Nat :=
  { dbgK := fun _ _ => "", dbgV := fun _ _ => "", dspK := fun _ => "", dspV := fun _ => "" }

def xOps : List (Op Nat Nat Nat) :=
  [.set 0 (.insert 0), .set 1 (.insert 1), .set 1 (.insert 10), .set 1 (.insert 3), .inject 1,
   .set 0 (.extend_from 1), .endCase]

example :
    let r := run xEnv xR (Sys.init (fun _ => 0) (fun i => if i = 0 then 2 else 3) {}) xOps
    (r.2.map (·.outcome) = [.ok, .ok, .ok, .ok, .ok, .panic .inject, .ok]) ∧
    (r.2.map (·.leaks.length)).getLast? = some 0 := by decide +kernel

example :
    let r := run xEnv xR (Sys.init (fun _ => 0) (fun i => if i = 0 then 2 else 3) {}) xOps.dropLast
    ((r.1.sets 0).len, (r.1.sets 1).len, (r.1.sets 0).slots 1, (r.1.sets 1).slots 0) =
      (2, 0, some (3, ()), none) := by decide +kernel

end Micromap.Props.C04
