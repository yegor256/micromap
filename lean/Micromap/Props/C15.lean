/-
C15 — Clone is an equal, independent copy made with exactly one clone per element.

`cloneInto E src` is the model of `Map::clone` (`Set::clone` is the same function at `V = ()`):
it runs on a fresh local `Raw.new src.cap` (the state's register) with the container being
cloned, `src`, as an immutably borrowed *argument*.  Hence `src` cannot change by construction
(it is not part of the state); the theorems show what ends up in the local, which user
callbacks ran, and what happens when one of them unwinds.
-/
import Micromap.Proofs.EqClone
import Micromap.Proofs.Benign

namespace Micromap.Props.C15
open Micromap SetAlg EqClone
variable {K V Q : Type} (E : Env K V Q)

/-- In a world where no injected fault is armed an operation cannot unwind by injection. -/
theorem no_inj {s s' : St K V Q} {c} (hb : Benign s.w) (h : InjPanic s s' c) : False := h.not_benign hb

/-! ### reading clone effects off a trace -/

/-- the `(source, result)` pairs of the key clones in a trace, in order. -/
def keyClones (tr : List (Event K V Q)) : List (K × K) :=
  tr.filterMap fun | .cloneK a b => some (a, b) | _ => none

/-- the `(source, result)` pairs of the value clones in a trace, in order. -/
def valClones (tr : List (Event K V Q)) : List (V × V) :=
  tr.filterMap fun | .cloneV a b => some (a, b) | _ => none

/-- events that are not clones. -/
def nonClones (tr : List (Event K V Q)) : List (Event K V Q) :=
  tr.filter fun | .cloneK .. => false | .cloneV .. => false | _ => true

/-- the key-clone events of `cloneTrace` are, in slot order, (source key, cloned key). -/
theorem keyClones_cloneTrace : ∀ (l l' : List (K × V)),
    keyClones (cloneTrace E l l') = (l.zip l').map fun pp => (pp.1.1, pp.2.1) := by
  intro l l'
  unfold keyClones cloneTrace clonePairTr cloneVTr
  rw [List.filterMap_flatMap, List.map_eq_flatMap]
  congr; funext pp; cases E.vGlue <;> rfl

/-- the value-clone events of `cloneTrace` are, in slot order, (source value, cloned value) —
    none for `V = ()`. -/
theorem valClones_cloneTrace : ∀ (l l' : List (K × V)),
    valClones (cloneTrace E l l') =
      if E.vGlue then (l.zip l').map fun pp => (pp.1.2, pp.2.2) else [] := by
  intro l l'
  unfold valClones cloneTrace clonePairTr cloneVTr
  rw [List.filterMap_flatMap]
  cases E.vGlue
  · simp
  · simp [List.map_eq_flatMap]

/-- `cloneTrace` contains nothing but clone events. -/
theorem nonClones_cloneTrace : ∀ (l l' : List (K × V)), nonClones (cloneTrace E l l') = [] := by
  intro l l'
  unfold nonClones cloneTrace clonePairTr cloneVTr
  rw [List.filter_flatMap]
  cases E.vGlue <;> simp

/-! ### the clone -/

/-- **Contents and effects.**  In a benign world (any `Eq` oracle: `clone` compares nothing),
    cloning a well-formed `src` (holding `l`) into a fresh local of the same capacity returns,
    and the local then holds a list `l'` of the same length and capacity whose `i`-th entry is
    the user-clone of the `i`-th entry of `src`; the effect trace is exactly
    `cloneTrace E l l'`: for every stored entry, in slot order, one `cloneK src dst` followed (when
    `V ≠ ()`) by one `cloneV src dst`, whose `dst` objects are the entries of `l'`.  All other
    slots of the local are dead.  `src` is an argument and is therefore unchanged. -/
theorem clone_spec {src : Raw K V} {l : List (K × V)} (hsrc : Rep src l) {s : St K V Q}
    (hs : s.r = Raw.new src.cap) (hw : Benign s.w) :
    ∃ s' l', cloneInto E src s = .ok () s' ∧ Rep s'.r l' ∧ s'.r.cap = src.cap ∧
      (∀ j, l'.length ≤ j → s'.r.slots j = none) ∧
      l'.length = l.length ∧
      (∀ i (hi : i < l.length) (hi' : i < l'.length), IsCloneOf E l[i] l'[i]) ∧
      WRel s.w s'.w (cloneTrace E l l') := by
  obtain ⟨s', l', h1, h2, h3, h4, h5⟩ := cloneInto_benign E hsrc hs hw
  exact ⟨s', l', h1, h3.1, h2, h3.2, h4.length_eq, h4.get, h5⟩

/-- **Exactly one clone per key and per value.**  The key-clone events of the run are, in slot
    order, `(l[i].1, l'[i].1)`; the value-clone events are `(l[i].2, l'[i].2)` (none at all for
    `V = ()`); and the run has no other effect (no drop, no closure call, no second clone).
    So every stored key and value is the source of exactly one clone and every object of the
    new container is the result of exactly one. -/
theorem clone_one_per_element (l l' : List (K × V)) (hlen : l'.length = l.length) :
    (keyClones (cloneTrace E l l')).map (·.1) = l.map (·.1) ∧
    (keyClones (cloneTrace E l l')).map (·.2) = l'.map (·.1) ∧
    (valClones (cloneTrace E l l')).map (·.1) = (if E.vGlue then l.map (·.2) else []) ∧
    (valClones (cloneTrace E l l')).map (·.2) = (if E.vGlue then l'.map (·.2) else []) ∧
    nonClones (cloneTrace E l l') = [] := by
  have hz1 : (l.zip l').map (·.1) = l := List.map_fst_zip (by omega)
  have hz2 : (l.zip l').map (·.2) = l' := List.map_snd_zip (by omega)
  have h1 {α} (f : K × V → α) : (l.zip l').map (fun pp => f pp.1) = l.map f := by
    conv => rhs; rw [← hz1, List.map_map]
    rfl
  have h2 {α} (f : K × V → α) : (l.zip l').map (fun pp => f pp.2) = l'.map f := by
    conv => rhs; rw [← hz2, List.map_map]
    rfl
  rw [keyClones_cloneTrace, valClones_cloneTrace, nonClones_cloneTrace]
  refine ⟨by rw [List.map_map]; exact h1 (·.1), by rw [List.map_map]; exact h2 (·.1), ?_, ?_, rfl⟩
  · split
    · rw [List.map_map]; exact h1 (·.2)
    · rfl
  · split
    · rw [List.map_map]; exact h2 (·.2)
    · rfl

/-- the number of clone callbacks: `len` key clones, and `len` value clones (0 for sets). -/
theorem clone_counts (l l' : List (K × V)) (hlen : l'.length = l.length) :
    (keyClones (cloneTrace E l l')).length = l.length ∧
    (valClones (cloneTrace E l l')).length = (if E.vGlue then l.length else 0) := by
  rw [keyClones_cloneTrace, valClones_cloneTrace]
  constructor
  · simp [List.length_zip, hlen]
  · split <;> simp [List.length_zip, hlen]

/-- **The clone compares equal to the original** (list level): with a lawful `Eq`, unique keys,
    and a `Clone` whose results compare equal to their sources (`k.clone() == k`,
    `v.clone() == v` and `v == v.clone()`), `original == clone` and `clone == original`. -/
theorem clone_eq_code (hE : E.Lawful) (hk : ∀ n k, E.keq (E.clK n k) k = true)
    (hv : ∀ n v, E.eqV (E.clV n v) v = true) (hv' : ∀ n v, E.eqV v (E.clV n v) = true)
    {l l' : List (K × V)} (hc : ClonesOf E l l') (hn : NodupKeys E.keq l) :
    mapEqCode E.keq (veq E) l l' = true ∧ mapEqCode E.keq (veq E) l' l = true ∧
      NodupKeys E.keq l' :=
  ⟨mapEqCode_clone hE hk hv hc hn, mapEqCode_clone' hE hk hv' hc hn, hc.nodupKeys hE hk hn⟩

/-- **The clone compares equal to the original** (model level): after `clone`, running
    `Map::eq` on `src` and the new container — in either direction, in any benign state —
    returns `true`; the clone again has unique keys, and represents the same dictionary
    (`MapExtEq`). -/
theorem clone_eq_original (hE : E.Lawful) (hk : ∀ n k, E.keq (E.clK n k) k = true)
    (hv : ∀ n v, E.eqV (E.clV n v) v = true) (hv' : ∀ n v, E.eqV v (E.clV n v) = true)
    {src : Raw K V} {l : List (K × V)} (hsrc : Rep src l) (hn : NodupKeys E.keq l)
    {s : St K V Q} (hs : s.r = Raw.new src.cap) (hw : Benign s.w) :
    ∃ s' l', cloneInto E src s = .ok () s' ∧ Rep s'.r l' ∧ NodupKeys E.keq l' ∧
      MapExtEq E.keq (veq E) l l' ∧
      ∀ t : St K V Q, Benign t.w →
        (∃ t', mapEq E src s'.r t = .ok true t' ∧ t'.r = t.r) ∧
        (∃ t', mapEq E s'.r src t = .ok true t' ∧ t'.r = t.r) := by
  obtain ⟨s', l', h1, h2, h3, h4, h5⟩ := cloneInto_benign E hsrc hs hw
  obtain ⟨e1, e2, hn'⟩ := clone_eq_code E hE hk hv hv' h4 hn
  refine ⟨s', l', h1, h3.1, hn', (mapEqCode_iff hE.equivB (veq E) l l' hn hn').mp e1, fun t ht => ⟨?_, ?_⟩⟩
  · obtain ⟨r, t', g1, g2, _, g4⟩ := (mapEq_cb E hsrc h3.1).benign ht
    rw [g4 hE.toPure, e1] at g1
    exact ⟨t', g1, g2⟩
  · obtain ⟨r, t', g1, g2, _, g4⟩ := (mapEq_cb E h3.1 hsrc).benign ht
    rw [g4 hE.toPure, e2] at g1
    exact ⟨t', g1, g2⟩

/-- the objects (keys and values) a list of entries owns. -/
def objsOf (l : List (K × V)) : List (Obj K V) := l.flatMap fun p => [.k p.1, .v p.2]

/-- the objects destroyed by a trace. -/
def droppedObjs (tr : List (Event K V Q)) : List (Obj K V) :=
  tr.filterMap fun | .dropK k => some (.k k) | .dropV v => some (.v v) | _ => none

/-- dropping a list of entries destroys exactly the objects it owns, each once, in slot order. -/
theorem droppedObjs_dropTrace (hg : E.vGlue = true) : ∀ l : List (K × V),
    droppedObjs (dropTrace E l : List (Event K V Q)) = objsOf l
  | [] => rfl
  | p :: l => by
    have ih := droppedObjs_dropTrace hg l
    unfold droppedObjs dropTrace objsOf at ih ⊢
    rw [List.flatMap_cons, List.filterMap_append, ih]
    simp [dropVTr, hg]

/-- **Independence.**  The new container lives in a different register (the state of the run),
    `src` is a value the run cannot write to, and the two share no object: the entries of the
    clone are exactly the `dst` objects of the clone events (`clone_one_per_element`).
    Consequently destroying either container destroys only its own objects, each exactly once:
    dropping the clone yields the drop effects of `l'`, dropping the original those of `l`,
    and neither run can reach `ub` (no slot is dropped twice). -/
theorem clone_independent {src : Raw K V} {l : List (K × V)} (hsrc : Rep src l) {s : St K V Q}
    (hs : s.r = Raw.new src.cap) (hw : Benign s.w) :
    ∃ s' l', cloneInto E src s = .ok () s' ∧ Rep s'.r l' ∧ Rep src l ∧
      keyClones (cloneTrace E l l') = (l.zip l').map (fun pp => (pp.1.1, pp.2.1)) ∧
      WRel s.w s'.w (cloneTrace E l l') ∧
      -- dropping the clone (in the world after the clone)
      (∃ s2, dropMap E s' = .ok () s2 ∧ WRel s'.w s2.w (dropTrace E l') ∧
        (E.vGlue = true → droppedObjs (dropTrace E l' : List (Event K V Q)) = objsOf l')) ∧
      -- dropping the original instead
      (∃ s3, dropMap E ⟨src, s'.w⟩ = .ok () s3 ∧ WRel s'.w s3.w (dropTrace E l) ∧
        (E.vGlue = true → droppedObjs (dropTrace E l : List (Event K V Q)) = objsOf l)) := by
  obtain ⟨s', l', h1, h2, _, _, _, _, h7⟩ := clone_spec E hsrc hs hw
  have hw' : Benign s'.w := h7.benign hw
  refine ⟨s', l', h1, h2, hsrc, keyClones_cloneTrace E l l', h7, ?_, ?_⟩
  · obtain ⟨s2, g1, _, _, _, g5⟩ := dropMap_benign E h2 hw'
    exact ⟨s2, g1, g5, fun hg => droppedObjs_dropTrace E hg l'⟩
  · obtain ⟨s3, g1, _, _, _, g5⟩ := dropMap_benign E (s := ⟨src, s'.w⟩) hsrc hw'
    exact ⟨s3, g1, g5, fun hg => droppedObjs_dropTrace E hg l⟩

/-- **Exception safety: any `Eq` oracle, any injection point, any `Clone` results.**
    `clone` of a memory-safe `src` never reaches `ub`.  It either returns with a well-formed
    local of the same capacity holding an element-wise clone, or unwinds — only by an injected
    panic inside a user `clone` — and then the partially built local has been dropped: no slot
    of it is live any more, the objects `lq` it held were dropped (their drop effects end the
    trace), and the fresh key of a pair whose value clone panicked was dropped by `clonePair`.
    (The repaired `clone` publishes `len` slot by slot: the loop invariant is `Rep local prefix`.) -/
theorem clone_exception_safe {src : Raw K V} (hsrc : Safe src) {s : St K V Q}
    (hs : s.r = Raw.new src.cap) :
    Sat (cloneInto E src) s
      (fun _ s' => Safe s'.r ∧ s'.r.cap = src.cap ∧ s'.r.len = src.len)
      (fun c s' => InjPanic s s' c ∧ s'.r.cap = src.cap ∧ (∀ j, s'.r.slots j = none) ∧
        ∃ lq tr, Dropped s'.r lq ∧ WRel s.w s'.w (tr ++ dropTrace E lq)) := by
  have hf : Fresh s.r [] := hs ▸ Fresh.new _
  refine Sat.mono (cloneInto_sat E hsrc.rep hf (by rw [hs]; rfl)) ?_ ?_
  · intro _ s' ⟨h1, l', h2, h3, _⟩
    exact ⟨h2.1.safe, h1, by rw [h2.1.1, h3.length_eq, hsrc.rep.1]⟩
  · intro c s' ⟨h1, h2, h3, h4⟩
    exact ⟨h2, h1, h3, h4⟩

/-! ### sets: `V = ()` -/

/-- **`Set::clone`.**  The same function at `V = ()` (`E.toUnit`, no value glue): one `cloneK`
    per element in slot order and nothing else; the new set holds exactly the cloned keys. -/
theorem set_clone_spec {src : Raw K Unit} {l : List (K × Unit)} (hsrc : Rep src l)
    {s : St K Unit Q} (hs : s.r = Raw.new src.cap) (hw : Benign s.w) :
    ∃ s' l', cloneInto E.toUnit src s = .ok () s' ∧ Rep s'.r l' ∧ s'.r.cap = src.cap ∧
      l'.length = l.length ∧
      (∀ i (hi : i < l.length) (hi' : i < l'.length), ∃ n, l'[i].1 = E.clK n l[i].1) ∧
      WRel s.w s'.w ((l.zip l').map fun pp => Event.cloneK pp.1.1 pp.2.1) := by
  obtain ⟨s', l', h1, h2, h3, _, h5, h6, h7⟩ := clone_spec E.toUnit hsrc hs hw
  refine ⟨s', l', h1, h2, h3, h5, fun i hi hi' => (h6 i hi hi').1, ?_⟩
  have : cloneTrace E.toUnit l l' = (l.zip l').map fun pp => Event.cloneK pp.1.1 pp.2.1 := by
    unfold cloneTrace
    rw [List.map_eq_flatMap]; rfl
  rw [← this]; exact h7

/-! Non-vacuity: concrete data meeting the hypotheses (tests, not proofs). -/

def exEnv : Env Nat Nat Nat :=
  { eqK := fun _ a b => a % 10 == b % 10, eqQ := fun _ a b => a % 10 == b % 10,
    eqV := fun a b => a % 10 == b % 10, borrow := id,
    clK := fun n k => k + 10 * (n + 1), clV := fun n v => v + 10 * (n + 1) }

def exSrc : Raw Nat Nat :=
  { cap := 3, len := 2, slots := fun i => if i = 0 then some (7, 1) else if i = 1 then some (8, 2) else none }

example : Rep exSrc [(7, 1), (8, 2)] :=
  ⟨rfl, by decide, fun i hi => match i, hi with | 0, _ => rfl | 1, _ => rfl⟩
example : ∀ n k, exEnv.keq (exEnv.clK n k) k = true := by
  intro n k; simp [Env.keq, exEnv]
example : ∀ n v, exEnv.eqV (exEnv.clV n v) v = true := by
  intro n v; simp [exEnv]
example : ∀ n v, exEnv.eqV v (exEnv.clV n v) = true := by
  intro n v; simp [exEnv]
example : NodupKeys exEnv.keq [(7, 1), (8, 2)] := by
  unfold NodupKeys NodupB; decide
example : Benign ({} : World Nat Nat Nat) := ⟨rfl, rfl⟩
end Micromap.Props.C15
