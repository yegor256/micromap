/-
C05 — Keys stay unique and `len()` always equals what iteration yields.

`run` is the function the driver executes against the real crate; `SysInv` says that every map
and set register satisfies `Inv`: its live prefix is a well-defined list (`Rep`, so `len ≤ cap`
and every slot below `len` is live) whose keys are pairwise unequal when the key type is lawful.
The history theorem covers the WHOLE safe operation language (`Op.safeApi`: every `Map`, `Set`,
entry, iterator, drain, set-algebra, clone, bulk-construction operation; only the two `unsafe fn`s
are excluded), every capacity, both profiles, and every outcome of every step — including steps
that ended in a panic raised by the container itself (overflow, missing index, overlapping keys)
or by injected user code.
-/
import Micromap.Proofs.SysInv
import Micromap.Proofs.Benign

namespace Micromap.Props.C05
open Micromap SetAlg Dict
variable {K V Q : Type} (E : Env K V Q) (R : Render K V)

/-- **Every reachable state is well-formed.**  From `new()` registers of any capacities, after any
    history of safe operations, every register satisfies the invariant. -/
theorem run_wf (capM capS : Nat → Nat) (w : World K V Q) (ops : List (Op K V Q))
    (hops : ∀ op, op ∈ ops → op.safeApi = true) :
    SysInv E (run E R (Sys.init capM capS w) ops).1 :=
  (run_inv E R ops _ (SysInv.init E capM capS w) hops).2

/-- the same from any well-formed state (so also: after every prefix of a history). -/
theorem run_wf_from {sys : Sys K V Q} (hs : SysInv E sys) (ops : List (Op K V Q))
    (hops : ∀ op, op ∈ ops → op.safeApi = true) : SysInv E (run E R sys ops).1 :=
  (run_inv E R ops sys hs hops).2

/-- one step, whatever its outcome (return, the container's own panic, an injected panic). -/
theorem step_wf {sys : Sys K V Q} (hs : SysInv E sys) (op : Op K V Q) (hop : op.safeApi = true) :
    SysInv E (step E R sys op).1 :=
  (step_inv E R hs op hop).2

/-- What the invariant means for the caller, for a lawful key type whose `Clone` respects `Eq`:
    iteration yields exactly `len()` entries, their keys are pairwise unequal, `is_empty()` is
    `len() == 0`, and `len() ≤ capacity()`. -/
theorem inv_observables (hg : E.Good) {r : Raw K V} (h : Inv E r) (s : St K V Q) :
    entriesOf r s = .ok r.abs s ∧ r.abs.length = r.len ∧ NodupKeys E.keq r.abs ∧
    r.len ≤ r.cap ∧ ((r.len == 0) = true ↔ r.abs = []) := by
  obtain ⟨hr, hn⟩ := h.abs
  refine ⟨Refine.entriesOf_ok hr s, hr.1.symm, hn hg, hr.safe.1, ?_⟩
  rw [hr.1]
  cases r.abs <;> simp

/-- every yielded key can be looked up and returns the value yielded with it: `get(&k)` for the
    key of the `i`-th yielded entry finds slot `i` and returns that very entry. -/
theorem yielded_key_found (hg : E.Good) {s : St K V Q} (h : Inv E s.r) (hb : Benign s.w) {i : Nat}
    (hi : i < s.r.abs.length) :
    ∃ s', get E (.key s.r.abs[i].1) s = .ok (some (i, s.r.abs[i])) s' ∧ s'.r = s.r := by
  obtain ⟨hr, hn⟩ := h.abs
  obtain ⟨s', hm, hs, _⟩ := get_of_hit E hg.1 hr (hn hg) hb (.key s.r.abs[i].1) hi (hg.1.refl _)
  exact ⟨s', hm, hs⟩

/-- the same by the borrowed form of the yielded key. -/
theorem yielded_key_found_borrowed (hg : E.Good) {s : St K V Q} (h : Inv E s.r) (hb : Benign s.w)
    {i : Nat} (hi : i < s.r.abs.length) :
    ∃ s', get E (.q (E.borrow s.r.abs[i].1)) s = .ok (some (i, s.r.abs[i])) s' ∧ s'.r = s.r := by
  obtain ⟨hr, hn⟩ := h.abs
  obtain ⟨s', hm, hs, _⟩ := get_of_hit E hg.1 hr (hn hg) hb (.q (E.borrow s.r.abs[i].1)) hi
    (by rw [hitP_borrow hg.1]; exact hg.1.refl _)
  exact ⟨s', hm, hs⟩

/-- all of it for every register after every history. -/
theorem reachable_observables (hg : E.Good) (capM capS : Nat → Nat) (w : World K V Q)
    (ops : List (Op K V Q)) (hops : ∀ op, op ∈ ops → op.safeApi = true) (i : Nat) :
    let sys := (run E R (Sys.init capM capS w) ops).1
    (sys.maps i).abs.length = (sys.maps i).len ∧ NodupKeys E.keq (sys.maps i).abs ∧
    (sys.maps i).len ≤ (sys.maps i).cap ∧
    (sys.sets i).abs.length = (sys.sets i).len ∧ NodupKeys E.toUnit.keq (sys.sets i).abs ∧
    (sys.sets i).len ≤ (sys.sets i).cap := by
  intro sys
  have h := run_wf E R capM capS w ops hops
  obtain ⟨hm, hn⟩ := (h.1 i).abs
  obtain ⟨hm', hn'⟩ := (h.2 i).abs
  exact ⟨hm.1.symm, hn hg, hm.safe.1, hm'.1.symm, hn' hg.toUnit, hm'.safe.1⟩

/-! ### non-vacuity (tests) -/

def exEnv : Env (Nat × Nat) Nat Nat :=
  { eqK := fun _ a b => a.1 == b.1, eqQ := fun _ a b => a == b, eqV := fun a b => a == b,
    borrow := fun a => a.1, clK := fun n k => (k.1, n), clV := fun _ v => v }

theorem exEnv_good : exEnv.Good :=
  ⟨.of_proj Prod.fst id (fun _ _ _ => rfl) (fun _ _ _ => rfl) (fun _ => rfl), fun _ k => beq_self_eq_true k.1⟩

example : (Op.map 0 (.insert (1, 1) 5) : Op (Nat × Nat) Nat Nat).safeApi = true := rfl
example : (Op.map 0 (.entry (1, 1) [] (.or_insert 5)) : Op (Nat × Nat) Nat Nat).safeApi = true := rfl
example : (Op.set 1 (.alg .union 0 [.next, .hint, .fold]) : Op (Nat × Nat) Nat Nat).safeApi = true := rfl
example : (Op.map 0 (.insert_unchecked (1, 1) 5) : Op (Nat × Nat) Nat Nat).safeApi = false := rfl

end Micromap.Props.C05
