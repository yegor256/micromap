/-
C06 — No heap: operations never allocate; elements live inside the container value.
PARTIAL (level "other").

What no executable model of the data structure can say: that the compiled crate performs no
allocator call and links without `std` is a fact about rustc/LLVM output and the linked crates.
The correspondence check MEASURES it on every run (a counting global allocator around every
operation: `al = 0` on every non-panicking operation with non-allocating element types; the
library is built with default features = `no_std` and with `std`); nothing here proves it.

What the technique can say, and does:
 (i)  in the model a reference IS a slot position of the container it came from, and every
      position handed out is below `len ≤ cap` — inside the bytes of the container value (the
      harness turns every returned address into a slot position and an `inside` flag and the
      comparator requires `inside = 1` and equal positions);
 (ii) the model has no allocation effect: the only effects of an operation are the callbacks
      into user code listed in `Event` (drop, clone, `==`, closure call, source `next`);
 (iii) the import frontier of the crate's non-test code, regenerated from /repo on every run by
      `tools/srcscan.py` into `Gen/Frontier.lean`, names only `core`, the crate itself and (under
      the feature) `serde`; no `extern crate`, no heap-owning std type, the `no_std` attribute is there.
-/
import Micromap.Gen.Frontier
import Micromap.Proofs.MapApi
import Micromap.Proofs.Disjoint
import Micromap.Proofs.Iters

namespace Micromap.Props.C06
open Micromap
variable {K V Q : Type} (E : Env K V Q)

/-! ### (iii) the regenerated import frontier (finite table, decided completely) -/

/-- every `use` / qualified path of the non-test code is rooted in `core`, the crate itself, or
    `serde` (the optional dependency behind the `serde` feature) — never `std` or `alloc`. -/
theorem frontier_ok : ∀ p ∈ Gen.frontier, p.2 = .core ∨ p.2 = .crate_ ∨ p.2 = .serde := by decide

theorem no_extern_crate : Gen.externCrates = [] := by decide

theorem no_heap_names : Gen.heapNames = [] := by decide

theorem no_std_attr_present : Gen.noStdAttr = true := by decide

/-! ### (i) references are slot positions inside the container -/

/-- `get` / `get_key_value` / `Set::get`: the reference points at a slot below `len ≤ cap`. -/
theorem get_ref_inside {s : St K V Q} (hs : Safe s.r) (pr : Probe K Q) :
    Sat (get E pr) s (fun o _ => ∀ i p, o = some (i, p) → i < s.r.len ∧ s.r.len ≤ s.r.cap)
      (fun _ _ => True) := by
  refine Sat.mono (get_sat E hs.rep pr) ?_ (fun _ _ _ => trivial)
  intro o s' ⟨_, _, h3, _⟩ i p hip
  obtain ⟨hi, _⟩ := h3 i p hip
  exact ⟨by rw [hs.rep.1]; exact hi, hs.1⟩

/-- `get_mut`: likewise. -/
theorem get_mut_ref_inside {s : St K V Q} (hs : Safe s.r) (pr : Probe K Q) (g : V → V) :
    Sat (get_mut E pr g) s (fun o _ => ∀ i p, o = some (i, p) → i < s.r.len ∧ s.r.len ≤ s.r.cap)
      (fun _ _ => True) := by
  refine Sat.mono (get_mut_sat E hs.rep pr g) ?_ (fun _ _ _ => trivial)
  intro o s' ⟨_, _, h3, _⟩ i p hip
  rcases h3 with ⟨hn, _⟩ | ⟨j, hj, hoj, _⟩
  · rw [hn] at hip; cases hip
  · rw [hoj] at hip; cases hip
    exact ⟨by rw [hs.rep.1]; exact hj, hs.1⟩

/-- indexing: likewise. -/
theorem index_ref_inside {s : St K V Q} (hs : Safe s.r) (pr : Probe K Q) :
    Sat (index E pr) s (fun r _ => r.1 < s.r.len ∧ s.r.len ≤ s.r.cap) (fun _ _ => True) := by
  refine Sat.mono (index_sat E hs.rep pr) ?_ (fun _ _ _ => trivial)
  intro r s' ⟨_, _, ⟨hi, _⟩, _⟩
  exact ⟨by rw [hs.rep.1]; exact hi, hs.1⟩

/-- `get_disjoint_mut`: every reference handed out is a distinct slot below `len`. -/
theorem disjoint_refs_inside {s : St K V Q} (hs : Safe s.r) (ks : List (Probe K Q)) :
    Sat (get_disjoint_mut E ks) s
      (fun res _ => (∀ (t j : Nat), res[t]? = some (some j) → j < s.r.len) ∧ Disjoint.NoAlias res)
      (fun _ _ => True) := by
  refine Sat.mono (Disjoint.checked_sat E hs.rep ks) ?_ (fun _ _ _ => trivial)
  intro res s' ⟨_, _, _, h4, h5, _⟩
  exact ⟨fun t j h => by rw [hs.rep.1]; exact h4 t j h, h5⟩

/-- borrowing iterators: the `k`-th item is a reference into slot `k < len`. -/
theorem iter_item_inside {r : Raw K V} {l : List (K × V)} (hr : Rep r l) {k : Nat} (hk : k < l.length)
    (s : St K V Q) :
    iterNextR r ⟨k, l.length⟩ s = .ok (some (k, l[k]), ⟨k + 1, l.length⟩) s ∧ k < r.len ∧ r.len ≤ r.cap :=
  ⟨Iters.iterNextR_lt hr hk s, by rw [hr.1]; exact hk, hr.safe.1⟩

/-! ### (ii) the effects of the model -/

/-- every effect an operation can have on the outside world is a call into user code: there is
    no allocation event (the model cannot even express one). -/
theorem events_exhaustive (e : Event K V Q) :
    (∃ k, e = .dropK k) ∨ (∃ v, e = .dropV v) ∨ (∃ a b, e = .cloneK a b) ∨ (∃ a b, e = .cloneV a b) ∨
    (∃ a b r, e = .eqK a b r) ∨ (∃ a b r, e = .eqQ a b r) ∨ (∃ a b r, e = .eqV a b r) ∨
    (∃ t, e = .call t) ∨ e = .pull := by
  cases e with
  | dropK k => exact Or.inl ⟨k, rfl⟩
  | dropV v => exact Or.inr (Or.inl ⟨v, rfl⟩)
  | cloneK a b => exact Or.inr (Or.inr (Or.inl ⟨a, b, rfl⟩))
  | cloneV a b => exact Or.inr (Or.inr (Or.inr (Or.inl ⟨a, b, rfl⟩)))
  | eqK a b r => exact Or.inr (Or.inr (Or.inr (Or.inr (Or.inl ⟨a, b, r, rfl⟩))))
  | eqQ a b r => exact Or.inr (Or.inr (Or.inr (Or.inr (Or.inr (Or.inl ⟨a, b, r, rfl⟩)))))
  | eqV a b r => exact Or.inr (Or.inr (Or.inr (Or.inr (Or.inr (Or.inr (Or.inl ⟨a, b, r, rfl⟩))))))
  | call t => exact Or.inr (Or.inr (Or.inr (Or.inr (Or.inr (Or.inr (Or.inr (Or.inl ⟨t, rfl⟩)))))))
  | pull => exact Or.inr (Or.inr (Or.inr (Or.inr (Or.inr (Or.inr (Or.inr (Or.inr rfl)))))))

end Micromap.Props.C06
