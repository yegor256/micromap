/-
C10 — Consuming iterators and drain yield exactly the contents; drain always empties.

Property theorems only (helper lemmas live in `Micromap/Proofs/Iters.lean`).  All statements are
about the L0 model functions `intoIterNext`, `intoIterNextK`, `intoIterTake`, `intoIterOp`,
`drainStart`, `drainNext`, `drainTake`, `drainOp` that `step` executes for `into_iter`, `into_keys`,
`into_values`, `drain` (and, at `V = Unit` with `E.vGlue = false`, for `SetIntoIter` / `SetDrain`:
the theorems are generic in `V` and `E`).  They hold for every capacity and every content `l`
(any state with `Rep s.r l`), every `Env`, both profiles; the world is `Benign` where an exact
result is claimed and arbitrary (injection armed at any callback) in the exception-safety versions.
-/
import Micromap.Proofs.Iters
import Micromap.Proofs.StdIter

namespace Micromap.Props.C10
open Micromap Micromap.Iters
variable {K V Q : Type} (E : Env K V Q)

/-- In a world where no injected fault is armed an operation cannot unwind by injection. -/
theorem no_inj {s s' : St K V Q} {c} (hb : Benign s.w) (h : InjPanic s s' c) : False := h.not_benign hb

/-- `IntoIter::next` pops from the end: on a non-empty map it returns the entry in the last live
    slot and leaves the map without it (`len` one smaller: the exact remaining length); on an empty
    map it returns `None` and changes nothing.  No callback: this holds in every world. -/
theorem into_iter_next {s : St K V Q} {l : List (K × V)} (hr : Rep s.r l) :
    ∃ s', intoIterNext s = .ok l.getLast? s' ∧ Rep s'.r l.dropLast ∧ s'.r.cap = s.r.cap ∧
      s'.w = s.w ∧ (l = [] → s' = s) :=
  intoIterNext_spec hr

/-- the non-empty case spelled out: `some l[|l|-1]`. -/
theorem into_iter_next_nonempty {s : St K V Q} {l : List (K × V)} (hr : Rep s.r l) (hne : 0 < l.length) :
    ∃ s', intoIterNext s = .ok (some (l[l.length - 1]'(by omega))) s' ∧ Rep s'.r l.dropLast ∧
      s'.r.len = l.length - 1 := by
  obtain ⟨s', e, h1, _⟩ := intoIterNext_spec hr
  rw [getLast?_eq_getElem hne] at e
  exact ⟨s', e, h1, by rw [h1.1]; simp⟩

/-- after the end: `None` forever (each further call returns `None` and leaves the state as is). -/
theorem into_iter_none_forever {s : St K V Q} (hr : Rep s.r []) (kind : IntoKind) (n : Nat) :
    intoIterNext s = .ok none s ∧ intoIterTake E kind n s = .ok [] s := by
  obtain ⟨s', e, _, _, _, h⟩ := intoIterNext_spec hr
  have e' : intoIterNext s = .ok none s := by rw [e, h rfl]; rfl
  refine ⟨e', ?_⟩
  cases n with
  | zero => rfl
  | succ n => simp [intoIterTake, intoIterNextK, e']

/-- `into_iter()` followed by `n` calls of `next`, in EVERY world (pairs are handed out whole, no
    user code runs): the items are the last `n` entries, last first — each entry at most once, and
    nothing that was not stored; what is left in the map is the untouched front, so `len()` of the
    iterator is exactly `|l| - n`. -/
theorem into_iter_take_pairs (n : Nat) {s : St K V Q} {l : List (K × V)} (hr : Rep s.r l) :
    ∃ s', intoIterTake E .pairs n s = .ok (l.reverse.take n) s' ∧
      Rep s'.r (l.take (l.length - n)) ∧ s'.r.len = l.length - n ∧ s'.r.cap = s.r.cap := by
  obtain ⟨a, s', e, h1, h2, h3, _⟩ := (intoIterTake_sat E .pairs n s l hr).must_return (by
    intro c s' ⟨_, h⟩; exact h rfl)
  subst h1
  exact ⟨s', e, h2, by rw [h2.1, List.length_take]; omega, h3⟩

/-- `into_keys()` / `into_values()` (and `into_iter()`) in a benign world: the same items in the
    same order, the same remainder, and the effects are exactly one drop of the discarded half
    (`dropV` of the value for `into_keys`, `dropK` of the key for `into_values`, nothing for
    `into_iter`) per yielded item, in yield order. -/
theorem into_iter_take (kind : IntoKind) (n : Nat) {s : St K V Q} {l : List (K × V)} (hr : Rep s.r l)
    (hb : Benign s.w) :
    ∃ s', intoIterTake E kind n s = .ok (l.reverse.take n) s' ∧
      Rep s'.r (l.take (l.length - n)) ∧ s'.r.len = l.length - n ∧ s'.r.cap = s.r.cap ∧
      WRel s.w s'.w ((l.reverse.take n).flatMap (discardTr E kind)) := by
  obtain ⟨a, s', e, h1, h2, h3, h4⟩ := (intoIterTake_sat E kind n s l hr).must_return (by
    intro c s' ⟨⟨_, h, _⟩, _⟩; exact no_inj hb h)
  subst h1
  exact ⟨s', e, h2, by rw [h2.1, List.length_take]; omega, h3, h4⟩

/-- the discarded halves: `IntoKeys` drops each yielded entry's value once (nothing when `V` has no
    drop glue, e.g. `V = ()` for sets), `IntoValues` drops each yielded entry's key once. -/
theorem discarded_halves (p : K × V) :
    discardTr E .pairs p = [] ∧ discardTr E .keys p = dropVTr E p.2 ∧
    discardTr E .values p = [.dropK p.1] ∧
    (E.vGlue = true → discardTr E .keys p = [.dropV p.2]) ∧
    (E.vGlue = false → discardTr E .keys p = []) := by
  refine ⟨rfl, rfl, rfl, fun h => ?_, fun h => ?_⟩ <;> simp [discardTr, dropVTr, h]

/-- consuming the iterator to the end yields every entry exactly once — the list `l` reversed —
    and leaves the map empty. -/
theorem into_iter_all (kind : IntoKind) {n : Nat} {s : St K V Q} {l : List (K × V)} (hr : Rep s.r l)
    (hb : Benign s.w) (hn : l.length ≤ n) :
    ∃ s', intoIterTake E kind n s = .ok l.reverse s' ∧ Rep s'.r [] := by
  obtain ⟨s', e, h1, _⟩ := into_iter_take E kind n hr hb
  rw [List.take_of_length_le (by simpa using hn)] at e
  have : l.length - n = 0 := by omega
  rw [this, List.take_zero] at h1
  exact ⟨s', e, h1⟩

/-- nothing is lost and nothing is invented at any cut point: the front that is still in the map
    followed by the yielded items in reverse yield order is the original list. -/
theorem into_iter_partition (l : List (K × V)) (n : Nat) :
    l.take (l.length - n) ++ (l.reverse.take n).reverse = l := by
  rw [List.take_reverse, List.reverse_reverse, List.take_append_drop]

/-- exception safety of `next`: in any world, if the drop of a discarded half unwinds, the map
    behind the iterator is still well-formed (a shorter front of `l`); never `ub`. -/
theorem into_iter_take_any_world (kind : IntoKind) (n : Nat) {s : St K V Q} {l : List (K × V)}
    (hr : Rep s.r l) :
    Sat (intoIterTake E kind n) s
      (fun items s' => items = l.reverse.take n ∧ Rep s'.r (l.take (l.length - n)) ∧ s'.r.cap = s.r.cap)
      (fun c s' => InjPanic s s' c ∧ s'.r.cap = s.r.cap ∧ ∃ m, m < l.length ∧ Rep s'.r (l.take m)) :=
  Sat.mono (intoIterTake_sat E kind n s l hr) (fun _ _ ⟨h1, h2, h3, _⟩ => ⟨h1, h2, h3⟩)
    (fun _ _ ⟨⟨h1, h2, h4⟩, _⟩ => ⟨h2, h1, h4⟩)

/-- the composite operation (`into_*()`, `take` calls of `next`, then the iterator is dropped or
    forgotten) in ANY world: never `ub`; whether it returns or unwinds, the register afterwards holds
    a fresh `new()` of the same capacity — the map was consumed, exactly. -/
theorem into_iter_op_any_world (kind : IntoKind) (take : Nat) (forget : Bool) {s : St K V Q}
    {l : List (K × V)} (hr : Rep s.r l) :
    Sat (intoIterOp E kind take forget) s
      (fun res s' => res = (l.reverse.take take, l.length - take, l.take (l.length - take)) ∧
        s'.r = Raw.new s.r.cap)
      (fun c s' => s'.r = Raw.new s.r.cap ∧ InjPanic s s' c) :=
  Sat.mono (intoIterOp_sat E kind take forget hr) (fun _ _ ⟨h1, h2, _⟩ => ⟨h1, h2⟩) (fun _ _ h => h)

/-- the composite operation in a benign world: it returns the yielded items (last `take` entries,
    last first), the exact `len()` afterwards and the entries `Debug` shows (the untouched front);
    the effects are exactly: one drop of the discarded half per yielded item, then — unless the
    iterator is forgotten — one drop of every entry still in the map, in slot order.  Every entry
    is thus either yielded or dropped (or leaked by `forget`), none twice. -/
theorem into_iter_op (kind : IntoKind) (take : Nat) (forget : Bool) {s : St K V Q}
    {l : List (K × V)} (hr : Rep s.r l) (hb : Benign s.w) :
    ∃ s', intoIterOp E kind take forget s =
        .ok (l.reverse.take take, l.length - take, l.take (l.length - take)) s' ∧
      s'.r = Raw.new s.r.cap ∧
      WRel s.w s'.w ((l.reverse.take take).flatMap (discardTr E kind) ++
        if forget then [] else dropTrace E (l.take (l.length - take))) :=
  intoIterOp_benign E kind take forget hr hb

/-- `drain()` publishes `len = 0` at once, reports the old length to the iterator (its `len()`
    before the first step is `|l|`) and touches no slot, the capacity or the world. -/
theorem drain_start {s : St K V Q} {l : List (K × V)} (hr : Rep s.r l) :
    ∃ s', drainStart s = .ok l.length s' ∧ s'.r.len = 0 ∧ s'.r.slots = s.r.slots ∧
      s'.r.cap = s.r.cap ∧ s'.w = s.w :=
  ⟨_, drainStart_ok hr, rfl, rfl, rfl, rfl⟩

/-- `n` calls of `Drain::next` after `drain()`: the first `n` entries in slot order, each once; the
    range still owned by the `Drain` is `[min n |l|, |l|)`, so its `len()` is exactly `|l| - n`; the
    container's `len` stays `0`. -/
theorem drain_take (n : Nat) {s : St K V Q} {l : List (K × V)} (hr : Rep s.r l) :
    ∃ s', (drainStart >>= fun hi => drainTake n 0 hi) s = .ok (l.take n, min n l.length) s' ∧
      s'.r.len = 0 ∧ s'.r.cap = s.r.cap ∧ s'.w = s.w ∧
      l.length - min n l.length = l.length - n := by
  obtain ⟨s', e, h1, h2, h3, _⟩ := drainTake_spec n l 0 l.length
    ({ s with r := { s.r with len := 0 } } : St K V Q) (Owns.drained hr)
  refine ⟨s', ?_, h2, h3, h1, by omega⟩
  simp only [bind_apply, drainStart_ok hr, e, Nat.zero_add]

/-- `Drain::next` on an exhausted range returns `None` and changes nothing: `None` forever. -/
theorem drain_next_none_forever (n : Nat) (s : St K V Q) (m : Nat) :
    drainNext n n s = .ok none s ∧ drainTake m n n s = .ok ([], n) s := by
  have h := drainNext_end (lo := n) (hi := n) (by simp) s
  refine ⟨h, ?_⟩
  cases m with
  | zero => rfl
  | succ m => simp [drainTake, h]

/-- the composite operation `drain()`, `take` calls of `next`, then drop or forget the `Drain`, in
    ANY world (an element's `Drop` may unwind at any point) and for EVERY `take` and both endings:
    never `ub`, and — returning or unwinding — the container is empty (`Rep s'.r []`) with its
    capacity unchanged.  Since every operation's behaviour is determined by `Rep`, the drained
    container is indistinguishable from `new()`: fully reusable. -/
theorem drain_always_empties (take : Nat) (forget : Bool) {s : St K V Q} {l : List (K × V)}
    (hr : Rep s.r l) :
    Sat (drainOp E take forget) s
      (fun res s' => res = (l.take take, l.length - take, l.drop take) ∧ Rep s'.r [] ∧ s'.r.cap = s.r.cap)
      (fun c s' => Rep s'.r [] ∧ s'.r.cap = s.r.cap ∧ InjPanic s s' c) :=
  Sat.mono (drainOp_sat E take forget hr) (fun _ _ ⟨h1, h2, h3, _⟩ => ⟨h1, h2, h3⟩)
    (fun _ _ ⟨h1, h2, h3, _⟩ => ⟨h1, h2, h3⟩)

/-- the composite operation in a benign world: it returns the first `take` entries in slot order,
    the exact `len()` of the `Drain` at that point and what its `Debug` shows (`l.drop take`);
    dropping the `Drain` drops exactly the entries not yielded, once each, in slot order;
    forgetting it drops nothing (they leak — no double drop either way).  The map is empty. -/
theorem drain_op (take : Nat) (forget : Bool) {s : St K V Q} {l : List (K × V)} (hr : Rep s.r l)
    (hb : Benign s.w) :
    ∃ s', drainOp E take forget s = .ok (l.take take, l.length - take, l.drop take) s' ∧
      Rep s'.r [] ∧ s'.r.cap = s.r.cap ∧
      WRel s.w s'.w (if forget then [] else dropTrace E (l.drop take)) :=
  drainOp_benign E take forget hr hb

/-- the two endings separately — dropped `Drain`: the entries not yielded are dropped once each, in
    slot order … -/
theorem drain_op_drop (take : Nat) {s : St K V Q} {l : List (K × V)} (hr : Rep s.r l) (hb : Benign s.w) :
    ∃ s', drainOp E take false s = .ok (l.take take, l.length - take, l.drop take) s' ∧
      Rep s'.r [] ∧ WRel s.w s'.w (dropTrace E (l.drop take)) := by
  obtain ⟨s', e, h1, _, h2⟩ := drain_op E take false hr hb
  exact ⟨s', e, h1, by simpa using h2⟩

/-- … forgotten `Drain`: no drop at all (the rest leaks), the map is empty all the same. -/
theorem drain_op_forget (take : Nat) {s : St K V Q} {l : List (K × V)} (hr : Rep s.r l) (hb : Benign s.w) :
    ∃ s', drainOp E take true s = .ok (l.take take, l.length - take, l.drop take) s' ∧
      Rep s'.r [] ∧ WRel s.w s'.w [] := by
  obtain ⟨s', e, h1, _, h2⟩ := drain_op E take true hr hb
  exact ⟨s', e, h1, by simpa using h2⟩

/-- a fully consumed drain yields exactly the contents, in slot order. -/
theorem drain_all {take : Nat} (forget : Bool) {s : St K V Q} {l : List (K × V)} (hr : Rep s.r l)
    (hb : Benign s.w) (hn : l.length ≤ take) :
    ∃ s', drainOp E take forget s = .ok (l, 0, []) s' ∧ Rep s'.r [] ∧ WRel s.w s'.w [] := by
  obtain ⟨s', e, h1, _, h2⟩ := drain_op E take forget hr hb
  rw [List.take_of_length_le hn, List.drop_eq_nil_of_le hn, show l.length - take = 0 by omega] at e
  refine ⟨s', e, h1, ?_⟩
  rw [List.drop_eq_nil_of_le hn] at h2
  cases forget <;> simpa [dropTrace] using h2

/-- nothing lost, nothing invented at any cut point: yielded prefix ++ dropped (or leaked) rest is
    the original list. -/
theorem drain_partition (l : List (K × V)) (take : Nat) : l.take take ++ l.drop take = l :=
  List.take_append_drop take l

/-- reuse: after a drain — however much of it was consumed, dropped or forgotten — the container
    accepts an insertion exactly as a fresh one does: with room for one entry, `insert` returns
    `None` and the map holds just that entry. -/
theorem drain_then_insert (take : Nat) (forget : Bool) {s : St K V Q} {l : List (K × V)}
    (hr : Rep s.r l) (hb : Benign s.w) (hcap : 0 < s.r.cap) (k : K) (v : V) :
    ∃ res s1 s2, drainOp E take forget s = .ok res s1 ∧ insert E k v s1 = .ok none s2 ∧
      Rep s2.r [(k, v)] ∧ s2.r.cap = s.r.cap := by
  obtain ⟨s1, e, h1, h2, h3⟩ := drain_op E take forget hr hb
  have hb1 : Benign s1.w := h3.benign hb
  obtain ⟨a, s2, e2, g1, g2⟩ := (insert_sat E h1 k v).must_return (by
    intro c s' ⟨_, h⟩
    rcases h with ⟨h, _⟩ | ⟨_, _, h, _⟩
    · exact no_inj hb1 h
    · simp at h; omega)
  rcases g2 with ⟨i, hi, _⟩ | ⟨ha, _, hrep, _⟩
  · simp at hi
  · subst ha
    exact ⟨_, s1, s2, e, e2, by simpa using hrep, by rw [g1, h2]⟩

/-- memory safety with no hypothesis beyond `Safe` (any `==`, any profile, any armed injection):
    `drain` with any `take` / ending never reaches `ub` and leaves an empty, `Safe` container of the
    same capacity; `into_iter` / `into_keys` / `into_values` with any `take` / ending never reach `ub`
    and leave a fresh `new()` of the same capacity in the register. -/
theorem consuming_ops_safe (take : Nat) (forget : Bool) (kind : IntoKind) {s : St K V Q} (hs : Safe s.r) :
    Sat (drainOp E take forget) s (fun _ s' => Safe s'.r ∧ s'.r.len = 0 ∧ s'.r.cap = s.r.cap)
      (fun _ s' => Safe s'.r ∧ s'.r.len = 0 ∧ s'.r.cap = s.r.cap) ∧
    Sat (intoIterOp E kind take forget) s (fun _ s' => s'.r = Raw.new s.r.cap)
      (fun _ s' => s'.r = Raw.new s.r.cap) :=
  ⟨Sat.mono (drainOp_sat E take forget hs.rep) (fun _ _ ⟨_, h2, h3, _⟩ => ⟨h2.safe, h2.1, h3⟩)
      (fun _ _ ⟨h1, h2, _⟩ => ⟨h1.safe, h1.1, h2⟩),
   Sat.mono (intoIterOp_sat E kind take forget hs.rep) (fun _ _ ⟨_, h2, _⟩ => h2) (fun _ _ ⟨h1, _⟩ => h1)⟩

/-- for element types without drop glue for the value (`V = ()`: this is how `Set` runs the same
    code, `Env.toUnit` has `vGlue = false`) `into_keys` has nothing to discard, and dropping pairs
    only drops keys. -/
theorem no_value_glue (hv : E.vGlue = false) (ps : List (K × V)) :
    ps.flatMap (discardTr E .keys) = [] ∧ dropTrace E ps = ps.map fun p => .dropK p.1 := by
  constructor
  · simp [discardTr, dropVTr, hv]
  · induction ps with
    | nil => rfl
    | cons p ps ih =>
      simp only [dropTrace, List.flatMap_cons, List.map_cons] at ih ⊢
      rw [ih]; simp [dropVTr, hv]

/-- `SetIntoIter` (the set's `into_iter` is `intoIterOp … .keys` at `V = ()`): yields the last
    `take` elements last-first, exact `len()`; the only effects are the drops of the elements not
    yielded (unless forgotten); the register holds a fresh set afterwards. -/
theorem set_into_iter_op (hv : E.vGlue = false) (take : Nat) (forget : Bool) {s : St K V Q}
    {l : List (K × V)} (hr : Rep s.r l) (hb : Benign s.w) :
    ∃ s', intoIterOp E .keys take forget s =
        .ok (l.reverse.take take, l.length - take, l.take (l.length - take)) s' ∧
      s'.r = Raw.new s.r.cap ∧
      WRel s.w s'.w (if forget then [] else (l.take (l.length - take)).map fun p => .dropK p.1) := by
  obtain ⟨s', e, h1, h2⟩ := into_iter_op E .keys take forget hr hb
  refine ⟨s', e, h1, ?_⟩
  rw [(no_value_glue E hv _).1, (no_value_glue E hv _).2] at h2
  simpa using h2

/-- `SetDrain`: yields the first `take` elements in slot order; dropping it drops exactly the keys
    not yielded, once each; the set is empty afterwards. -/
theorem set_drain_op (hv : E.vGlue = false) (take : Nat) (forget : Bool) {s : St K V Q}
    {l : List (K × V)} (hr : Rep s.r l) (hb : Benign s.w) :
    ∃ s', drainOp E take forget s = .ok (l.take take, l.length - take, l.drop take) s' ∧
      Rep s'.r [] ∧ s'.r.cap = s.r.cap ∧
      WRel s.w s'.w (if forget then [] else (l.drop take).map fun p => .dropK p.1) := by
  obtain ⟨s', e, h1, h2, h3⟩ := drain_op E take forget hr hb
  refine ⟨s', e, h1, h2, ?_⟩
  rw [(no_value_glue E hv _).2] at h3
  exact h3

/-! ### std's provided methods on the owning iterators: `nth`, `last`, `count`

`Model/StdIter.lean` writes `Iterator::nth`, `last` and `count` exactly as core defines them over the
model's `next` (the crate overrides none of them on `IntoIter`, `IntoKeys`, `IntoValues`, `Drain`:
tools/inventory.json), with std's drops of the skipped items between the calls and the iterator
dropped by the caller's frame when one of those drops unwinds.  The driver executes these
definitions for `nth(k)`, `nth(usize::MAX)`, `last()` and `count()` lines against the real crate,
also under fault enumeration. -/

open Micromap.StdIterP in
/-- **Consuming iterators through `nth` / `last` / `count`, in ANY world** (any `==`, a panic armed
    at any destructor call, either profile), every kind, every `k`: never `ub`; whether the call
    returns or unwinds, the map was consumed exactly (the register holds a fresh `new()`); a panic can
    only be the injected one; and what is handed out is exactly what stepping with `next` gives —
    `nth(k)` the `k`-th entry from the back (`None` beyond the end), `last()` the entry in slot 0,
    `len()` afterwards what is left, `count()` that number — with the exact effect trace. -/
theorem into_iter_provided_methods (kind : IntoKind) (take : StdTake) (fin : StdEnd) {s : St K V Q}
    {l : List (K × V)} (hr : Rep s.r l) :
    Sat (intoIterStdOp E kind take fin) s
      (fun res s' => s'.r = Raw.new s.r.cap ∧
        res = (intoItems take l, stdRem take l.length, l.take (stdRem take l.length),
          stdCnt fin (stdRem take l.length)) ∧
        WRel s.w s'.w (intoTakeTr E kind take l ++ intoFinTr E kind fin (l.take (stdRem take l.length))))
      (fun c s' => s'.r = Raw.new s.r.cap ∧ InjPanic s s' c) :=
  intoIterStdOp_sat E kind take fin hr

open Micromap.StdIterP in
/-- `nth(k)` spelled out: the `k`-th entry from the back or `None`; `len()` is `|l| - (k+1)`; the
    iterator still owns the untouched front. -/
theorem into_iter_nth (kind : IntoKind) (k : Nat) (fin : StdEnd) {s : St K V Q}
    {l : List (K × V)} (hr : Rep s.r l) :
    Sat (intoIterStdOp E kind (.nth k) fin) s
      (fun res s' => s'.r = Raw.new s.r.cap ∧
        res = (l.reverse[k]?.toList, l.length - (k + 1), l.take (l.length - (k + 1)),
          stdCnt fin (l.length - (k + 1))))
      (fun c s' => s'.r = Raw.new s.r.cap ∧ InjPanic s s' c) :=
  Sat.mono (intoIterStdOp_sat E kind (.nth k) fin hr) (fun _ _ h => ⟨h.1, h.2.1⟩) (fun _ _ h => h)

open Micromap.StdIterP in
/-- `last()`: the last item yielded is the entry in slot 0; nothing is left. -/
theorem into_iter_last (kind : IntoKind) (fin : StdEnd) {s : St K V Q}
    {l : List (K × V)} (hr : Rep s.r l) :
    Sat (intoIterStdOp E kind .last fin) s
      (fun res s' => s'.r = Raw.new s.r.cap ∧ res = (l.head?.toList, 0, [], stdCnt fin 0))
      (fun c s' => s'.r = Raw.new s.r.cap ∧ InjPanic s s' c) :=
  Sat.mono (intoIterStdOp_sat E kind .last fin hr)
    (fun _ _ h => ⟨h.1, by simpa [intoItems, stdRem] using h.2.1⟩) (fun _ _ h => h)

open Micromap.StdIterP in
/-- when `last()` unwinds, the only objects newly recorded as leaked are those of ONE entry of the
    map (the item that sat in std's return place); on the normal path nothing is leaked. -/
theorem into_iter_last_leaks_one_item (kind : IntoKind) (fuel : Nat) (acc : Option (K × V))
    (s : St K V Q) (l : List (K × V)) (hr : Rep s.r l) :
    Sat (intoIterLast E kind fuel acc) s (fun _ s' => s'.w.leaked = s.w.leaked)
      (fun _ s' => ∃ p ∈ l, s'.w.leaked = s.w.leaked ++ leakObjs kind p) :=
  intoIterLast_leaked E kind fuel acc s l hr

open Micromap.StdIterP in
/-- **`Drain` through `nth` / `last` / `count`, in ANY world**: never `ub`; the map is empty and
    reusable afterwards whether the call returns or unwinds (`drain` always empties); the results are
    those of stepping with `next` — `nth(k)` the `k`-th entry in slot order, `last()` the last one. -/
theorem drain_provided_methods (take : StdTake) (fin : StdEnd) {s : St K V Q} {l : List (K × V)}
    (hr : Rep s.r l) :
    Sat (drainStdOp E take fin) s
      (fun res s' => Rep s'.r [] ∧ s'.r.cap = s.r.cap ∧
        res = (drainItems take l, stdRem take l.length, l.drop (l.length - stdRem take l.length),
          stdCnt fin (stdRem take l.length)) ∧
        WRel s.w s'.w (drainTakeTr E take l ++ drainFinTr E fin (l.drop (l.length - stdRem take l.length))))
      (fun c s' => Rep s'.r [] ∧ s'.r.cap = s.r.cap ∧ InjPanic s s' c) :=
  drainStdOp_sat E take fin hr

open Micromap.StdIterP in
theorem drain_nth_any_world (k : Nat) (fin : StdEnd) {s : St K V Q} {l : List (K × V)} (hr : Rep s.r l) :
    Sat (drainStdOp E (.nth k) fin) s
      (fun res s' => Rep s'.r [] ∧ s'.r.cap = s.r.cap ∧
        res = (l[k]?.toList, l.length - (k + 1), l.drop (k + 1), stdCnt fin (l.length - (k + 1))))
      (fun c s' => s'.r.len = 0 ∧ s'.r.cap = s.r.cap ∧ InjPanic s s' c) :=
  Sat.mono (drainStdOp_sat E (.nth k) fin hr)
    (fun _ _ h => ⟨h.1, h.2.1, by simpa [drainItems, stdRem, drop_sub_sub] using h.2.2.1⟩)
    (fun _ _ h => ⟨h.1.1, h.2⟩)

open Micromap.StdIterP in
/-- `drain().last()`; if it unwinds, no live slot is left in the drained range (the `Drain` was
    dropped), so nothing can be destroyed a second time later. -/
theorem drain_last_any_world (fin : StdEnd) {s : St K V Q} {l : List (K × V)} (hr : Rep s.r l) :
    Sat (drainStdOp E .last fin) s
      (fun res s' => Rep s'.r [] ∧ s'.r.cap = s.r.cap ∧ res = (l.getLast?.toList, 0, [], stdCnt fin 0))
      (fun c s' => s'.r.len = 0 ∧ s'.r.cap = s.r.cap ∧ InjPanic s s' c ∧
        ∀ j, j < l.length → s'.r.slots j = none) :=
  Sat.mono (Sat.and (drainStdOp_sat E .last fin hr) (drainStdOp_last_dead E fin hr))
    (fun _ _ ⟨h, _⟩ => ⟨h.1, h.2.1, by simpa [drainItems, stdRem] using h.2.2.1⟩)
    (fun _ _ ⟨h, d⟩ => ⟨h.1.1, h.2.1, h.2.2, d⟩)

open Micromap.StdIterP in
/-- benign world, whole pairs: `into_iter().nth(k)` destroys exactly the `k` skipped pairs (each once,
    in yield order), then — when the iterator is dropped / counted — exactly what is left. -/
theorem into_iter_nth_effects (k : Nat) (fin : StdEnd) {s : St K V Q} {l : List (K × V)}
    (hr : Rep s.r l) (hb : Benign s.w) :
    ∃ s', intoIterStdOp E .pairs (.nth k) fin s =
        .ok (l.reverse[k]?.toList, l.length - (k + 1), l.take (l.length - (k + 1)),
          stdCnt fin (l.length - (k + 1))) s' ∧
      s'.r = Raw.new s.r.cap ∧
      WRel s.w s'.w (dropTrace E (l.reverse.take k) ++ pairsFinTr E fin (l.take (l.length - (k + 1)))) := by
  obtain ⟨_, s', e, h1, rfl, h2⟩ := (intoIterStdOp_sat E .pairs (.nth k) fin hr).must_return
    fun c s' ⟨_, h⟩ => h.not_benign hb
  refine ⟨s', e, h1, ?_⟩
  have hd : ((l.reverse[k]?).map (discardTr E .pairs)).getD [] = [] := by
    cases l.reverse[k]? <;> rfl
  have hf : intoFinTr E .pairs fin (l.take (l.length - (k + 1))) =
      pairsFinTr E fin (l.take (l.length - (k + 1))) := by
    cases fin <;> simp [intoFinTr, pairsFinTr, flatMap_skipTr_pairs]
  simpa [intoTakeTr, stdRem, flatMap_skipTr_pairs, hd, hf] using h2

open Micromap.StdIterP in
/-- benign world: `drain().nth(k)` destroys exactly the `k` skipped entries, then the rest of the range. -/
theorem drain_nth_effects (k : Nat) (fin : StdEnd) {s : St K V Q} {l : List (K × V)}
    (hr : Rep s.r l) (hb : Benign s.w) :
    ∃ s', drainStdOp E (.nth k) fin s =
        .ok (l[k]?.toList, l.length - (k + 1), l.drop (k + 1), stdCnt fin (l.length - (k + 1))) s' ∧
      Rep s'.r [] ∧ s'.r.cap = s.r.cap ∧
      WRel s.w s'.w (dropTrace E (l.take k) ++ drainFinTr E fin (l.drop (k + 1))) := by
  obtain ⟨_, s', e, h1, h2, rfl, h3⟩ := (drainStdOp_sat E (.nth k) fin hr).must_return
    fun c s' ⟨_, _, h⟩ => h.not_benign hb
  refine ⟨s', ?_, h1, h2, ?_⟩
  · simpa [drainItems, stdRem, drop_sub_sub] using e
  · simpa [drainTakeTr, stdRem, drop_sub_sub] using h3

open Micromap.StdIterP in
/-- memory safety of both composites from `Safe` alone (no assumption on `==`, profile, injection). -/
theorem provided_methods_safe (kind : IntoKind) (take : StdTake) (fin : StdEnd) {s : St K V Q} (hs : Safe s.r) :
    Sat (intoIterStdOp E kind take fin) s (fun _ s' => s'.r = Raw.new s.r.cap)
      (fun _ s' => s'.r = Raw.new s.r.cap) ∧
    Sat (drainStdOp E take fin) s (fun _ s' => Safe s'.r ∧ s'.r.len = 0 ∧ s'.r.cap = s.r.cap)
      (fun _ s' => Safe s'.r ∧ s'.r.len = 0 ∧ s'.r.cap = s.r.cap) :=
  ⟨Sat.mono (intoIterStdOp_sat E kind take fin hs.rep) (fun _ _ h => h.1) (fun _ _ h => h.1),
   Sat.mono (drainStdOp_sat E take fin hs.rep) (fun _ _ ⟨h1, h2, _⟩ => ⟨h1.safe, h1.1, h2⟩)
     (fun _ _ ⟨h1, h2, _⟩ => ⟨h1.safe, h1.1, h2⟩)⟩


/-! Non-vacuity: a concrete container meets the hypotheses, and the model computes what the
    theorems say (tests, not proofs). -/

def exEnv : Env Nat Nat Nat :=
  { eqK := fun _ a b => a == b, eqQ := fun _ a b => a == b, eqV := fun a b => a == b, borrow := id,
    clK := fun _ k => k, clV := fun _ v => v }

def exRaw : Raw Nat Nat :=
  { cap := 3, len := 3, slots := fun i =>
      if i = 0 then some (7, 70) else if i = 1 then some (8, 80) else if i = 2 then some (9, 90) else none }

def exSt : St Nat Nat Nat := { r := exRaw, w := {} }

example : Rep exSt.r [(7, 70), (8, 80), (9, 90)] :=
  ⟨rfl, by decide, fun i hi => by
    have : i = 0 ∨ i = 1 ∨ i = 2 := by simp at hi; omega
    rcases this with rfl | rfl | rfl <;> rfl⟩
example : Benign exSt.w := ⟨rfl, rfl⟩
example : Safe exSt.r := ⟨by decide, fun i hi => by
    have : i = 0 ∨ i = 1 ∨ i = 2 := by simp [exSt, exRaw] at hi; omega
    rcases this with rfl | rfl | rfl <;> rfl⟩
example : (Env.toUnit exEnv).vGlue = false := rfl
example : 0 < exSt.r.cap := by decide
example : (match drainOp exEnv 1 false exSt with | .ok x s' => some (x, s'.r.len) | _ => none) =
    some (([(7, 70)], 2, [(8, 80), (9, 90)]), 0) := by decide +kernel
example : (match intoIterOp exEnv .keys 2 false exSt with | .ok x s' => some (x, s'.r.len) | _ => none) =
    some (([(9, 90), (8, 80)], 1, [(7, 70)]), 0) := by decide +kernel
example : (match intoIterStdOp exEnv .pairs (.nth 1) .count exSt with
    | .ok x s' => x == ([(8, 80)], 1, [(7, 70)], some 1) && s'.r.len == 0 | _ => false) = true := by decide +kernel
example : (match drainStdOp exEnv .last .drop exSt with
    | .ok x s' => x == ([(9, 90)], 0, [], none) && s'.r.len == 0 | _ => false) = true := by decide +kernel
-- with an armed fault the operations do unwind (the unwinding postconditions are not vacuous)
example : (match intoIterStdOp exEnv .pairs (.nth 2) .drop { exSt with w := { inject := some 1 } } with
    | .panic c s' => some (c, s'.r.len, (s'.r.slots 0).isSome) | _ => none) =
    some (.inject, 0, false) := by decide +kernel

end Micromap.Props.C10
