/-
C08 — Set algebra yields exactly the mathematical result, without repeats.

Property theorems, the shape `SafeRO` of the safety triples and examples (helper lemmas live in
`Micromap/Proofs/Alg.lean`).  All statements are
about the L0 model functions of `Model/Iter.lean` / `Model/Sys.lean` (`scanR`, `filtNextR`,
`filtNext`, `algStart`, `algNext`, `algHint`, `algFold`, `algRunOut`, `allContain`, `is_subset`,
`is_superset`, `is_disjoint`, `subInto`).

Setting: the operands are two containers `a b` with `Rep a la`, `Rep b lb` — any capacities, any
internal orders — and `ka = la.map (·.1)`, `kb = lb.map (·.1)` are their element lists.  The
functions read `a` and `b` only; every theorem also states that the state's own container `s.r`
(and hence, since the operands are values, the operands) is unchanged.  Sets are maps with
`V = Unit`; statements that do not need it are given for any `V`.
`difference_ref` is `Difference` at element type `&T` (same `next`, `size_hint`, `fold`, plus
`.copied()`): it is the model's `AlgKind.difference` and is covered by the `difference` theorems.
-/
import Micromap.Proofs.Alg
import Micromap.Proofs.StdIterB

namespace Micromap.Props.C08
open Micromap SetAlg Alg

/-- In a world where no injected fault is armed an operation cannot unwind by injection. -/
theorem no_inj {K V Q : Type} {s s' : St K V Q} {c} (hb : Benign s.w) (h : InjPanic s s' c) : False :=
  h.not_benign hb

section generic
variable {K V Q : Type} (E : Env K V Q)

/-! ### `contains` -/

/-- `other.contains(x)` (the scan that every adaptor and predicate probes with): in a benign world
    with a time-independent `==` it returns, finds something exactly when `x` is a member of the
    element list, and changes nothing. -/
theorem contains_bridge (hE : E.Pure) {b : Raw K V} {lb : List (K × V)} (hrb : Rep b lb) (x : K)
    {s : St K V Q} (hw : Benign s.w) :
    ∃ o s', scanR E b (.key x) s = .ok o s' ∧ o.isSome = memB E.keq x (lb.map (·.1)) ∧
      s'.r = s.r ∧ WRel s.w s'.w [] := by
  obtain ⟨o, s', h1, h2, h3, h5⟩ := (contains_quiet E hrb x).run hw
  exact ⟨o, s', h1, h5 hE, h2, h3⟩

/-! ### `Difference::next` / `Intersection::next` -/

/-- `self.iter.find(|x| other.contains(x) == want)` over the `n` slots of `a` from `lo` on returns
    the FIRST position `j ≥ lo` whose element's membership in `b` is `want`, with that slot's own
    key, and leaves the cursor behind it; or `None` with the window exhausted if there is none. -/
theorem filtNextR_first (hE : E.Pure) {a b : Raw K V} {la lb : List (K × V)} (hra : Rep a la)
    (hrb : Rep b lb) (want : Bool) (n lo : Nat) (hn : lo + n ≤ la.length) {s : St K V Q}
    (hw : Benign s.w) :
    ∃ res s', filtNextR E a b want n lo s = .ok res s' ∧ s'.r = s.r ∧ WRel s.w s'.w [] ∧
      ((∃ j, ∃ hj : j < la.length, res = (some (j, la[j].1), j + 1) ∧ lo ≤ j ∧ j < lo + n ∧
          memB E.keq la[j].1 (lb.map (·.1)) = want ∧
          ∀ m (hm : m < la.length), lo ≤ m → m < j → memB E.keq la[m].1 (lb.map (·.1)) ≠ want) ∨
       (res = (none, lo + n) ∧
          ∀ m (hm : m < la.length), lo ≤ m → m < lo + n → memB E.keq la[m].1 (lb.map (·.1)) ≠ want)) := by
  obtain ⟨res, s', h1, h2, h3, _, _, _, h7⟩ := (filtNextR_quiet E hra hrb want n lo fun _ => hn).run hw
  refine ⟨res, s', h1, h2, h3, ?_⟩
  rw [h7 hE]
  cases hR : selRest la (selD E.keq (lb.map (·.1)) want) n lo with
  | nil => exact Or.inr ⟨rfl, fun m hm g1 g2 => selD_eq_false.mp (selRest_unselected hR hm g1 g2 nofun)⟩
  | cons x t =>
    obtain ⟨j, k⟩ := x
    obtain ⟨g1, g2, g3, g4, g5⟩ := selRest_mem (hR ▸ List.mem_cons_self : (j, k) ∈ selRest _ _ n lo)
    simp only at g4 g5
    subst g5
    exact Or.inl ⟨j, g4, rfl, g1, g2, selD_eq_true.mp g3,
      fun m hm k1 k2 => selD_eq_false.mp
        (selRest_unselected hR hm k1 (Nat.lt_trans k2 g2) fun _ h => Option.some.inj h ▸ k2)⟩

/-- one `next` of `Difference` (`want = false`) / `Intersection` (`want = true`) yields the head
    of what is left (`selRest`) and leaves its tail; the window's end never moves. -/
theorem filtNext_step (hE : E.Pure) {a b : Raw K V} {la lb : List (K × V)} (hra : Rep a la)
    (hrb : Rep b lb) (want : Bool) (it : SliceIt) (hit : it.hi ≤ la.length) {s : St K V Q}
    (hw : Benign s.w) :
    ∃ o it' s', filtNext E a b want it s = .ok (o, it') s' ∧ s'.r = s.r ∧ WRel s.w s'.w [] ∧
      it'.hi = it.hi ∧
      o = (selRest la (selD E.keq (lb.map (·.1)) want) it.len it.lo).head? ∧
      selRest la (selD E.keq (lb.map (·.1)) want) it'.len it'.lo =
        (selRest la (selD E.keq (lb.map (·.1)) want) it.len it.lo).tail := by
  obtain ⟨⟨o, it'⟩, s', h1, h2, h3, h4, _, _, _, h8⟩ := (filtNext_quiet E hra hrb want it hit).run hw
  exact ⟨o, it', s', h1, h2, h3, h4, (h8 hE).1, (h8 hE).2⟩

/-- what a fresh `Difference` / `Intersection` has left is, as keys, exactly `diffL` / `interL`;
    every item is a slot position of the LEFT operand together with that slot's own key, the
    positions are strictly increasing (no slot twice, the left operand's order), and the keys form
    a sublist of the left operand. -/
theorem left_own_elements (keq : K → K → Bool) (la : List (K × V)) (kb : List K) (want : Bool) :
    (selRest la (selD keq kb want) la.length 0).map (·.2) =
        (if want then interL keq (la.map (·.1)) kb else diffL keq (la.map (·.1)) kb) ∧
      (∀ x, x ∈ selRest la (selD keq kb want) la.length 0 → ∃ h : x.1 < la.length, x.2 = la[x.1].1) ∧
      (selRest la (selD keq kb want) la.length 0).Pairwise (fun x y => x.1 < y.1) ∧
      ((selRest la (selD keq kb want) la.length 0).map (·.2)).Sublist (la.map (·.1)) := by
  have hk : (selRest la (selD keq kb want) la.length 0).map (·.2) =
      (if want then interL keq (la.map (·.1)) kb else diffL keq (la.map (·.1)) kb) := by
    rw [selRest_full_keys]
    cases want
    · rw [selD_false]; rfl
    · rw [selD_true]; rfl
  refine ⟨hk, fun x hx => (selRest_mem hx).2.2.2, selRest_sorted _ _ _ _, ?_⟩
  rw [hk]
  cases want
  · exact diff_sublist _ _
  · exact inter_sublist _ _

/-! ### the predicates -/

/-- `is_subset` returns the mathematical truth value (the length shortcut is sound because the
    elements of a set are pairwise unequal — pigeonhole), changes nothing, never panics. -/
theorem is_subset_correct (hE : E.Lawful) {a b : Raw K V} {la lb : List (K × V)} (hra : Rep a la)
    (hrb : Rep b lb) (hna : NodupB E.keq (la.map (·.1))) {s : St K V Q} (hw : Benign s.w) :
    ∃ s', is_subset E a b s = .ok (subsetB E.keq (la.map (·.1)) (lb.map (·.1))) s' ∧
      s'.r = s.r ∧ WRel s.w s'.w [] := by
  obtain ⟨r, s', h1, h2, h3, h4⟩ := (is_subset_quiet E hra hrb).run hw
  rw [h4 hE.toPure, isSubsetCode_eq hE.equivB _ _ hna] at h1
  exact ⟨s', h1, h2, h3⟩

/-- `is_superset` is `is_subset` with the operands exchanged. -/
theorem is_superset_correct (hE : E.Lawful) {a b : Raw K V} {la lb : List (K × V)} (hra : Rep a la)
    (hrb : Rep b lb) (hnb : NodupB E.keq (lb.map (·.1))) {s : St K V Q} (hw : Benign s.w) :
    ∃ s', is_superset E a b s = .ok (subsetB E.keq (lb.map (·.1)) (la.map (·.1))) s' ∧
      s'.r = s.r ∧ WRel s.w s'.w [] :=
  is_subset_correct E hE hrb hra hnb hw

/-- `is_disjoint` returns the mathematical truth value whichever operand it iterates. -/
theorem is_disjoint_correct (hE : E.Lawful) {a b : Raw K V} {la lb : List (K × V)} (hra : Rep a la)
    (hrb : Rep b lb) {s : St K V Q} (hw : Benign s.w) :
    ∃ s', is_disjoint E a b s = .ok (disjointB E.keq (la.map (·.1)) (lb.map (·.1))) s' ∧
      s'.r = s.r ∧ WRel s.w s'.w [] := by
  obtain ⟨r, s', h1, h2, h3, h4⟩ := (is_disjoint_quiet E hra hrb).run hw
  rw [h4 hE.toPure, isDisjointCode_eq hE.equivB] at h1
  exact ⟨s', h1, h2, h3⟩

/-- the truth values mean what they should: every / no element of `a` is (up to `==`) in `b`. -/
theorem subsetB_spec (keq : K → K → Bool) (ka kb : List K) :
    subsetB keq ka kb = true ↔ ∀ x, x ∈ ka → memB keq x kb = true := subsetB_iff ka kb

theorem disjointB_spec (keq : K → K → Bool) (ka kb : List K) :
    disjointB keq ka kb = true ↔ ∀ x, x ∈ ka → memB keq x kb = false := disjointB_iff ka kb

/-! ### safety under any oracle and any injected fault -/

/-- shape of the safety triples below: no `ub`; on return and on unwinding the state's container
    is unchanged; returning has no effect but comparisons; unwinding is only by an injected panic. -/
def SafeRO {α : Type} (m : SM K V Q α) (s : St K V Q) (Qv : α → Prop) : Prop :=
  Sat m s (fun r s' => s'.r = s.r ∧ WRel s.w s'.w [] ∧ Qv r) (fun c s' => s'.r = s.r ∧ InjPanic s s' c)

/-- `next` of any of the four iterators, from any well-formed state, under ANY `==` (non-reflexive,
    time-varying, …) and any injection: memory-safe, read-only; the state stays well formed and of
    the same kind, and a yielded item is a reference to a live slot of one of the operands. -/
theorem algNext_safe {a b : Raw K V} {la lb : List (K × V)} (hra : Rep a la) (hrb : Rep b lb)
    (it : AlgIt) (hit : AlgInv la.length lb.length it) (s : St K V Q) :
    SafeRO (algNext E a b it) s (fun res => res.2.kind = it.kind ∧ AlgInv la.length lb.length res.2 ∧
      meas res.2 ≤ meas it ∧ ∀ x, res.1 = some x → meas res.2 < meas it ∧ ItemOf la lb x) :=
  ((algNext_quiet E hra hrb it hit).mono (fun _ ⟨h1, h2, h3, h4, _⟩ => ⟨h1, h2, h3, h4⟩)).at s

/-- the fresh iterator is well formed (`algStart` makes no callback and cannot fail). -/
theorem algStart_safe {a b : Raw K V} {la lb : List (K × V)} (hra : Rep a la) (hrb : Rep b lb)
    (kind : AlgKind) (s : St K V Q) :
    ∃ it, algStart a b kind s = .ok it s ∧ it.kind = kind ∧ AlgInv la.length lb.length it ∧
      meas it ≤ a.len + b.len :=
  ⟨_, algStart_eq hra hrb kind s, startIt_kind _ _ _, startIt_inv _ _ _,
    by rw [hra.1, hrb.1]; exact startIt_meas _ _ _⟩

/-- any number of `next`s in a row. -/
theorem nextN_safe {a b : Raw K V} {la lb : List (K × V)} (hra : Rep a la) (hrb : Rep b lb)
    (k : Nat) (it : AlgIt) (hit : AlgInv la.length lb.length it) (s : St K V Q) :
    SafeRO (nextN E a b k it) s (fun res => res.2.kind = it.kind ∧ AlgInv la.length lb.length res.2 ∧
      meas res.2 ≤ meas it) :=
  ((nextN_quiet E hra hrb k it hit).mono (fun _ ⟨h1, h2, h3, _⟩ => ⟨h1, h2, h3⟩)).at s

/-- `fold` / `count` from any well-formed state under any oracle. -/
theorem algFold_safe {a b : Raw K V} {la lb : List (K × V)} (hra : Rep a la) (hrb : Rep b lb)
    (it : AlgIt) (hit : AlgInv la.length lb.length it) (s : St K V Q) :
    SafeRO (algFold E a b it) s (fun res => ∀ x, x ∈ res → ItemOf la lb x) :=
  ((algFold_quiet E hra hrb it hit).mono (fun _ h => h.1)).at s

/-- one `next` of `Difference` / `Intersection` on any window inside `a`, under any oracle. -/
theorem filtNext_safe {a b : Raw K V} {la lb : List (K × V)} (hra : Rep a la) (hrb : Rep b lb)
    (want : Bool) (it : SliceIt) (hit : it.hi ≤ la.length) (s : St K V Q) :
    SafeRO (filtNext E a b want it) s (fun res => res.2.hi = it.hi ∧ it.lo ≤ res.2.lo ∧
      ∀ x, res.1 = some x → it.lo ≤ x.1 ∧ res.2.lo = x.1 + 1 ∧ ∃ h : x.1 < la.length, x.2 = la[x.1].1) :=
  ((filtNext_quiet E hra hrb want it hit).mono
    (fun _ ⟨h1, h2, _, h4, _⟩ => ⟨h1, h2, fun x hx => (h4 x hx).2⟩)).at s

/-- the predicates under any oracle: memory-safe, read-only, unwinding only by injection. -/
theorem allContain_safe {a b : Raw K V} {la lb : List (K × V)} (hra : Rep a la) (hrb : Rep b lb)
    (want : Bool) (s : St K V Q) : SafeRO (allContain E a b want) s (fun _ => True) :=
  ((allContain_quiet E hra hrb want).mono (fun _ _ => trivial)).at s

theorem is_subset_safe {a b : Raw K V} {la lb : List (K × V)} (hra : Rep a la) (hrb : Rep b lb)
    (s : St K V Q) : SafeRO (is_subset E a b) s (fun _ => True) :=
  ((is_subset_quiet E hra hrb).mono (fun _ _ => trivial)).at s

theorem is_superset_safe {a b : Raw K V} {la lb : List (K × V)} (hra : Rep a la) (hrb : Rep b lb)
    (s : St K V Q) : SafeRO (is_superset E a b) s (fun _ => True) :=
  ((is_superset_quiet E hra hrb).mono (fun _ _ => trivial)).at s

theorem is_disjoint_safe {a b : Raw K V} {la lb : List (K × V)} (hra : Rep a la) (hrb : Rep b lb)
    (s : St K V Q) : SafeRO (is_disjoint E a b) s (fun _ => True) :=
  ((is_disjoint_quiet E hra hrb).mono (fun _ _ => trivial)).at s

end generic

section sets
variable {K Q : Type} (E : Env K Unit Q)

/-! ### the four lazy iterators yield exactly the set algebra -/

/-- draining with `next` from any well-formed state never runs out of fuel once the fuel exceeds the
    oracle-independent bound `meas` (so `algRunOut` is never `ub`), under ANY oracle and injection;
    it is read-only and yields only references to live slots of the operands. -/
theorem algRunOut_safe {a b : Raw K Unit} {la lb : List (K × Unit)} (hra : Rep a la) (hrb : Rep b lb)
    (it : AlgIt) (hit : AlgInv la.length lb.length it) (fuel : Nat) (hf : meas it < fuel)
    (s : St K Unit Q) :
    SafeRO (algRunOut E a b fuel it) s (fun res => (∀ x, x ∈ res → ItemOf la lb x) ∧ res.length ≤ meas it) :=
  ((algRunOut_quiet E hra hrb fuel it hit hf).mono (fun _ ⟨h1, h2, _⟩ => ⟨h1, h2⟩)).at s

/-- draining any well-formed state with `next` yields exactly `algRest` of that state. -/
theorem algRunOut_exact (hE : E.Pure) {a b : Raw K Unit} {la lb : List (K × Unit)} (hra : Rep a la)
    (hrb : Rep b lb) (it : AlgIt) (hit : AlgInv la.length lb.length it) (fuel : Nat)
    (hf : meas it < fuel) {s : St K Unit Q} (hw : Benign s.w) :
    ∃ s', algRunOut E a b fuel it s = .ok (algRest E.keq la lb it) s' ∧ s'.r = s.r ∧ WRel s.w s'.w [] := by
  obtain ⟨r, s', h1, h2, h3, _, _, h6⟩ := (algRunOut_quiet E hra hrb fuel it hit hf).run hw
  rw [h6 hE] at h1
  exact ⟨s', h1, h2, h3⟩

/-- `a.difference(b)`, `a.intersection(b)`, `a.union(b)`, `a.symmetric_difference(b)` drained with
    `next` (fuel `|a| + |b| + 1` is never exhausted): the yielded keys are exactly `diffL`,
    `interL`, `unionL` (= `kb ++ diffL ka kb`: first `other`, then `self ∖ other`) and `symmL`
    (= `diffL ka kb ++ diffL kb ka`) as LISTS — so a repeated element would be visible —, every
    item is a reference to a live slot of an operand, and nothing is changed. -/
theorem set_algebra_exact (hE : E.Pure) {a b : Raw K Unit} {la lb : List (K × Unit)} (hra : Rep a la)
    (hrb : Rep b lb) (kind : AlgKind) {s : St K Unit Q} (hw : Benign s.w) :
    ∃ items s', (algStart a b kind >>= algRunOut E a b (a.len + b.len + 1)) s = .ok items s' ∧
      s'.r = s.r ∧ WRel s.w s'.w [] ∧
      items = algRest E.keq la lb (startIt la.length lb.length kind) ∧
      (∀ x, x ∈ items → ItemOf la lb x) ∧
      items.map (·.2.2) = match kind with
        | .difference => diffL E.keq (la.map (·.1)) (lb.map (·.1))
        | .intersection => interL E.keq (la.map (·.1)) (lb.map (·.1))
        | .union => unionL E.keq (la.map (·.1)) (lb.map (·.1))
        | .symmetric_difference => symmL E.keq (la.map (·.1)) (lb.map (·.1)) := by
  obtain ⟨r, s', h1, h2, h3, h4, _, h6⟩ :=
    (algRunOut_quiet E hra hrb _ _ (startIt_inv la.length lb.length kind)
      (startIt_fuel hra hrb kind (Nat.le_refl _))).run hw
  refine ⟨r, s', ?_, h2, h3, h6 hE, h4, ?_⟩
  · exact (bind_ok (algStart_eq hra hrb kind s)).trans h1
  · rw [h6 hE]; exact algRest_start_keys E.keq la lb kind

/-- `difference`: exactly the elements of `a` not in `b`, in `a`'s order, each once; the items
    are references into the LEFT operand (operand 0) at strictly increasing live slots, carrying
    those slots' own keys; the operands' state is untouched. -/
theorem difference_exact (hE : E.Lawful) {a b : Raw K Unit} {la lb : List (K × Unit)} (hra : Rep a la)
    (hrb : Rep b lb) (hna : NodupB E.keq (la.map (·.1))) {s : St K Unit Q} (hw : Benign s.w) :
    ∃ items s', (algStart a b .difference >>= algRunOut E a b (a.len + b.len + 1)) s = .ok items s' ∧
      s'.r = s.r ∧
      items.map (·.2.2) = diffL E.keq (la.map (·.1)) (lb.map (·.1)) ∧
      NodupB E.keq (items.map (·.2.2)) ∧
      (∀ x, memB E.keq x (items.map (·.2.2)) =
        (memB E.keq x (la.map (·.1)) && !memB E.keq x (lb.map (·.1)))) ∧
      (items.map (·.2.2)).Sublist (la.map (·.1)) ∧
      (∀ x, x ∈ items → x.1 = 0 ∧ ∃ h : x.2.1 < la.length, x.2.2 = la[x.2.1].1) ∧
      (items.map (·.2.1)).Pairwise (· < ·) := by
  obtain ⟨items, s', h1, h2, _, h4, _, h6⟩ := set_algebra_exact E hE.toPure hra hrb .difference hw
  simp only at h6
  refine ⟨items, s', h1, h2, h6, ?_, ?_, ?_, ?_, ?_⟩
  · rw [h6]; exact nodup_diff _ _ hna
  · intro x; rw [h6]; exact memB_diff hE.equivB x _ _
  · rw [h6]; exact diff_sublist _ _
  · rw [h4, algRest_start]; exact tag_selRest_own 0 la _ _ _
  · rw [h4, algRest_start]; exact tag_selRest_sorted 0 la _ _ _

/-- `intersection`: exactly the elements of `a` that are in `b`, in `a`'s order, each once, as
    references to the LEFT operand's own elements (not `b`'s equal ones). -/
theorem intersection_exact (hE : E.Lawful) {a b : Raw K Unit} {la lb : List (K × Unit)} (hra : Rep a la)
    (hrb : Rep b lb) (hna : NodupB E.keq (la.map (·.1))) {s : St K Unit Q} (hw : Benign s.w) :
    ∃ items s', (algStart a b .intersection >>= algRunOut E a b (a.len + b.len + 1)) s = .ok items s' ∧
      s'.r = s.r ∧
      items.map (·.2.2) = interL E.keq (la.map (·.1)) (lb.map (·.1)) ∧
      NodupB E.keq (items.map (·.2.2)) ∧
      (∀ x, memB E.keq x (items.map (·.2.2)) =
        (memB E.keq x (la.map (·.1)) && memB E.keq x (lb.map (·.1)))) ∧
      (items.map (·.2.2)).Sublist (la.map (·.1)) ∧
      (∀ x, x ∈ items → x.1 = 0 ∧ ∃ h : x.2.1 < la.length, x.2.2 = la[x.2.1].1) ∧
      (items.map (·.2.1)).Pairwise (· < ·) := by
  obtain ⟨items, s', h1, h2, _, h4, _, h6⟩ := set_algebra_exact E hE.toPure hra hrb .intersection hw
  simp only at h6
  refine ⟨items, s', h1, h2, h6, ?_, ?_, ?_, ?_, ?_⟩
  · rw [h6]; exact nodup_inter _ _ hna
  · intro x; rw [h6]; exact memB_inter hE.equivB x _ _
  · rw [h6]; exact inter_sublist _ _
  · rw [h4, algRest_start]; exact tag_selRest_own 0 la _ _ _
  · rw [h4, algRest_start]; exact tag_selRest_sorted 0 la _ _ _

/-- `union`: all of `other` (operand 1) followed by `self ∖ other` (operand 0): every element of
    either set exactly once. -/
theorem union_exact (hE : E.Lawful) {a b : Raw K Unit} {la lb : List (K × Unit)} (hra : Rep a la)
    (hrb : Rep b lb) (hna : NodupB E.keq (la.map (·.1))) (hnb : NodupB E.keq (lb.map (·.1)))
    {s : St K Unit Q} (hw : Benign s.w) :
    ∃ items s', (algStart a b .union >>= algRunOut E a b (a.len + b.len + 1)) s = .ok items s' ∧
      s'.r = s.r ∧
      items.map (·.2.2) = unionL E.keq (la.map (·.1)) (lb.map (·.1)) ∧
      NodupB E.keq (items.map (·.2.2)) ∧
      (∀ x, memB E.keq x (items.map (·.2.2)) =
        (memB E.keq x (la.map (·.1)) || memB E.keq x (lb.map (·.1)))) ∧
      (∀ x, x ∈ items → ItemOf la lb x) ∧
      items = tag 1 (selRest lb (fun _ => true) lb.length 0) ++
        tag 0 (selRest la (selD E.keq (lb.map (·.1)) false) la.length 0) := by
  obtain ⟨items, s', h1, h2, _, h4, h5, h6⟩ := set_algebra_exact E hE.toPure hra hrb .union hw
  simp only at h6
  refine ⟨items, s', h1, h2, h6, ?_, ?_, h5, ?_⟩
  · rw [h6]; exact nodup_union hE.equivB _ _ hna hnb
  · intro x; rw [h6]; exact memB_union hE.equivB x _ _
  · exact h4.trans (algRest_start ..)

/-- `symmetric_difference`: `self ∖ other` (operand 0) followed by `other ∖ self` (operand 1):
    exactly the elements in one set but not the other, each once. -/
theorem symmetric_difference_exact (hE : E.Lawful) {a b : Raw K Unit} {la lb : List (K × Unit)}
    (hra : Rep a la) (hrb : Rep b lb) (hna : NodupB E.keq (la.map (·.1)))
    (hnb : NodupB E.keq (lb.map (·.1))) {s : St K Unit Q} (hw : Benign s.w) :
    ∃ items s', (algStart a b .symmetric_difference >>= algRunOut E a b (a.len + b.len + 1)) s =
        .ok items s' ∧
      s'.r = s.r ∧
      items.map (·.2.2) = symmL E.keq (la.map (·.1)) (lb.map (·.1)) ∧
      NodupB E.keq (items.map (·.2.2)) ∧
      (∀ x, memB E.keq x (items.map (·.2.2)) =
        ((memB E.keq x (la.map (·.1)) && !memB E.keq x (lb.map (·.1))) ||
         (memB E.keq x (lb.map (·.1)) && !memB E.keq x (la.map (·.1))))) ∧
      (∀ x, x ∈ items → ItemOf la lb x) ∧
      items = tag 0 (selRest la (selD E.keq (lb.map (·.1)) false) la.length 0) ++
        tag 1 (selRest lb (selD E.keq (la.map (·.1)) false) lb.length 0) := by
  obtain ⟨items, s', h1, h2, _, h4, h5, h6⟩ :=
    set_algebra_exact E hE.toPure hra hrb .symmetric_difference hw
  simp only at h6
  refine ⟨items, s', h1, h2, h6, ?_, ?_, h5, ?_⟩
  · rw [h6]; exact nodup_symm hE.equivB _ _ hna hnb
  · intro x; rw [h6]; exact memB_symm hE.equivB x _ _
  · exact h4.trans (algRest_start ..)

/-! ### `fold` = `next` -/

/-- from ANY well-formed iterator state (in particular every state reachable by `next`s), the
    custom `fold` (which `count` and `Chain::fold` route through) visits exactly the items that
    stepping with `next` to exhaustion yields, in the same order. -/
theorem fold_eq_next (hE : E.Pure) {a b : Raw K Unit} {la lb : List (K × Unit)} (hra : Rep a la)
    (hrb : Rep b lb) (it : AlgIt) (hit : AlgInv la.length lb.length it) (fuel : Nat)
    (hf : meas it < fuel) {s : St K Unit Q} (hw : Benign s.w) :
    ∃ items s₁ s₂, algFold E a b it s = .ok items s₁ ∧ algRunOut E a b fuel it s = .ok items s₂ ∧
      s₁.r = s.r ∧ s₂.r = s.r ∧ items = algRest E.keq la lb it := by
  obtain ⟨r, s₁, h1, h2, _, _, h5⟩ := (algFold_quiet E hra hrb it hit).run hw
  obtain ⟨s₂, g1, g2, _⟩ := algRunOut_exact E hE hra hrb it hit fuel hf hw
  rw [h5 hE] at h1
  exact ⟨_, s₁, s₂, h1, g1, h2, g2, rfl⟩

/-- the state after `k` calls of `next` on a fresh iterator (every stage of consumption): the `i`-th
    call returned the `i`-th item of the full result (`None` from the end on), and both `fold` and
    further stepping with `next` yield exactly the full result without its first `k` items. -/
theorem fold_eq_next_after (hE : E.Pure) {a b : Raw K Unit} {la lb : List (K × Unit)} (hra : Rep a la)
    (hrb : Rep b lb) (kind : AlgKind) (k : Nat) {s : St K Unit Q} (hw : Benign s.w) :
    ∃ it₀ os it s₁ items s₂ s₃,
      algStart a b kind s = .ok it₀ s ∧ nextN E a b k it₀ s = .ok (os, it) s₁ ∧
      algFold E a b it s₁ = .ok items s₂ ∧
      algRunOut E a b (a.len + b.len + 1) it s₁ = .ok items s₃ ∧
      s₁.r = s.r ∧ s₂.r = s.r ∧ s₃.r = s.r ∧
      os = (List.range k).map (fun i => (algRest E.keq la lb it₀)[i]?) ∧
      items = (algRest E.keq la lb it₀).drop k := by
  obtain ⟨⟨os, it⟩, s₁, h1, h2, h3, _, h5, h6, h7⟩ :=
    (nextN_quiet E hra hrb k _ (startIt_inv la.length lb.length kind)).run hw
  simp only at h5 h6 h7
  obtain ⟨items, s₂, s₃, g1, g2, g3, g4, g5⟩ :=
    fold_eq_next E hE hra hrb it h5 _ (startIt_fuel hra hrb kind h6) (h3.benign hw)
  exact ⟨_, os, it, s₁, items, s₂, s₃, algStart_eq hra hrb kind s, h1, g1, g2, h2, g3.trans h2,
    g4.trans h2, (h7 hE).1, by rw [g5, (h7 hE).2]⟩

/-! ### `size_hint` brackets what is still to come -/

/-- for ANY well-formed state of any of the four iterators (in particular after any number of
    `next`s), `size_hint() = (lo, Some(hi))` with `lo ≤ n ≤ hi`, where `n` is the number of items
    that stepping with `next` still yields. -/
theorem size_hint_brackets (hE : E.Lawful) {a b : Raw K Unit} {la lb : List (K × Unit)} (hra : Rep a la)
    (hrb : Rep b lb) (hna : NodupB E.keq (la.map (·.1))) (hnb : NodupB E.keq (lb.map (·.1)))
    (it : AlgIt) (hit : AlgInv la.length lb.length it) (fuel : Nat) (hf : meas it < fuel)
    {s : St K Unit Q} (hw : Benign s.w) :
    ∃ items s', algRunOut E a b fuel it s = .ok items s' ∧ s'.r = s.r ∧
      (algHint a b it).1 ≤ items.length ∧
      ∃ hi, (algHint a b it).2 = some hi ∧ items.length ≤ hi := by
  obtain ⟨s', g1, g2, _⟩ := algRunOut_exact E hE.toPure hra hrb it hit fuel hf hw
  have := algHint_brackets hE.equivB hra hrb hna hnb it hit
  exact ⟨_, s', g1, g2, this⟩

/-- at every stage of consumption: after `k` calls of `next` on a fresh iterator of any of the four
    kinds, `size_hint` brackets the number of items that will still be yielded. -/
theorem size_hint_brackets_after (hE : E.Lawful) {a b : Raw K Unit} {la lb : List (K × Unit)}
    (hra : Rep a la) (hrb : Rep b lb) (hna : NodupB E.keq (la.map (·.1)))
    (hnb : NodupB E.keq (lb.map (·.1))) (kind : AlgKind) (k : Nat) {s : St K Unit Q}
    (hw : Benign s.w) :
    ∃ it₀ os it s₁ items s₂,
      algStart a b kind s = .ok it₀ s ∧ nextN E a b k it₀ s = .ok (os, it) s₁ ∧
      algRunOut E a b (a.len + b.len + 1) it s₁ = .ok items s₂ ∧ s₂.r = s.r ∧
      (algHint a b it).1 ≤ items.length ∧
      ∃ hi, (algHint a b it).2 = some hi ∧ items.length ≤ hi := by
  obtain ⟨⟨os, it⟩, s₁, h1, h2, h3, _, h5, h6, _⟩ :=
    (nextN_quiet E hra hrb k _ (startIt_inv la.length lb.length kind)).run hw
  simp only at h5 h6
  obtain ⟨items, s₂, g1, g2, g3⟩ :=
    size_hint_brackets E hE hra hrb hna hnb it h5 _ (startIt_fuel hra hrb kind h6) (h3.benign hw)
  exact ⟨_, os, it, s₁, items, s₂, algStart_eq hra hrb kind s, h1, g1, g2.trans h2, g3⟩

/-! ### the `-` operator -/

/-- `&a - &b` (`self.difference(rhs).cloned().collect()` into a set of `a`'s capacity, run on the
    fresh local `Raw.new a.cap`): in a benign lawful world it returns, never overflows
    (`|a ∖ b| ≤ |a| ≤ cap a`), and the new set holds exactly one clone (`E.clK id ·`, at some ids) of
    every element of `diffL ka kb`, in that order; the only effects are those clone calls (no drop:
    nothing is replaced).  Hence it is duplicate-free and its membership is the mathematical one.

    NEEDED HYPOTHESIS `hcl`: a clone compares equal to its source (`(k.clone() == k)`), which the
    crate silently relies on — otherwise `insert` of a clone could replace an earlier element
    instead of appending, or two clones of distinct elements could collide. -/
theorem sub_correct (hE : E.Lawful) (hcl : ∀ n k, E.keq (E.clK n k) k = true) {a b : Raw K Unit}
    {la lb : List (K × Unit)} (hra : Rep a la) (hrb : Rep b lb) (hna : NodupB E.keq (la.map (·.1)))
    {s : St K Unit Q} (hw : Benign s.w) (hs : s.r = Raw.new a.cap) :
    ∃ s' cl ids, subInto E a b s = .ok () s' ∧ s'.r.cap = a.cap ∧ Rep s'.r (cl.map (fun c => (c, ()))) ∧
      ids.length = (diffL E.keq (la.map (·.1)) (lb.map (·.1))).length ∧
      cl = List.zipWith E.clK ids (diffL E.keq (la.map (·.1)) (lb.map (·.1))) ∧
      WRel s.w s'.w (cloneTrace (diffL E.keq (la.map (·.1)) (lb.map (·.1))) cl) ∧
      NodupB E.keq cl ∧
      (∀ x, memB E.keq x cl = (memB E.keq x (la.map (·.1)) && !memB E.keq x (lb.map (·.1)))) := by
  have hr0 : Rep s.r ([] : List (K × Unit)) := by rw [hs]; exact Rep.new _
  have hcap : s.r.cap = a.cap := by rw [hs]; rfl
  have hkeys := (left_own_elements E.keq la (lb.map (·.1)) false).1.trans (if_neg Bool.false_ne_true)
  have hlen : (diffL E.keq (la.map (·.1)) (lb.map (·.1))).length ≤ la.length := by
    rw [← hkeys, List.length_map]; exact selRest_length_le ..
  -- in two steps: the application to all hypotheses at once takes the elaborator twice as long
  have hloop := subLoop_run E hE hcl hra hrb (la.length + 1) ⟨0, la.length⟩ _ [] s hkeys (Nat.le_refl _) hw hr0
  obtain ⟨s', ids, h4, h1, h2, h3, h6⟩ := hloop (Nat.lt_succ_of_le hlen)
    (by rw [hcap, List.length_nil, Nat.zero_add]; exact Nat.le_trans hlen hra.2.1)
    (nodup_diff _ _ hna) (fun _ _ => rfl)
  refine ⟨s', _, ids, ?_, by rw [h2, hcap], h3, h4, rfl, h6, ?_, ?_⟩
  · unfold subInto Micromap.unwindWith
    simp only [bind_apply, hra.iterStartR_ok]
    rw [show (⟨0, la.length⟩ : SliceIt).len = la.length from rfl, h1]
  · exact nodup_clones hE.equivB E.clK hcl ids _ h4 (nodup_diff _ _ hna)
  · intro x
    rw [memB_clones hE.equivB E.clK hcl ids _ h4, memB_diff hE.equivB]

end sets

/-! ## std's provided `nth(k)` and `last()` on the four lazy set operations (`Model/StdIterB.lean`)

`Difference`, `Intersection`, `Union`, `SymmetricDifference` (and `DifferenceRef`) do not override
`nth` / `advance_by` / `last`; they DO override `fold`.  So `nth(k)` is core's `advance_by(k)` —
`next` up to `k` times, stopping at the first `None` — followed by `next` (`algNth`), and `last()`
is core's `fold(None, |_, x| Some(x))` running the crate's `fold` (`algLast` = the last item
`algFold` visits).  Everything is stated relative to `algRest`, the list the iterator state still
yields under repeated `next` (`fold_eq_next_after`, `algRunOut_exact`) — which `set_algebra_exact`,
`difference_exact`, … identify with `diffL` / `interL` / `unionL` / `symmL` for a fresh iterator. -/

open Micromap.StdIterB

section genericX
variable {K V Q : Type} (E : Env K V Q)

/-- `nth(k)` from any well-formed state, under ANY `==` and any injection: never `ub`, read-only,
    unwinding only by an injected panic; the state stays well formed and of the same kind, the
    bound `meas` does not grow, a returned item is a reference to a live slot of an operand. -/
theorem algNth_safe {a b : Raw K V} {la lb : List (K × V)} (hra : Rep a la) (hrb : Rep b lb)
    (k : Nat) (it : AlgIt) (hit : AlgInv la.length lb.length it) (s : St K V Q) :
    SafeRO (algNth E a b k it) s (fun res => res.2.kind = it.kind ∧ AlgInv la.length lb.length res.2 ∧
      meas res.2 ≤ meas it ∧ ∀ x, res.1 = some x → ItemOf la lb x) :=
  ((algNth_quiet E hra hrb k it hit).mono (fun _ ⟨h1, h2, h3, h4, _⟩ => ⟨h1, h2, h3, h4⟩)).at s

/-- `last()` from any well-formed state, under ANY `==` and any injection. -/
theorem algLast_safe {a b : Raw K V} {la lb : List (K × V)} (hra : Rep a la) (hrb : Rep b lb)
    (it : AlgIt) (hit : AlgInv la.length lb.length it) (s : St K V Q) :
    SafeRO (algLast E a b it) s (fun res => ∀ x, res = some x → ItemOf la lb x) :=
  ((algLast_quiet E hra hrb it hit).mono (fun _ h => h.1)).at s

/-- `nth(k)` from ANY well-formed state (in particular every state reachable by `next`s and
    `nth`s): it returns the `k`-th item of what repeated `next` would yield (`None` if there are
    not that many) and leaves exactly the items after it; nothing is changed. -/
theorem nth_exact (hE : E.Pure) {a b : Raw K V} {la lb : List (K × V)} (hra : Rep a la) (hrb : Rep b lb)
    (k : Nat) (it : AlgIt) (hit : AlgInv la.length lb.length it) {s : St K V Q} (hw : Benign s.w) :
    ∃ it' s', algNth E a b k it s = .ok ((algRest E.keq la lb it)[k]?, it') s' ∧ s'.r = s.r ∧
      WRel s.w s'.w [] ∧ it'.kind = it.kind ∧ AlgInv la.length lb.length it' ∧
      algRest E.keq la lb it' = (algRest E.keq la lb it).drop (k + 1) := by
  obtain ⟨⟨o, it'⟩, s', h1, h2, h3, h4, h5, _, _, h8⟩ := (algNth_quiet E hra hrb k it hit).run hw
  simp only at h4 h5 h8
  rw [(h8 hE).1] at h1
  exact ⟨it', s', h1, h2, h3, h4, h5, (h8 hE).2⟩

/-- `nth(k)` is the last of `k+1` calls of `next`: the same item, and the same items left. -/
theorem nth_eq_next (hE : E.Pure) {a b : Raw K V} {la lb : List (K × V)} (hra : Rep a la) (hrb : Rep b lb)
    (k : Nat) (it : AlgIt) (hit : AlgInv la.length lb.length it) {s : St K V Q} (hw : Benign s.w) :
    ∃ os it₁ s₁ it₂ s₂, nextN E a b (k + 1) it s = .ok (os, it₁) s₁ ∧
      algNth E a b k it s = .ok ((os[k]?).join, it₂) s₂ ∧
      algRest E.keq la lb it₂ = algRest E.keq la lb it₁ := by
  obtain ⟨⟨os, it₁⟩, s₁, h1, _, _, _, _, _, h7⟩ := (nextN_quiet E hra hrb (k + 1) it hit).run hw
  simp only at h7
  obtain ⟨it₂, s₂, g1, _, _, _, _, g6⟩ := nth_exact E hE hra hrb k it hit hw
  refine ⟨os, it₁, s₁, it₂, s₂, h1, ?_, by rw [g6, (h7 hE).2]⟩
  rw [g1, (h7 hE).1]
  simp

/-- `last()` from ANY well-formed state: the last item of what repeated `next` (equivalently the
    custom `fold`) would yield — `None` exactly when nothing is left; nothing is changed. -/
theorem last_exact (hE : E.Pure) {a b : Raw K V} {la lb : List (K × V)} (hra : Rep a la) (hrb : Rep b lb)
    (it : AlgIt) (hit : AlgInv la.length lb.length it) {s : St K V Q} (hw : Benign s.w) :
    ∃ s', algLast E a b it s = .ok (algRest E.keq la lb it).getLast? s' ∧ s'.r = s.r ∧
      WRel s.w s'.w [] ∧ ((algRest E.keq la lb it).getLast? = none ↔ algRest E.keq la lb it = []) := by
  obtain ⟨o, s', h1, h2, h3, _, h5⟩ := (algLast_quiet E hra hrb it hit).run hw
  rw [h5 hE] at h1
  exact ⟨s', h1, h2, h3, List.getLast?_eq_none_iff⟩

end genericX

section setsX
variable {K Q : Type} (E : Env K Unit Q)

/-- on scripts without `nth` / `last` the extended interpreter (what the driver runs for scripts
    with `t<k>` / `z`) IS `algScript` / `algOp`. -/
theorem extended_alg_script_extends (dbg : Bool → K → String) (kind : AlgKind) (a b : Raw K Unit)
    (cs : List IterCmd) (it : AlgIt) (forks : List AlgIt) :
    algScriptX E dbg a b (cs.map .base) it forks = algScript E dbg a b cs it forks ∧
    algOpX E dbg kind a b (cs.map .base) = algOp E dbg kind a b cs :=
  ⟨algScriptX_base E dbg a b cs it forks, algOpX_base E dbg kind a b cs⟩

/-- the composite operation with ANY extended script (any mixture of `next`, `nth`, `last`,
    `size_hint`, `Debug`, `clone`, `count`, `fold`), any of the four kinds, under ANY `==` and any
    injection: never `ub` (no loop bound is hit), read-only, unwinding only by an injected panic. -/
theorem algOpX_safe {a b : Raw K Unit} {la lb : List (K × Unit)} (hra : Rep a la) (hrb : Rep b lb)
    (dbg : Bool → K → String) (kind : AlgKind) (script : List IterCmdX) (s : St K Unit Q) :
    SafeRO (algOpX E dbg kind a b script) s (fun _ => True) :=
  (algOpX_quiet E hra hrb dbg kind script).at s

/-- `nth(k)` on a fresh `a.difference(b)` / `intersection` / `union` / `symmetric_difference`: the
    `k`-th element of the full result (the list `set_algebra_exact` identifies with `diffL` /
    `interL` / `unionL` / `symmL`), `None` beyond it; what a later `fold` or draining with `next`
    yields is the full result without its first `k+1` elements. -/
theorem nth_from_start (hE : E.Pure) {a b : Raw K Unit} {la lb : List (K × Unit)} (hra : Rep a la)
    (hrb : Rep b lb) (kind : AlgKind) (k : Nat) {s : St K Unit Q} (hw : Benign s.w) :
    ∃ it s₁ items s₂ s₃,
      (algStart a b kind >>= algNth E a b k) s =
        .ok ((algRest E.keq la lb (startIt la.length lb.length kind))[k]?, it) s₁ ∧
      algFold E a b it s₁ = .ok items s₂ ∧
      algRunOut E a b (a.len + b.len + 1) it s₁ = .ok items s₃ ∧
      s₁.r = s.r ∧ s₂.r = s.r ∧ s₃.r = s.r ∧
      items = (algRest E.keq la lb (startIt la.length lb.length kind)).drop (k + 1) := by
  obtain ⟨⟨o, it⟩, s₁, h1, h2, h3, _, h5, hm, _, h8⟩ :=
    (algNth_quiet E hra hrb k _ (startIt_inv la.length lb.length kind)).run hw
  simp only at h5 hm h8
  obtain ⟨items, s₂, s₃, g1, g2, g3, g4, g5⟩ :=
    fold_eq_next E hE hra hrb it h5 _ (startIt_fuel hra hrb kind hm) (h3.benign hw)
  refine ⟨it, s₁, items, s₂, s₃, ?_, g1, g2, h2, g3.trans h2, g4.trans h2, by rw [g5, (h8 hE).2]⟩
  rw [bind_ok (algStart_eq hra hrb kind s), h1, (h8 hE).1]

/-- `last()` on a fresh iterator: the last element of the full result, `None` iff it is empty;
    it is the last of the items draining with `next` yields. -/
theorem last_from_start (hE : E.Pure) {a b : Raw K Unit} {la lb : List (K × Unit)} (hra : Rep a la)
    (hrb : Rep b lb) (kind : AlgKind) {s : St K Unit Q} (hw : Benign s.w) :
    ∃ items s₁ s₂,
      (algStart a b kind >>= algRunOut E a b (a.len + b.len + 1)) s = .ok items s₁ ∧
      (algStart a b kind >>= algLast E a b) s = .ok items.getLast? s₂ ∧
      s₁.r = s.r ∧ s₂.r = s.r ∧ items = algRest E.keq la lb (startIt la.length lb.length kind) := by
  obtain ⟨s₁, h1, h2, _⟩ := algRunOut_exact E hE hra hrb _ (startIt_inv la.length lb.length kind) _
    (startIt_fuel hra hrb kind (Nat.le_refl _)) hw
  obtain ⟨s₂, g1, g2, _⟩ := last_exact E hE hra hrb _ (startIt_inv la.length lb.length kind) hw
  exact ⟨_, s₁, s₂, (bind_ok (algStart_eq hra hrb kind s)).trans h1,
    (bind_ok (algStart_eq hra hrb kind s)).trans g1, h2, g2, rfl⟩

end setsX

/-! Non-vacuity: concrete operands `a = {1, 2}` (capacity 3), `b = {2, 3}` (capacity 2) and a lawful
    environment meet every hypothesis used above (tests, not proofs). -/

def exEnv : Env Nat Unit Nat :=
  { eqK := fun _ a b => a == b, eqQ := fun _ a b => a == b, eqV := fun _ _ => true, borrow := id,
    clK := fun _ k => k, clV := fun _ v => v, vGlue := false }

def exA : Raw Nat Unit :=
  { cap := 3, len := 2, slots := fun i => if i = 0 then some (1, ()) else if i = 1 then some (2, ()) else none }

def exB : Raw Nat Unit :=
  { cap := 2, len := 2, slots := fun i => if i = 0 then some (2, ()) else if i = 1 then some (3, ()) else none }

def exS : St Nat Unit Nat := ⟨Raw.new exA.cap, {}⟩

example : exEnv.Lawful :=
  Env.Lawful.of_proj id id (fun _ _ _ => rfl) (fun _ _ _ => rfl) (fun _ => rfl)

example : Rep exA [(1, ()), (2, ())] :=
  ⟨rfl, (by decide), fun i hi => match i, hi with | 0, _ => rfl | 1, _ => rfl⟩
example : Rep exB [(2, ()), (3, ())] :=
  ⟨rfl, (by decide), fun i hi => match i, hi with | 0, _ => rfl | 1, _ => rfl⟩
example : NodupB exEnv.keq [1, 2] := by unfold NodupB; decide
example : NodupB exEnv.keq [2, 3] := by unfold NodupB; decide
example : Benign exS.w := ⟨rfl, rfl⟩
example : exS.r = Raw.new exA.cap := rfl
example : ∀ n k, exEnv.keq (exEnv.clK n k) k = true := fun _ k => by simp [Env.keq, exEnv]
example : AlgInv 2 2 (startIt 2 2 .symmetric_difference) := startIt_inv 2 2 _
example : meas (startIt 2 2 .union) < exA.len + exB.len + 1 := by decide
example : diffL exEnv.keq [1, 2] [2, 3] = [1] := by decide
example : interL exEnv.keq [1, 2] [2, 3] = [2] := by decide
example : unionL exEnv.keq [1, 2] [2, 3] = [2, 3, 1] := by decide
example : symmL exEnv.keq [1, 2] [2, 3] = [1, 3] := by decide
example : subsetB exEnv.keq [1, 2] [2, 3] = false := by decide
example : disjointB exEnv.keq [1, 2] [2, 3] = false := by decide
/-- the model itself, run on the concrete operands: `union` yields `2, 3` from `other` (operand 1,
    slots 0 and 1) and then `1` from `self` (operand 0, slot 0). -/
example : (match (algStart exA exB .union >>= algRunOut exEnv exA exB (exA.len + exB.len + 1)) exS with
    | .ok items _ => items == [(1, 0, 2), (1, 1, 3), (0, 0, 1)]
    | _ => false) = true := by decide +kernel

/-! Non-vacuity: the model itself on the concrete operands `a = {1, 2}`, `b = {2, 3}`: `union`
    yields `2, 3` (operand 1) and then `1` (operand 0, slot 0). -/

example : (match (algStart exA exB .union >>= algNth exEnv exA exB 2) exS with
    | .ok (o, _) _ => o == some (0, 0, 1) | _ => false) = true := by decide
example : (match (algStart exA exB .union >>= algNth exEnv exA exB 3) exS with
    | .ok (o, _) _ => o == none | _ => false) = true := by decide +kernel
example : (match (algStart exA exB .union >>= algNth exEnv exA exB 0 >>= fun x => algNth exEnv exA exB 0 x.2) exS with
    | .ok (o, _) _ => o == some (1, 1, 3) | _ => false) = true := by decide
example : (match (algStart exA exB .difference >>= algLast exEnv exA exB) exS with
    | .ok o _ => o == some (0, 0, 1) | _ => false) = true := by decide +kernel
example : (match (algStart exA exB .intersection >>= algLast exEnv exA exB) exS with
    | .ok o _ => o == some (0, 1, 2) | _ => false) = true := by decide +kernel
/-- the script `nth(0); last; next` on `a.difference(b)` (= `[1]`): `nth(0)` takes the only element,
    `last()` then finds nothing and ends the script. -/
example : (match algOpX exEnv (fun _ k => toString k) .difference exA exB [.nth 0, .last, .base .next] exS with
    | .ok [.some (.oref 0 0 (.key 1)), .none] _ => true | _ => false) = true := by decide +kernel

end Micromap.Props.C08
