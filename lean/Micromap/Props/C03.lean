/-
C03 — A full container rejects a new key cleanly in every build profile.

Property theorems only (helper lemmas live in `Micromap/Proofs`).  All statements are
about the L0 model functions that `step` executes; `s.w.profile` is universally
quantified, so every statement covers debug and release builds.
-/
import Micromap.Props.C11
import Micromap.Props.C16

namespace Micromap.Props.C03
open Micromap
variable {K V Q : Type} (E : Env K V Q)

/-- In a world where no injected fault is armed an operation cannot unwind by injection. -/
theorem no_inj {s s' : St K V Q} {c} (hb : Benign s.w) (h : InjPanic s s' c) : False := h.not_benign hb

/-- `insert` of an absent key into a full map panics — by `debug_assert!` in debug builds and by
    the bounds check of `pairs[i]` in release builds — the container is bit-for-bit unchanged
    (all slots, `len`, `cap`), and the effects are exactly: the rejected value and key are dropped. -/
theorem insert_full_absent (hE : E.Pure) {s : St K V Q} {l : List (K × V)} (hr : Rep s.r l)
    (hb : Benign s.w) (hfull : l.length = s.r.cap) (k : K) (v : V)
    (habs : findKey E l (.key k) = none) :
    ∃ c s', insert E k v s = .panic c s' ∧ s'.r = s.r ∧ OverflowPanic s c ∧
      WRel s.w s'.w (dropVTr E v ++ [.dropK k]) := by
  have h := insert_benign E hE hr hb k v
  rw [habs] at h
  exact (h.resolve_left fun h => by omega).2

/-- the same for `insert_key_value` (and `Set::replace`, which is this function at `V = ()`). -/
theorem insert_key_value_full_absent (hE : E.Pure) {s : St K V Q} {l : List (K × V)} (hr : Rep s.r l)
    (hb : Benign s.w) (hfull : l.length = s.r.cap) (k : K) (v : V)
    (habs : findKey E l (.key k) = none) :
    ∃ c s', insert_key_value E k v s = .panic c s' ∧ s'.r = s.r ∧ OverflowPanic s c ∧
      WRel s.w s'.w (dropVTr E v ++ [.dropK k]) := by
  have h := insert_key_value_benign E hE hr hb k v
  rw [habs] at h
  exact (h.resolve_left fun h => by omega).2

/-- `checked_insert` of an absent key into a full map returns `None` instead of panicking,
    changes nothing, and drops both arguments exactly once. -/
theorem checked_insert_full_absent (hE : E.Pure) {s : St K V Q} {l : List (K × V)} (hr : Rep s.r l)
    (hb : Benign s.w) (hfull : l.length = s.r.cap) (k : K) (v : V)
    (habs : findKey E l (.key k) = none) :
    ∃ s', checked_insert E k v s = .ok none s' ∧ s'.r = s.r ∧
      WRel s.w s'.w (dropVTr E v ++ [.dropK k]) := by
  have h := checked_insert_benign E hE hr hb k v
  rw [habs] at h
  exact (h.resolve_left fun h => by omega).2

/-- replacing the value of a key that is already present succeeds on a full container
    (no capacity is needed): `insert`, `checked_insert` and `insert_key_value`. -/
theorem insert_present_on_full (hE : E.Pure) {s : St K V Q} {l : List (K × V)} (hr : Rep s.r l)
    (hb : Benign s.w) (k : K) (v : V) {i} (hpres : findKey E l (.key k) = some i) :
    ∃ (hi : i < l.length) (s' : St K V Q), insert E k v s = .ok (some l[i].2) s' ∧
      Rep s'.r (l.set i (l[i].1, v)) ∧ s'.r.cap = s.r.cap := by
  have h := insert_benign E hE hr hb k v
  rw [hpres] at h
  obtain ⟨hi, s', hm, hrep, hc, _⟩ := h
  exact ⟨hi, s', hm, hrep, hc⟩

theorem checked_insert_present_on_full (hE : E.Pure) {s : St K V Q} {l : List (K × V)} (hr : Rep s.r l)
    (hb : Benign s.w) (k : K) (v : V) {i} (hpres : findKey E l (.key k) = some i) :
    ∃ (hi : i < l.length) (s' : St K V Q), checked_insert E k v s = .ok (some (some l[i].2)) s' ∧
      Rep s'.r (l.set i (l[i].1, v)) ∧ s'.r.cap = s.r.cap := by
  have h := checked_insert_benign E hE hr hb k v
  rw [hpres] at h
  obtain ⟨hi, s', hm, hrep, hc, _⟩ := h
  exact ⟨hi, s', hm, hrep, hc⟩

theorem insert_key_value_present_on_full (hE : E.Pure) {s : St K V Q} {l : List (K × V)}
    (hr : Rep s.r l) (hb : Benign s.w) (k : K) (v : V) {i} (hpres : findKey E l (.key k) = some i) :
    ∃ (hi : i < l.length) (s' : St K V Q), insert_key_value E k v s = .ok (some l[i]) s' ∧
      Rep s'.r (l.set i (k, v)) ∧ s'.r.cap = s.r.cap := by
  have h := insert_key_value_benign E hE hr hb k v
  rw [hpres] at h
  obtain ⟨hi, s', hm, hrep, hc, _⟩ := h
  exact ⟨hi, s', hm, hrep, hc⟩

/-- whatever happens (any oracle, any injection point, either profile), `insert` leaves a
    container that is represented by a list no longer than its unchanged capacity:
    `len() <= capacity()` and `capacity()` is always `N`. -/
theorem insert_len_le_cap {s : St K V Q} {l : List (K × V)} (hr : Rep s.r l) (k : K) (v : V) :
    Sat (insert E k v) s (fun _ s' => s'.r.len ≤ s'.r.cap ∧ s'.r.cap = s.r.cap)
      (fun _ s' => s'.r.len ≤ s'.r.cap ∧ s'.r.cap = s.r.cap) := by
  refine Sat.mono (insert_sat E hr k v) ?_ ?_
  · rintro a s' ⟨hc, ⟨i, hi, _, hrep, _⟩ | ⟨_, _, hrep, _⟩⟩ <;> exact ⟨hrep.len_le_cap, hc⟩
  · rintro c s' ⟨hc, ⟨_, l', hrep, _⟩ | ⟨hs, _⟩⟩
    · exact ⟨hrep.len_le_cap, hc⟩
    · rw [hs]; exact ⟨hr.len_le_cap, rfl⟩

/-! ### the other safe insertion entry points (proved in `Props/C11.lean`, `Props/C16.lean`) -/

/-- `entry(k).or_insert(d)` with an absent key on a full map: the overflow panic of both profiles,
    container unchanged, the default and the key dropped once each. -/
theorem entry_or_insert_full_absent (hE : E.Pure) {s : St K V Q} {l : List (K × V)} (hr : Rep s.r l)
    (hb : Benign s.w) (k : K) (d : V) (hf : findKey E l (.key k) = none) (hfull : l.length = s.r.cap) :
    ∃ c s', (entry E k >>= or_insert E d) s = .panic c s' ∧ s'.r = s.r ∧
      OverflowPanic s c ∧ WRel s.w s'.w (dropVTr E d ++ [.dropK k]) :=
  C11.entry_or_insert_full E hE hr hb k d hf hfull

/-- `or_insert_with` / `or_insert_with_key` / `or_default` (tags 2, 3, 4): the closure runs once,
    then the same clean rejection. -/
theorem entry_or_insert_with_full_absent (hE : E.Pure) {s : St K V Q} {l : List (K × V)} (hr : Rep s.r l)
    (hb : Benign s.w) (k : K) (tag : Nat) (mk : V) (hf : findKey E l (.key k) = none)
    (hfull : l.length = s.r.cap) :
    ∃ c s', (entry E k >>= or_insert_with E tag mk) s = .panic c s' ∧ s'.r = s.r ∧
      OverflowPanic s c ∧ WRel s.w s'.w (.call tag :: (dropVTr E mk ++ [.dropK k])) :=
  C11.entry_or_insert_with_full E hE hr hb k tag mk hf hfull

/-- `collect` / `From<[_; N]>` / `Extend`: the first item whose key is new when the container is
    full raises the overflow panic; the items before it are in (`foldInsert`), nothing after it is
    pulled (`extend_overflow` states the exact trace). -/
theorem extend_overflows_at_first_surplus (hE : E.Pure) (pulls : Bool) (xs : List (K × V)) {s : St K V Q}
    {l0 : List (K × V)} (hr : Rep s.r l0) (hw : Benign s.w) {m : Nat}
    (hov : FromIter.overflowAt E s.r.cap l0 xs = some m) :
    ∃ c s', extendLoop E pulls xs s = .panic c s' ∧ OverflowPanic s c ∧
      Rep s'.r (FromIter.foldInsert E l0 (xs.take m)) ∧ s'.r.cap = s.r.cap := by
  obtain ⟨c, s', _, _, h1, h2, _, h4, h5, _⟩ := C16.extend_overflow E hE pulls xs hr hw hov
  exact ⟨c, s', h1, h2, h4, h5⟩

/-- `Set::insert` / `Set::replace` are `insert` / `insert_key_value` at `V = ()`. -/
theorem set_insert_full_absent (F : Env K Unit Q) (hF : F.Pure) {s : St K Unit Q} {l : List (K × Unit)}
    (hr : Rep s.r l) (hb : Benign s.w) (hfull : l.length = s.r.cap) (k : K)
    (habs : findKey F l (.key k) = none) :
    (∃ c s', insert F k () s = .panic c s' ∧ s'.r = s.r ∧ OverflowPanic s c) ∧
    (∃ c s', insert_key_value F k () s = .panic c s' ∧ s'.r = s.r ∧ OverflowPanic s c) := by
  obtain ⟨c, s', h1, h2, h3, _⟩ := insert_full_absent F hF hr hb hfull k () habs
  obtain ⟨c2, s2, g1, g2, g3, _⟩ := insert_key_value_full_absent F hF hr hb hfull k () habs
  exact ⟨⟨c, s', h1, h2, h3⟩, ⟨c2, s2, g1, g2, g3⟩⟩

/-! Non-vacuity: a concrete full map with an absent key meets the hypotheses (tests, not proofs). -/

def exEnv : Env Nat Nat Nat :=
  { eqK := fun _ a b => a == b, eqQ := fun _ a b => a == b, eqV := fun a b => a == b, borrow := id,
    clK := fun _ k => k, clV := fun _ v => v }

def exRaw : Raw Nat Nat :=
  { cap := 2, len := 2, slots := fun i => if i = 0 then some (7, 70) else if i = 1 then some (8, 80) else none }

example : exEnv.Pure := ⟨fun _ _ _ => rfl, fun _ _ _ => rfl⟩
example : Rep exRaw [(7, 70), (8, 80)] :=
  ⟨rfl, by decide, fun i hi => by
    have : i = 0 ∨ i = 1 := by simp at hi; omega
    rcases this with rfl | rfl <;> rfl⟩
example : findKey exEnv [(7, 70), (8, 80)] (.key 9) = none := by decide
example : findKey exEnv [(7, 70), (8, 80)] (.key 8) = some 1 := by decide

end Micromap.Props.C03
