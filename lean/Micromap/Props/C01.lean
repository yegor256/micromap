/-
C01 — Map is a correct bounded dictionary: every call agrees with a reference model.

Property theorems only (helper lemmas: `Proofs/Refine*.lean`, `Proofs/DictLaws.lean`,
`Proofs/MapApi.lean`, `Proofs/Bulk.lean`).  The reference model is `Spec/RefDict.lean`
(an association list with `find?` / `map` / `filter` / `filterMap`), the operations are the model
functions `insert`, `insert_key_value`, `checked_insert`, `get`, `get_mut`, `contains_key`, `index`,
`index_mut`, `remove`, `remove_entry`, `retain`, `clear`, `len`, `is_empty`, `iter` that
`stepMapOp` executes (`Refine.mrun`).  `s.w.profile` is universally quantified everywhere: every
statement covers debug and release builds; the capacity `s.r.cap` is an arbitrary `Nat`
(so `N = 0` and the full/empty boundaries are included).
-/
import Micromap.Proofs.RefineSet
import Micromap.Proofs.RefineTie
import Micromap.Props.SysSpec

namespace Micromap.Props.C01
open Micromap Micromap.Refine SetAlg
variable {K V Q : Type} {E : Env K V Q}

/-- One step.  Lawful key type, no injected fault: from a state simulating the reference dictionary
    `d`, every dictionary operation returns exactly the reference's return value (iteration order
    aside), panics exactly when the reference overflows (`debug_assert!` in debug, the index check
    in release) or indexes a missing key, and ends in a state simulating the reference's next
    state, with the same capacity. -/
theorem step_refines (hE : E.Lawful) (op : DOp K V Q) {s : St K V Q} {d : List (K × V)}
    (hs : Sim E s.r d) (hb : Benign s.w) : StepOK E op s d :=
  sim_step hE op hs hb

/-- all outputs of a history agree with the reference; a panicking step leaves both sides where
    they were and the history goes on. -/
def HistOK (E : Env K V Q) : List (DOp K V Q) → St K V Q → List (K × V) → Prop
  | [], _, _ => True
  | op :: ops, s, d =>
    match srun E op d s.r.cap with
    | .ok out d' => ∃ out' s', mrun E op s = .ok out' s' ∧ OutRel out' out ∧ HistOK E ops s' d'
    | .overflow => ∃ c s', mrun E op s = .panic c s' ∧ OverflowPanic s c ∧ HistOK E ops s' d
    | .noentry => ∃ s', mrun E op s = .panic .noentry s' ∧ HistOK E ops s' d

/-- **Any sequence of operations** from any state that simulates the reference — in particular from
    `Map::new()` — behaves like the ideal dictionary of the same capacity: by induction over the
    history, no bound on its length. -/
theorem history_refines (hE : E.Lawful) (ops : List (DOp K V Q)) :
    ∀ (s : St K V Q) (d : List (K × V)), Sim E s.r d → Benign s.w → HistOK E ops s d := by
  induction ops with
  | nil => intro _ _ _ _; trivial
  | cons op ops ih =>
    intro s d hs hb
    have h := sim_step hE op hs hb
    unfold StepOK at h
    unfold HistOK
    generalize srun E op d s.r.cap = r at h ⊢
    cases r with
    | ok out d' =>
      obtain ⟨out', s', hm, ho, hs', _, hb'⟩ := h
      exact ⟨out', s', hm, ho, ih s' d' hs' hb'⟩
    | overflow =>
      obtain ⟨c, s', hm, ho, hr, hb'⟩ := h
      exact ⟨c, s', hm, ho, ih s' d (hr ▸ hs) hb'⟩
    | noentry =>
      obtain ⟨s', hm, hr, hb'⟩ := h
      exact ⟨s', hm, ih s' d (hr ▸ hs) hb'⟩

/-- `Map::new()` simulates the empty dictionary, for every capacity. -/
theorem new_sim (cap : Nat) : Sim E (Raw.new cap : Raw K V) [] :=
  ⟨[], Rep.new cap, List.Pairwise.nil, List.Perm.nil⟩

/-- histories from `new()`. -/
theorem history_from_new (hE : E.Lawful) (cap : Nat) (w : World K V Q) (hb : Benign w)
    (ops : List (DOp K V Q)) : HistOK E ops ⟨Raw.new cap, w⟩ [] :=
  history_refines hE ops _ _ (new_sim cap) hb

/-- Lookups through a borrowed form of the key answer exactly like lookups by the key itself
    (`get`, `get_key_value`; the same argument applies to every probe-taking operation because
    the reference result depends on the probe only through `hitP`, and
    `hitP (.q (borrow k)) = hitP (.key k)`). -/
theorem get_by_borrowed_form (hE : E.Lawful) (k : K) {s : St K V Q} {d : List (K × V)}
    (hs : Sim E s.r d) (hb : Benign s.w) :
    ∃ o s₁ s₂, mrun E (.get (.q (E.borrow k))) s = .ok o s₁ ∧ mrun E (.get (.key k)) s = .ok o s₂ := by
  obtain ⟨s₁, h1, _⟩ := (sim_step hE (.get (.q (E.borrow k))) hs hb).ok_eq rfl fun _ => nofun
  obtain ⟨s₂, h2, _⟩ := (sim_step hE (.get (.key k)) hs hb).ok_eq rfl fun _ => nofun
  exact ⟨_, s₁, s₂, hitP_borrow hE k ▸ h1, h2⟩

/-- the reference results of all probe-taking operations coincide for `k` and its borrowed form. -/
theorem srun_borrowed (hE : E.Lawful) (k : K) (d : List (K × V)) (cap : Nat) (g : V → V) :
    srun E (.get (.q (E.borrow k))) d cap = srun E (.get (.key k)) d cap ∧
    srun E (.get_mut (.q (E.borrow k)) g) d cap = srun E (.get_mut (.key k) g) d cap ∧
    srun E (.contains_key (.q (E.borrow k))) d cap = srun E (.contains_key (.key k)) d cap ∧
    srun E (.index (.q (E.borrow k))) d cap = srun E (.index (.key k)) d cap ∧
    srun E (.index_mut (.q (E.borrow k)) g) d cap = srun E (.index_mut (.key k) g) d cap ∧
    srun E (.remove (.q (E.borrow k))) d cap = srun E (.remove (.key k)) d cap ∧
    srun E (.remove_entry (.q (E.borrow k))) d cap = srun E (.remove_entry (.key k)) d cap := by
  simp only [srun, hitP_borrow hE k, and_self]

/-- Indexing panics (with the "no entry" panic) exactly when the key is absent, and otherwise
    returns the stored pair; the container is untouched either way. -/
theorem index_panics_iff_absent (hE : E.Lawful) (pr : Probe K Q) {s : St K V Q} {d : List (K × V)}
    (hs : Sim E s.r d) (hb : Benign s.w) :
    ((RefDict.find (E.hitP pr) d = none) ↔ ∃ s', mrun E (.index pr) s = .panic .noentry s') ∧
    (∀ p, RefDict.find (E.hitP pr) d = some p → ∃ s', mrun E (.index pr) s = .ok (.kv p) s') := by
  have h := sim_step hE (.index pr) hs hb
  cases hf : RefDict.find (E.hitP pr) d with
  | none =>
    unfold StepOK srun at h
    simp only [hf] at h
    obtain ⟨s', hm, _⟩ := h
    exact ⟨⟨fun _ => ⟨s', hm⟩, fun _ => rfl⟩, nofun⟩
  | some p =>
    obtain ⟨s', hm, _⟩ := h.ok_eq (out := .kv p) (d' := d) (by simp only [srun, hf]) fun _ => nofun
    refine ⟨⟨nofun, fun ⟨s'', hm'⟩ => ?_⟩, fun q hq => Option.some.inj hq ▸ ⟨s', hm⟩⟩
    rw [hm] at hm'; cases hm'

/-- the observable associations after any step are those of the reference: `len` and every lookup. -/
theorem sim_observables (hE : E.Lawful) {r : Raw K V} {d : List (K × V)} (hs : Sim E r d) :
    r.len = d.length ∧ r.len ≤ r.cap ∧
    ∀ pr : Probe K Q, Dict.lookupP (E.hitP pr) r.abs = RefDict.find (E.hitP pr) d := by
  obtain ⟨l, hr, hn, hperm⟩ := hs
  have habs : r.abs = l := Rep.unique hr.safe.rep hr
  refine ⟨by rw [hr.1, hperm.length_eq], hr.safe.1, fun pr => ?_⟩
  rw [habs]
  exact Dict.lookupP_perm hE.equivB (hE.probeOK pr) hn hperm

/-- **The theorems are about what is executed.**  `mrun op` is `stepMapOp` (the function `step`
    runs and the driver executes against the real crate) on the corresponding `MapOp`: same outcome,
    same final state, same return value once slot positions are erased. -/
theorem step_executes_mrun (R : Render K V) (other : Nat → Raw K V) (op : DOp K V Q) (mop : MapOp K V Q)
    (h : toMapOp op = some mop) (s : St K V Q) :
    Res.mapOut (viewRV op) (stepMapOp E R other mop s) = Res.mapOut (viewD op) (mrun E op s) :=
  stepMapOp_eq_mrun E R other op mop h s

/-! ### non-vacuity (tests, not proofs): a lawful key type whose equal keys are distinguishable -/

/-- keys `(class, id)` compared by class only; borrowed form = the class. -/
def exEnv : Env (Nat × Nat) Nat Nat :=
  { eqK := fun _ a b => a.1 == b.1, eqQ := fun _ a b => a == b, eqV := fun a b => a == b,
    borrow := fun a => a.1, clK := fun n k => (k.1, n), clV := fun _ v => v }

theorem exEnv_lawful : exEnv.Lawful :=
  .of_proj Prod.fst id (fun _ _ _ => rfl) (fun _ _ _ => rfl) (fun _ => rfl)

example : HistOK exEnv
    [.insert (1, 10) 5, .insert (2, 11) 6, .insert (1, 12) 7, .insert (3, 13) 8, .get (.q 1),
     .remove (.key (1, 99)), .index (.q 1), .iter]
    ⟨Raw.new 2, {}⟩ [] :=
  history_from_new exEnv_lawful 2 {} ⟨rfl, rfl⟩ _

/-! ### the whole system against a readable list-level interpreter

`Spec/ListSys.lean` is a pure interpreter of the WHOLE operation language over association lists
(no slots, no world, no callbacks): `ListSys.lstep` / `lrun`.  The slot machine that the driver
executes against the real crate computes exactly this function (`Props/SysSpec.lean`,
`Proofs/ListSys*.lean`): the bounded-dictionary behaviour of this property, and with it every
returned value, reference position, iterator output, rendered string, count and panic of every safe
operation on all four registers, is fixed by a function one can read. -/

section ListLevel
open Micromap.ListSys

/-- one step of the system = one step of the list-level interpreter (benign world, `==` that does
    not change between calls; `Op.inSpec`: everything but the two `unsafe fn`s and `inject`;
    `Op.SideOK`: a `retain` predicate independent of the call counter, clones independent of the
    fresh-object counter for `clone_to` / `sub` / `serde`). -/
theorem system_step_refines (E : Env K V Q) (R : Render K V) (hE : E.Pure) {sys : Sys K V Q}
    {ls : LSys K V} (hb : Benign sys.w) (hs : SysRep sys ls) (op : Op K V Q) (hop : op.inSpec = true)
    (hside : Op.SideOK E op) :
    view (step E R sys op).2 = (lstep E R ls op).2 ∧
      SysRep (step E R sys op).1 (lstep E R ls op).1 ∧ Benign (step E R sys op).1.w :=
  SysSpec.step_refines E R hE hb hs op hop hside

/-- every history from fresh registers of any capacities: the outcomes and returned values are
    those the interpreter computes, and the final registers hold the interpreter's lists. -/
theorem system_history_refines (E : Env K V Q) (R : Render K V) (hE : E.Pure) (capM capS : Nat → Nat)
    (w0 : World K V Q) (hb : Benign w0) (ops : List (Op K V Q))
    (hops : ∀ op ∈ ops, op.inSpec = true ∧ Op.SideOK E op) :
    (run E R (Sys.init capM capS w0) ops).2.map view =
        (lrun E R (LSys.init capM capS w0.profile) ops).2 ∧
      SysRep (run E R (Sys.init capM capS w0) ops).1 (lrun E R (LSys.init capM capS w0.profile) ops).1 :=
  let h := SysSpec.run_refines E R hE capM capS w0 hb ops hops
  ⟨h.1, h.2.1⟩

/-- only the lists matter: dead slots, event logs, counters do not influence any later result. -/
theorem system_depends_on_lists_only (E : Env K V Q) (R : Render K V) (hE : E.Pure)
    {sys₁ sys₂ : Sys K V Q} {ls : LSys K V} (hb₁ : Benign sys₁.w) (hb₂ : Benign sys₂.w)
    (hs₁ : SysRep sys₁ ls) (hs₂ : SysRep sys₂ ls) (ops : List (Op K V Q))
    (hops : ∀ op ∈ ops, op.inSpec = true ∧ Op.SideOK E op) :
    (run E R sys₁ ops).2.map view = (run E R sys₂ ops).2.map view :=
  (SysSpec.run_deterministic_in_lists E R hE hb₁ hb₂ hs₁ hs₂ ops hops).1

end ListLevel

end Micromap.Props.C01
