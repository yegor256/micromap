/-
C13 — `get_disjoint_mut` agrees with `get_mut` and never returns aliasing references.

The property theorems (the triples they rest on are in `Micromap/Proofs/Disjoint.lean`), then
concrete data meeting their hypotheses.  All statements are about the L0 model functions `get_disjoint_mut`, `get_disjoint_unchecked_mut`, `sortStack`,
`get_mut` of `Micromap/Model/Map.lean`.  A returned `&mut V` is the slot position it points to;
"no aliasing" is "no two `Some` positions of the result are the same slot".  The number of
requests `J` is the length of the list `ks`, universally quantified (so `J = 0` and `J` larger
than the map are covered).
-/
import Micromap.Proofs.Disjoint
import Micromap.Proofs.Benign

namespace Micromap.Props.C13
open Micromap Micromap.Disjoint
open Micromap.SetAlg (NodupKeys)
variable {K V Q : Type} (E : Env K V Q)

/-- In a world where no injected fault is armed an operation cannot unwind by injection. -/
theorem no_inj {s s' : St K V Q} {c} (hb : Benign s.w) (h : InjPanic s s' c) : False := h.not_benign hb

/-! ### safety and no aliasing: any `==`, any injection point, both profiles -/

/-- Whatever `==` and `Borrow` answer (non-reflexive, asymmetric, time-varying) and wherever a
    panic is injected, `get_disjoint_mut` never reaches UB; it never changes the container, neither
    on return nor on unwinding; it returns one entry per request; every returned slot is a live
    slot (`< len`); and NO TWO RETURNED SLOTS COINCIDE (the pass pushes strictly increasing slot
    positions, at most one per slot).  It unwinds only with `.overlap` (pre-check), `.oob` (the
    checked stack index, when a lying `==` matches more slots than requests) or an injected panic. -/
theorem get_disjoint_mut_safe {s : St K V Q} {l : List (K × V)} (hr : Rep s.r l) (ks : List (Probe K Q)) :
    Sat (get_disjoint_mut E ks) s
      (fun res s' => s'.r = s.r ∧ WRel s.w s'.w [] ∧ res.length = ks.length ∧
        (∀ (t j : Nat), res[t]? = some (some j) → j < l.length) ∧
        (∀ (t₁ t₂ j : Nat), res[t₁]? = some (some j) → res[t₂]? = some (some j) → t₁ = t₂))
      (fun c s' => s'.r = s.r ∧ (c = .overlap ∨ c = .oob ∨ InjPanic s s' c)) := by
  refine Sat.mono (checked_sat E hr ks) (fun _ _ ⟨h1, h2, h3, h4, h5, _⟩ => ⟨h1, h2, h3, h4, h5⟩) ?_
  rintro c s' ⟨h1, h | ⟨h, _⟩ | ⟨h, _⟩⟩
  · exact ⟨h1, .inr (.inr h)⟩
  · exact ⟨h1, .inr (.inl h)⟩
  · exact ⟨h1, .inl h⟩

/-- the same guarantees for `get_disjoint_unchecked_mut` (which cannot panic `.overlap`). -/
theorem get_disjoint_unchecked_mut_safe {s : St K V Q} {l : List (K × V)} (hr : Rep s.r l)
    (ks : List (Probe K Q)) :
    Sat (get_disjoint_unchecked_mut E ks) s
      (fun res s' => s'.r = s.r ∧ res.length = ks.length ∧
        (∀ (t j : Nat), res[t]? = some (some j) → j < l.length) ∧
        (∀ (t₁ t₂ j : Nat), res[t₁]? = some (some j) → res[t₂]? = some (some j) → t₁ = t₂))
      (fun c s' => s'.r = s.r ∧ (c = .oob ∨ InjPanic s s' c)) :=
  Sat.mono (unchecked_sat E hr ks) (fun _ _ ⟨h1, _, h3, h4, h5, _⟩ => ⟨h1, h3, h4, h5⟩)
    fun _ _ ⟨h1, h2⟩ => ⟨h1, h2.symm.imp_left And.left⟩

/-- Lawful `==`/`Borrow`, unique stored keys, pairwise unequal requests (of any number): the call
    returns, the container is unchanged, no effect, and position by position the result is the
    slot the linear scan finds for that request (`None` for a missing key). -/
theorem get_disjoint_mut_agrees (hE : E.Lawful) {s : St K V Q} {l : List (K × V)} (hr : Rep s.r l)
    (hn : NodupKeys E.keq l) (hb : Benign s.w) {ks : List (Probe K Q)} (hu : Unequal E ks) :
    ∃ s', get_disjoint_mut E ks s = .ok (ks.map (findKey E l)) s' ∧ s'.r = s.r ∧
      WRel s.w s'.w [] := by
  obtain ⟨s', hs, hw, _, _, h⟩ := checked_pure E hE.toPure hr hb ks
  exact ⟨s', resSpec_lawful E hE hn hu ▸ h hu (not_overfull E hE hn ks), hs, hw⟩

/-- … which is exactly what `get_mut` returns for that key on the same state: for every position
    `t`, `get_mut(ks[t])` finds the slot `res[t]` (or nothing when `res[t] = None`). -/
theorem get_disjoint_mut_eq_get_mut (hE : E.Lawful) {s : St K V Q} {l : List (K × V)} (hr : Rep s.r l)
    (hn : NodupKeys E.keq l) (hb : Benign s.w) {ks : List (Probe K Q)} (hu : Unequal E ks)
    (g : V → V) :
    ∃ res s', get_disjoint_mut E ks s = .ok res s' ∧ s'.r = s.r ∧ res.length = ks.length ∧
      ∀ t (ht : t < ks.length), ∃ o s1, get_mut E ks[t] g s = .ok o s1 ∧
        res[t]? = some (o.map (·.1)) := by
  obtain ⟨s', h1, hs, _⟩ := get_disjoint_mut_agrees E hE hr hn hb hu
  refine ⟨_, s', h1, hs, by simp, fun t ht => ?_⟩
  have hg := get_mut_benign E hE.toPure hr hb ks[t] g
  rw [List.getElem?_map, List.getElem?_eq_getElem ht, Option.map_some]
  cases hf : findKey E l ks[t] with
  | some i => rw [hf] at hg; obtain ⟨_, s1, g1, _⟩ := hg; exact ⟨_, s1, g1, rfl⟩
  | none => rw [hf] at hg; obtain ⟨s1, g1, _⟩ := hg; exact ⟨_, s1, g1, rfl⟩

/-- `J = 0`: the empty request returns the empty result on any state whatsoever. -/
theorem get_disjoint_mut_empty (s : St K V Q) : get_disjoint_mut E ([] : List (Probe K Q)) s = .ok [] s :=
  rfl

/-- more requests than the map has entries is fine: on the empty map every (pairwise unequal)
    request gets `None`. -/
theorem get_disjoint_mut_on_empty (hE : E.Lawful) {s : St K V Q} (hr : Rep s.r ([] : List (K × V)))
    (hb : Benign s.w) {ks : List (Probe K Q)} (hu : Unequal E ks) :
    ∃ s', get_disjoint_mut E ks s = .ok (ks.map fun _ => none) s' ∧ s'.r = s.r := by
  obtain ⟨s', h1, hs, _⟩ := get_disjoint_mut_agrees E hE hr List.Pairwise.nil hb hu
  exact ⟨s', h1, hs⟩

/-- If two of the requests are equal (whether present or not), `get_disjoint_mut` panics with
    "Overlapping keys" instead of returning two references, the container is unchanged and
    nothing was dropped or cloned. -/
theorem get_disjoint_mut_overlap (hE : E.Pure) {s : St K V Q} {l : List (K × V)} (hr : Rep s.r l)
    (hb : Benign s.w) {ks : List (Probe K Q)} {i j : Nat} (hij : i < j) (hj : j < ks.length)
    (heq : reqHit E (ks[i]'(Nat.lt_trans hij hj)) ks[j] = true) :
    ∃ s', get_disjoint_mut E ks s = .panic .overlap s' ∧ s'.r = s.r ∧ WRel s.w s'.w [] := by
  have hnu : ¬ Unequal E ks := by
    intro hu
    have := (List.pairwise_iff_getElem.1 hu) i j (Nat.lt_trans hij hj) hj hij
    rw [heq] at this; cases this
  obtain ⟨s', hs, hw, h, _⟩ := checked_pure E hE hr hb ks
  exact ⟨s', h hnu, hs, hw⟩

/-- conversely, under a pure `==` an `.overlap` panic means two requests were equal. -/
theorem overlap_only_if_equal (hE : E.Pure) {s : St K V Q} {l : List (K × V)} (hr : Rep s.r l)
    (ks : List (Probe K Q)) {s'} (h : get_disjoint_mut E ks s = .panic .overlap s') :
    ¬ Unequal E ks := by
  have := (checked_sat E hr ks).panic_of h
  rcases this.2 with h | ⟨h, _⟩ | ⟨_, _, h⟩
  · cases h.1
  · cases h
  · exact h hE

/-- For any `==` and any injection point: writing `*r = g(*r)` through every reference returned
    by `get_disjoint_mut` (the model's `writeSlots`) never reaches UB, and because the references
    do not alias, every returned slot is updated EXACTLY ONCE (`g` applied once, stored key kept)
    while every other entry is untouched — so a later `get` sees exactly these writes. -/
theorem get_disjoint_mut_then_write {s : St K V Q} {l : List (K × V)} (hr : Rep s.r l)
    (ks : List (Probe K Q)) (g : V → V) :
    Sat (get_disjoint_mut E ks >>= fun res => writeSlots g res >>= fun _ => pure res) s
      (fun res s' => Rep s'.r (writeL g res l) ∧ s'.r.cap = s.r.cap ∧
        (writeL g res l).length = l.length ∧
        ∀ j, (writeL g res l)[j]? =
          if some j ∈ res then (l[j]?).map (fun p => (p.1, g p.2)) else l[j]?)
      (fun _ s' => s'.r = s.r) := by
  refine Sat.bind (Sat.mono (checked_sat E hr ks) (fun _ _ h => h) (fun _ _ h => h.1)) ?_
  intro res s1 ⟨h1, _, _, h4, h5, _⟩
  obtain ⟨s2, g1, g2, _, g4⟩ := writeSlots_eq (Q := Q) g res s1 l (h1 ▸ hr) h4
  exact Sat.bind_ok g1 <| Sat.pure ⟨g2, by rw [g4, h1], writeL_length g res l, fun j => writeL_getElem? g res l j h5⟩

/-- `sort_unstable_by_key` is modelled by `sortStack`; on a stack that is strictly increasing in
    the slot position it is the identity, so stability or the sorting algorithm cannot matter. -/
theorem sortStack_increasing (st : List (Nat × Nat)) (h : st.Pairwise fun a b => a.1 < b.1) :
    sortStack st = st := sortStack_id st h

/-- … and the stack the pass builds always is strictly increasing, for any `==`: every stack
    `disjointCollect` returns from the empty stack satisfies the invariant. -/
theorem collected_stack_increasing {s : St K V Q} {l : List (K × V)} (hr : Rep s.r l)
    (ks : List (Probe K Q)) :
    Sat (disjointCollect E ks l.length 0 []) s
      (fun st _ => st.Pairwise (fun a b => a.1 < b.1) ∧ sortStack st = st ∧
        (∀ x, x ∈ st → x.1 < l.length ∧ x.2 < ks.length) ∧ st.length ≤ ks.length)
      (fun _ _ => True) := by
  refine Sat.mono (disjointCollect_sat E ks l.length 0 [] s hr (Nat.zero_add _) .nil fun _ => rfl)
    (fun st _ ⟨_, _, h, _⟩ => ⟨h.1, sortStack_id st h.1, h.2.1, h.2.2⟩) (fun _ _ _ => trivial)

/-! Non-vacuity: concrete data meeting the hypotheses (tests, not proofs). -/

def exEnv : Env Nat Nat Nat :=
  { eqK := fun _ a b => a == b, eqQ := fun _ a b => a == b, eqV := fun a b => a == b, borrow := id,
    clK := fun _ k => k, clV := fun _ v => v }

def exRaw : Raw Nat Nat :=
  { cap := 3, len := 2, slots := fun i => if i = 0 then some (7, 70) else if i = 1 then some (8, 80) else none }

theorem exLawful : exEnv.Lawful :=
  .of_proj id id (fun _ _ _ => rfl) (fun _ _ _ => rfl) (fun _ => rfl)
theorem exRep : Rep exRaw [(7, 70), (8, 80)] :=
  ⟨rfl, (by show 2 ≤ 3; omega), fun i hi => match i, hi with | 0, _ => rfl | 1, _ => rfl⟩
theorem exNodup : NodupKeys exEnv.keq [(7, 70), (8, 80)] := by
  unfold NodupKeys Micromap.SetAlg.NodupB; decide
theorem exUnequal : Unequal exEnv [.key 8, .q 9, .key 7] := by
  unfold Unequal; decide
example : ¬ Unequal exEnv [.key 8, .q 9, .key 8] := by
  unfold Unequal; decide
example : ([.key 8, .q 9, .key 7] : List (Probe Nat Nat)).map (findKey exEnv [(7, 70), (8, 80)]) =
    [some 1, none, some 0] := by decide
/-- the agreement theorem instantiated: three requests (present, absent, present; out of slot
    order; more requests than entries) on a two-entry map. -/
example : ∃ s', get_disjoint_mut exEnv [.key 8, .q 9, .key 7] ⟨exRaw, {}⟩ =
    .ok [some 1, none, some 0] s' := by
  obtain ⟨s', h, _⟩ := get_disjoint_mut_agrees exEnv exLawful (s := ⟨exRaw, {}⟩) exRep exNodup
    ⟨rfl, rfl⟩ exUnequal
  exact ⟨s', h⟩
/-- the overlap theorem instantiated. -/
example : ∃ s', get_disjoint_mut exEnv [.key 8, .q 9, .key 8] ⟨exRaw, {}⟩ = .panic .overlap s' := by
  obtain ⟨s', h, _⟩ := get_disjoint_mut_overlap exEnv exLawful.toPure (s := ⟨exRaw, {}⟩) exRep
    ⟨rfl, rfl⟩ (ks := [.key 8, .q 9, .key 8]) (i := 0) (j := 2) (by decide) (by decide) (by decide)
  exact ⟨s', h⟩

end Micromap.Props.C13
