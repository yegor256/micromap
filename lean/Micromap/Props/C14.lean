/-
C14 — Equality is extensional, regardless of capacity, slot order or history.

`mapEq E a b` is the model of `Map::eq` (`self = a`, `other = b`); `Set::eq` is the same
function at `V = ()` (`Env.toUnit`, `vGlue = false`).  The operands are *arguments* of
`mapEq` (immutably borrowed containers): they cannot be modified by construction, and the
theorems below additionally show that the state's own register `s.r` is untouched and that
no effect (drop / clone / closure call) happens.  Capacities do not occur in any statement:
the operands are only constrained by `Rep a la`, `Rep b lb`, for arbitrary `a.cap`, `b.cap`.
-/
import Micromap.Proofs.EqClone

namespace Micromap.Props.C14
open Micromap SetAlg EqClone
variable {K V Q : Type} (E : Env K V Q)

/-- In a world where no injected fault is armed an operation cannot unwind by injection. -/
theorem no_inj {s s' : St K V Q} {c} (hb : Benign s.w) (h : InjPanic s s' c) : False := h.not_benign hb

/-- **Safety, any oracle, any injection point, any capacities.**  `Map::eq` never reaches `ub`;
    whether it returns or unwinds, the state's register is untouched and (when it returns) no
    effect other than comparisons happened; it can unwind only by an injected panic of a user
    `==`.  The operands `a`, `b` are arguments and hence unchanged. -/
theorem mapEq_safe {a b : Raw K V} {la lb : List (K × V)} (ha : Rep a la) (hb : Rep b lb)
    (s : St K V Q) :
    Sat (mapEq E a b) s (fun _ s' => s'.r = s.r ∧ WRel s.w s'.w [])
      (fun c s' => s'.r = s.r ∧ InjPanic s s' c) :=
  Sat.mono (mapEq_cb E ha hb s) (fun _ _ h => ⟨h.1, h.2.1⟩) (fun _ _ h => h)

/-- the same for any two memory-safe operands (no list needs to be named): `Map::eq` on two
    `Safe` containers of arbitrary capacities is memory-safe under every `==` oracle. -/
theorem mapEq_safe' {a b : Raw K V} (ha : Safe a) (hb : Safe b) (s : St K V Q) :
    Sat (mapEq E a b) s (fun _ s' => s'.r = s.r ∧ WRel s.w s'.w [])
      (fun c s' => s'.r = s.r ∧ InjPanic s s' c) :=
  mapEq_safe E ha.rep hb.rep s

/-- **What `==` computes.**  In a benign world with a time-independent `==`, `Map::eq` returns
    (never panics) exactly `mapEqCode` of the two represented lists — equal lengths and every
    entry of `a` found in `b` with an equal value — leaves the state untouched and has no effect. -/
theorem mapEq_pure (hE : E.Pure) {a b : Raw K V} {la lb : List (K × V)} (ha : Rep a la)
    (hb : Rep b lb) {s : St K V Q} (hw : Benign s.w) :
    ∃ s', mapEq E a b s = .ok (mapEqCode E.keq (veq E) la lb) s' ∧ s'.r = s.r ∧
      WRel s.w s'.w [] := by
  obtain ⟨r, s', h1, h2, h3, h4⟩ := (mapEq_cb E ha hb).benign hw
  exact ⟨s', h4 hE ▸ h1, h2, h3⟩

/-- **Extensionality.**  With a lawful `Eq` and unique keys on both sides (the container
    invariant), `a == b` is `true` exactly when both hold the same keys with equal values
    (`MapExtEq`: every key looks up alike in both) — for any capacities and any slot orders. -/
theorem mapEq_iff_extEq (hE : E.Lawful) {a b : Raw K V} {la lb : List (K × V)} (ha : Rep a la)
    (hb : Rep b lb) (hna : NodupKeys E.keq la) (hnb : NodupKeys E.keq lb)
    {s : St K V Q} (hw : Benign s.w) :
    ∃ r s', mapEq E a b s = .ok r s' ∧ s'.r = s.r ∧
      (r = true ↔ MapExtEq E.keq (veq E) la lb) := by
  obtain ⟨s', h1, h2, _⟩ := mapEq_pure E hE.toPure ha hb hw
  exact ⟨_, s', h1, h2, mapEqCode_iff hE.equivB (veq E) la lb hna hnb⟩

/-- the result of `mapEq` in a benign world, as a function of the represented lists only. -/
theorem mapEq_result (hE : E.Pure) {a b : Raw K V} {la lb : List (K × V)} (ha : Rep a la)
    (hb : Rep b lb) {s : St K V Q} (hw : Benign s.w) {r s'} (h : mapEq E a b s = .ok r s') :
    r = mapEqCode E.keq (veq E) la lb := by
  obtain ⟨s'', h1, _⟩ := mapEq_pure E hE ha hb hw
  rw [h1] at h
  cases h; rfl

/-- **Symmetry.**  When value equality is symmetric, `a == b` and `b == a` give the same
    answer (evaluated in any two benign states). -/
theorem mapEq_symm (hE : E.Lawful) (hv : ∀ x y, veq E x y = veq E y x)
    {a b : Raw K V} {la lb : List (K × V)} (ha : Rep a la) (hb : Rep b lb)
    (hna : NodupKeys E.keq la) (hnb : NodupKeys E.keq lb)
    {s t : St K V Q} (hs : Benign s.w) (ht : Benign t.w) :
    ∃ r s' t', mapEq E a b s = .ok r s' ∧ mapEq E b a t = .ok r t' := by
  obtain ⟨s', h1, _⟩ := mapEq_pure E hE.toPure ha hb hs
  obtain ⟨t', h2, _⟩ := mapEq_pure E hE.toPure hb ha ht
  rw [← mapEqCode_symm hE.equivB (veq E) hv la lb hna hnb] at h2
  exact ⟨_, s', t', h1, h2⟩

/-- **Reflexivity.**  When value equality is reflexive, every well-formed map equals itself —
    and equals every other container (of any capacity) that represents the same list. -/
theorem mapEq_refl (hE : E.Lawful) (hv : ∀ x, veq E x x = true)
    {a a' : Raw K V} {la : List (K × V)} (ha : Rep a la) (ha' : Rep a' la)
    (hna : NodupKeys E.keq la) {s : St K V Q} (hs : Benign s.w) :
    ∃ s', mapEq E a a' s = .ok true s' ∧ s'.r = s.r := by
  obtain ⟨s', h1, h2, _⟩ := mapEq_pure E hE.toPure ha ha' hs
  rw [mapEqCode_refl hE.equivB (veq E) hv la hna] at h1
  exact ⟨s', h1, h2⟩

/-- **Independence of slot order, history and capacity.**  If `a'` holds a permutation of the
    entries of `a` and `b'` a permutation of those of `b` (any capacities — the histories that
    produced them are irrelevant, only the represented lists matter), the comparison gives the
    same answer. -/
theorem mapEq_perm (hE : E.Lawful) {a a' b b' : Raw K V} {la la' lb lb' : List (K × V)}
    (ha : Rep a la) (ha' : Rep a' la') (hb : Rep b lb) (hb' : Rep b' lb')
    (hna : NodupKeys E.keq la) (hnb : NodupKeys E.keq lb)
    (hpa : la.Perm la') (hpb : lb.Perm lb')
    {s t : St K V Q} (hs : Benign s.w) (ht : Benign t.w) :
    ∃ r s' t', mapEq E a b s = .ok r s' ∧ mapEq E a' b' t = .ok r t' := by
  obtain ⟨s', h1, _⟩ := mapEq_pure E hE.toPure ha hb hs
  obtain ⟨t', h2, _⟩ := mapEq_pure E hE.toPure ha' hb' ht
  rw [← mapEqCode_perm hE.equivB (veq E) la la' lb lb' hna hnb hpa hpb] at h2
  exact ⟨_, s', t', h1, h2⟩

/-- two containers of different capacities that represent the same list are interchangeable as
    operands (the special case `la' = la`, `lb' = lb` of `mapEq_perm`, which needs no lawfulness). -/
theorem mapEq_cap_indep (hE : E.Pure) {a a' b b' : Raw K V} {la lb : List (K × V)}
    (ha : Rep a la) (ha' : Rep a' la) (hb : Rep b lb) (hb' : Rep b' lb)
    {s t : St K V Q} (hs : Benign s.w) (ht : Benign t.w) :
    ∃ r s' t', mapEq E a b s = .ok r s' ∧ mapEq E a' b' t = .ok r t' := by
  obtain ⟨s', h1, _⟩ := mapEq_pure E hE ha hb hs
  obtain ⟨t', h2, _⟩ := mapEq_pure E hE ha' hb' ht
  exact ⟨_, s', t', h1, h2⟩

/-- a value difference in one entry is detected: if some key is bound in both maps to values
    that are not `==`, the maps are unequal (a comparison that ignored values would fail this). -/
theorem mapEq_false_of_value_diff (hE : E.Lawful) {a b : Raw K V} {la lb : List (K × V)}
    (ha : Rep a la) (hb : Rep b lb) (hna : NodupKeys E.keq la) (hnb : NodupKeys E.keq lb)
    {k : K} {x y : V} (hx : lookupL E.keq la k = some x) (hy : lookupL E.keq lb k = some y)
    (hxy : veq E y x = false) {s : St K V Q} (hw : Benign s.w) :
    ∃ s', mapEq E a b s = .ok false s' := by
  obtain ⟨r, s', h1, _, h3⟩ := mapEq_iff_extEq E hE ha hb hna hnb hw
  cases r with
  | false => exact ⟨s', h1⟩
  | true =>
    have := h3.mp rfl k
    rw [hx, hy] at this
    have this : veq E y x = true := this
    rw [hxy] at this
    cases this

/-- a key present on one side only is detected, in either direction (a comparison that
    checked one inclusion only, without the length test, would fail this). -/
theorem mapEq_false_of_key_diff (hE : E.Lawful) {a b : Raw K V} {la lb : List (K × V)}
    (ha : Rep a la) (hb : Rep b lb) (hna : NodupKeys E.keq la) (hnb : NodupKeys E.keq lb)
    {k : K} (hk : (lookupL E.keq la k).isSome ≠ (lookupL E.keq lb k).isSome)
    {s : St K V Q} (hw : Benign s.w) :
    ∃ s', mapEq E a b s = .ok false s' := by
  obtain ⟨r, s', h1, _, h3⟩ := mapEq_iff_extEq E hE ha hb hna hnb hw
  cases r with
  | false => exact ⟨s', h1⟩
  | true =>
    have := h3.mp rfl k
    revert this hk
    cases lookupL E.keq la k <;> cases lookupL E.keq lb k <;> simp

/-! ### sets: `V = ()`, no value comparison -/

/-- for sets (`vGlue = false`) value equality is constantly `true`. -/
theorem veq_unit (E : Env K Unit Q) (h : E.vGlue = false) : veq E = fun _ _ => true := by
  funext x y; simp [veq, h]

/-- the set view of an environment is lawful when the environment is. -/
theorem toUnit_lawful {E : Env K V Q} (hE : E.Lawful) : E.toUnit.Lawful := hE.toUnit

/-- extensional equality of two unit-valued lists = the same keys up to `==`. -/
theorem mapExtEq_unit_iff (keq : K → K → Bool) (la lb : List (K × Unit)) :
    MapExtEq keq (fun _ _ => true) la lb ↔
      ∀ k, memB keq k (la.map (·.1)) = memB keq k (lb.map (·.1)) := by
  unfold MapExtEq
  apply forall_congr'
  intro k
  have h1 := memB_keys_iff (keq := keq) la k
  have h2 := memB_keys_iff (keq := keq) lb k
  rw [Bool.eq_iff_iff, h1, h2]
  cases lookupL keq la k <;> cases lookupL keq lb k <;> simp

/-- **`Set::eq`.**  Two sets compare equal exactly when they contain the same elements up to
    `==`, for any capacities and slot orders; this is `Map::eq` at `V = ()`, where no value
    comparison takes place. -/
theorem setEq_iff (E : Env K Unit Q) (hE : E.Lawful) (hg : E.vGlue = false)
    {a b : Raw K Unit} {la lb : List (K × Unit)} (ha : Rep a la) (hb : Rep b lb)
    (hna : NodupKeys E.keq la) (hnb : NodupKeys E.keq lb) {s : St K Unit Q} (hw : Benign s.w) :
    ∃ r s', mapEq E a b s = .ok r s' ∧ s'.r = s.r ∧ WRel s.w s'.w [] ∧
      (r = true ↔ ∀ k, memB E.keq k (la.map (·.1)) = memB E.keq k (lb.map (·.1))) := by
  obtain ⟨s', h1, h2, h3⟩ := mapEq_pure E hE.toPure ha hb hw
  refine ⟨_, s', h1, h2, h3, ?_⟩
  rw [mapEqCode_iff hE.equivB (veq E) la lb hna hnb, veq_unit E hg, mapExtEq_unit_iff]

/-- the set layer of the model runs `mapEq E.toUnit`: the corollary instantiated there. -/
theorem setEq_iff_toUnit (hE : E.Lawful)
    {a b : Raw K Unit} {la lb : List (K × Unit)} (ha : Rep a la) (hb : Rep b lb)
    (hna : NodupKeys E.keq la) (hnb : NodupKeys E.keq lb) {s : St K Unit Q} (hw : Benign s.w) :
    ∃ r s', mapEq E.toUnit a b s = .ok r s' ∧ s'.r = s.r ∧ WRel s.w s'.w [] ∧
      (r = true ↔ ∀ k, memB E.keq k (la.map (·.1)) = memB E.keq k (lb.map (·.1))) :=
  setEq_iff E.toUnit (toUnit_lawful hE) rfl ha hb hna hnb hw

/-- set equality is symmetric and reflexive outright (there is no value `==` to be unlawful). -/
theorem setEq_symm (E : Env K Unit Q) (hE : E.Lawful) (hg : E.vGlue = false)
    {a b : Raw K Unit} {la lb : List (K × Unit)} (ha : Rep a la) (hb : Rep b lb)
    (hna : NodupKeys E.keq la) (hnb : NodupKeys E.keq lb)
    {s t : St K Unit Q} (hs : Benign s.w) (ht : Benign t.w) :
    ∃ r s' t', mapEq E a b s = .ok r s' ∧ mapEq E b a t = .ok r t' :=
  mapEq_symm E hE (by rw [veq_unit E hg]; intros; rfl) ha hb hna hnb hs ht

/-- set equality is reflexive: a set equals every container (of any capacity) holding the same
    list of elements. -/
theorem setEq_refl (E : Env K Unit Q) (hE : E.Lawful) (hg : E.vGlue = false)
    {a a' : Raw K Unit} {la : List (K × Unit)} (ha : Rep a la) (ha' : Rep a' la)
    (hna : NodupKeys E.keq la) {s : St K Unit Q} (hs : Benign s.w) :
    ∃ s', mapEq E a a' s = .ok true s' ∧ s'.r = s.r :=
  mapEq_refl E hE (by rw [veq_unit E hg]; intros; rfl) ha ha' hna hs

/-! Non-vacuity: concrete data meeting the hypotheses; same entries in different slot order and
    different capacities compare equal, a value difference / key difference compares unequal. -/

def exEnv : Env Nat Nat Nat :=
  { eqK := fun _ a b => a == b, eqQ := fun _ a b => a == b, eqV := fun a b => a == b, borrow := id,
    clK := fun _ k => k, clV := fun _ v => v }

def exA : Raw Nat Nat :=
  { cap := 2, len := 2, slots := fun i => if i = 0 then some (7, 70) else if i = 1 then some (8, 80) else none }
def exB : Raw Nat Nat :=
  { cap := 5, len := 2, slots := fun i => if i = 0 then some (8, 80) else if i = 1 then some (7, 70) else none }

example : exEnv.Lawful := .of_proj id id (fun _ _ _ => rfl) (fun _ _ _ => rfl) (fun _ => rfl)
example : Rep exA [(7, 70), (8, 80)] :=
  ⟨rfl, by decide, fun i hi => match i, hi with | 0, _ => rfl | 1, _ => rfl⟩
example : Rep exB [(8, 80), (7, 70)] :=
  ⟨rfl, by decide, fun i hi => match i, hi with | 0, _ => rfl | 1, _ => rfl⟩
example : NodupKeys exEnv.keq [(7, 70), (8, 80)] := by
  unfold NodupKeys NodupB; decide
example : mapEqCode exEnv.keq (veq exEnv) [(7, 70), (8, 80)] [(8, 80), (7, 70)] = true := by decide
example : mapEqCode exEnv.keq (veq exEnv) [(7, 70), (8, 80)] [(8, 81), (7, 70)] = false := by decide
example : mapEqCode exEnv.keq (veq exEnv) [(7, 70), (8, 80)] [(9, 80), (7, 70)] = false := by decide
example : Benign ({} : World Nat Nat Nat) := ⟨rfl, rfl⟩

end Micromap.Props.C14
