/-
C09 — Borrowing iterators visit every entry exactly once and report exact lengths.

Property theorems only (helper lemmas live in `Micromap/Proofs/Iters.lean`).  All statements are
about the L0 model functions `iterStartR`, `iterNextR`, `SliceIt.restR`, `iterScript`, `iterOp`
(the functions `step` executes for `iter`, `iter_mut`, `keys`, `values`, `values_mut` and — at
`V = Unit` — `Set::iter`); `Iters.iterSteps` / `Iters.iterToList` are nothing but `iterNextR`
called repeatedly.  Every statement holds for every capacity, every content `l` (any `r` with
`Rep r l`, in particular states produced by removals), every `Env` and every world: a borrowing
iterator makes no callback, so nothing depends on `==`, the profile or an armed injection.
-/
import Micromap.Proofs.StdIterB

namespace Micromap.Props.C09
open Micromap Micromap.Iters Micromap.StdIterB
variable {K V Q : Type} (E : Env K V Q)

/-- `iter()` (and `iter_mut`, `keys`, `values`, `values_mut`, which all start from the same slice
    iterator) never panics on a well-formed container, leaves the whole state untouched and returns
    the window `[0, len)`; its `len()` / `size_hint()` is the number of entries. -/
theorem iter_start {r : Raw K V} {l : List (K × V)} (hr : Rep r l) (s : St K V Q) :
    iterStartR r s = .ok ⟨0, l.length⟩ s ∧ (⟨0, l.length⟩ : SliceIt).len = l.length :=
  ⟨hr.iterStartR_ok s, by simp [SliceIt.len]⟩

/-- one `next` inside the window: it returns a reference into slot `k` and the pair stored there is
    the `k`-th entry; the iterator advances by exactly one; the state is untouched. -/
theorem next_yields_kth {r : Raw K V} {l : List (K × V)} (hr : Rep r l) {k : Nat} (hk : k < l.length)
    (s : St K V Q) :
    iterNextR r ⟨k, l.length⟩ s = .ok (some (k, l[k]), ⟨k + 1, l.length⟩) s :=
  iterNextR_lt hr hk s

/-- after the end `next` returns `None` and leaves the iterator where it is … -/
theorem next_none_at_end (r : Raw K V) (n : Nat) (s : St K V Q) :
    iterNextR r ⟨n, n⟩ s = .ok (none, ⟨n, n⟩) s :=
  iterNextR_end r (by simp) s

/-- … hence `None` forever: any number of further calls all return `None` (fused iterator). -/
theorem next_none_forever (r : Raw K V) (n m : Nat) (s : St K V Q) :
    iterSteps r m ⟨n, n⟩ s = .ok (List.replicate m none, ⟨n, n⟩) s :=
  iterSteps_end r (by simp) s m

/-- the whole traversal, step by step: `n` calls of `next` after `iter()` return, in order,
    `(j, l[j])` for `j < |l|` and `None` from then on; the iterator then stands at `min n |l|`.
    No panic, no `ub`, no change of state. -/
theorem steps_from_start {r : Raw K V} {l : List (K × V)} (hr : Rep r l) (n : Nat) (s : St K V Q) :
    (iterStartR r >>= fun it => iterSteps r n it) s =
      .ok ((List.range n).map fun j => l[j]?.map fun p => (j, p), ⟨min n l.length, l.length⟩) s := by
  have := iterSteps_rep hr s n 0 (Nat.zero_le _)
  simp only [Nat.zero_add] at this
  simp only [bind_apply, hr.iterStartR_ok s, this]

/-- after `k ≤ |l|` steps the iterator is `⟨k, |l|⟩` and the `k`-th call (counting from 0) returned
    slot `k` with the `k`-th entry. -/
theorem after_k_steps {r : Raw K V} {l : List (K × V)} (hr : Rep r l) {k : Nat} (hk : k ≤ l.length)
    (s : St K V Q) :
    ∃ os, (iterStartR r >>= fun it => iterSteps r k it) s = .ok (os, ⟨k, l.length⟩) s ∧
      os.length = k ∧ ∀ j (hj : j < k), os[j]? = some (some (j, l[j])) := by
  refine ⟨_, by rw [steps_from_start hr k s, Nat.min_eq_left hk], by simp, fun j hj => ?_⟩
  have hjl : j < l.length := by omega
  simp [hj, hjl]

/-- exact lengths: an iterator that has made `k ≤ |l|` steps reports `len() = |l| - k`; this is the
    number `iterScript` answers to `len`, to `size_hint` (as `(n, Some n)`) and to `count()`. -/
theorem len_after_k_steps (l : List (K × V)) (k : Nat) :
    (⟨k, l.length⟩ : SliceIt).len = l.length - k := rfl

/-- what `len()`, `size_hint()` and `count()` answer in a script is `SliceIt.len` of the current
    iterator — exactly the number of items still to come (`remaining_items` below). -/
theorem script_probes_report_len (R : Render K V) (kind : IterKind) (g : V → V) (cs : List IterCmd)
    (it : SliceIt) (forks : List SliceIt) :
    iterScript (Q := Q) R kind g (.len :: cs) it forks =
        (do pure (RV.nat it.len :: (← iterScript R kind g cs it forks))) ∧
    iterScript (Q := Q) R kind g (.hint :: cs) it forks =
        (do pure (RV.hint it.len (some it.len) :: (← iterScript R kind g cs it forks))) ∧
    iterScript (Q := Q) R kind g (.count :: cs) it forks =
        (do pure (RV.nat it.len :: (← iterScript R kind g [] it forks))) := by
  refine ⟨?_, ?_, ?_⟩ <;> conv => lhs; rw [iterScript]

/-- the items a traversal standing at `k` still yields (collected by calling `next` until `None`):
    exactly `|l| - k` of them, namely the entries `l[k], l[k+1], …` with their slot positions. -/
theorem remaining_items {r : Raw K V} {l : List (K × V)} (hr : Rep r l) {k : Nat} (hk : k ≤ l.length)
    {fuel : Nat} (hfuel : l.length - k ≤ fuel) (s : St K V Q) :
    ∃ items, iterToList r fuel ⟨k, l.length⟩ s = .ok items s ∧
      items.map (·.2) = l.drop k ∧ items.map (·.1) = List.range' k (l.length - k) ∧
      items.length = (⟨k, l.length⟩ : SliceIt).len := by
  have e := iterToList_rep hr s fuel k hk
  rw [List.take_of_length_le (by simpa using hfuel)] at e
  exact ⟨_, e, by simp [List.map_map, Function.comp_def, List.zipIdx_map_fst],
    by simp [List.map_map, Function.comp_def, List.zipIdx_map_snd], by simp [SliceIt.len]⟩

/-- every entry exactly once and nothing else: the full traversal (`iter()`, then `next` until
    `None`) yields exactly the list `l`, in slot order, the `j`-th item being a reference into
    slot `j`. -/
theorem traversal_yields_all {r : Raw K V} {l : List (K × V)} (hr : Rep r l) {fuel : Nat}
    (hfuel : l.length ≤ fuel) (s : St K V Q) :
    ∃ items, (iterStartR r >>= fun it => iterToList r fuel it) s = .ok items s ∧
      items.map (·.2) = l ∧ items.map (·.1) = List.range l.length := by
  obtain ⟨items, h1, h2, h3, _⟩ := remaining_items hr (Nat.zero_le _) (fuel := fuel) (by omega) s
  refine ⟨items, by simp only [bind_apply, hr.iterStartR_ok s, h1], by simpa using h2, ?_⟩
  rw [h3, Nat.sub_zero, List.range_eq_range']

/-- the same for the projections: `keys()` yields the keys of `l`, `values()` / `values_mut()`
    (before writing) the values of `l`, each once, in slot order (`projItem` is how `iterScript`
    projects an item for each kind). -/
theorem traversal_projections {r : Raw K V} {l : List (K × V)} (hr : Rep r l) {fuel : Nat}
    (hfuel : l.length ≤ fuel) (s : St K V Q) :
    ∃ items, (iterStartR r >>= fun it => iterToList r fuel it) s = .ok items s ∧
      items.map (·.2.1) = l.map (·.1) ∧ items.map (·.2.2) = l.map (·.2) := by
  obtain ⟨items, h1, h2, _⟩ := traversal_yields_all hr hfuel s
  refine ⟨items, h1, ?_, ?_⟩
  · rw [← h2, List.map_map]; rfl
  · rw [← h2, List.map_map]; rfl

/-- iterating twice without an intervening mutation yields the same sequence: the traversal does
    not change the state and its result is a function of the container alone. -/
theorem two_traversals_agree {r : Raw K V} {l : List (K × V)} (hr : Rep r l) {fuel : Nat}
    (hfuel : l.length ≤ fuel) (s : St K V Q) :
    ∃ items, (do
        let a ← iterStartR r >>= fun it => iterToList r fuel it
        let b ← iterStartR r >>= fun it => iterToList r fuel it
        pure (a, b) : SM K V Q _) s = .ok (items, items) s := by
  obtain ⟨items, h1, _⟩ := remaining_items hr (Nat.zero_le _) (fuel := fuel) (by omega) s
  exact ⟨items, by simp only [bind_apply, pure_apply, hr.iterStartR_ok s, h1]⟩

/-- a clone taken after `k` steps: what it still yields — and what `Debug` of the iterator prints at
    that point (`SliceIt.restR`, used by `iterRunOut` for forks and by the `debug` commands) — is
    `l.drop k` … -/
theorem clone_rest {r : Raw K V} {l : List (K × V)} (hr : Rep r l) {k : Nat} (hk : k ≤ l.length)
    (s : St K V Q) :
    SliceIt.restR r ⟨k, l.length⟩ s = .ok (l.drop k) s :=
  restR_rep hr hk s

/-- … which is exactly what the original goes on to yield: a cloned iterator continues identically
    to its original. -/
theorem clone_continues_identically {r : Raw K V} {l : List (K × V)} (hr : Rep r l) {k : Nat}
    (hk : k ≤ l.length) {fuel : Nat} (hfuel : l.length - k ≤ fuel) (s : St K V Q) :
    ∃ items rest, iterToList r fuel ⟨k, l.length⟩ s = .ok items s ∧
      SliceIt.restR r ⟨k, l.length⟩ s = .ok rest s ∧ items.map (·.2) = rest := by
  obtain ⟨items, h1, h2, _⟩ := remaining_items hr hk hfuel s
  exact ⟨items, _, h1, restR_rep hr hk s, h2⟩

/-- the composite operation the driver executes, for the kinds that hand out shared references
    (`iter`, `keys`, `values`; `Set::iter` is `keys` at `V = Unit`): any script — any mixture of
    `next`, `len`, `size_hint`, `Debug`, `clone`, `count` — runs to completion and leaves the
    whole state (container and world) exactly as it was. -/
theorem shared_iter_changes_nothing (R : Render K V) {kind : IterKind} (hk : ¬ IsMut kind) (g : V → V)
    (script : List IterCmd) {s : St K V Q} {l : List (K × V)} (hr : Rep s.r l) :
    ∃ out, iterOp R kind g script s = .ok out s := by
  obtain ⟨o, s', e, _, _, h3, _⟩ := iterOp_spec R kind g script hr
  exact ⟨o, by rw [e, h3 hk]⟩

/-- `iter_mut` / `values_mut` under any script: exactly the values of the entries that were yielded
    (the first `scriptNexts script` ones) are replaced by `g v`; keys, order, length, capacity and
    the world are untouched, nothing panics. -/
theorem mut_iter_writes_prefix (R : Render K V) {kind : IterKind} (hk : IsMut kind) (g : V → V)
    (script : List IterCmd) {s : St K V Q} {l : List (K × V)} (hr : Rep s.r l) :
    ∃ out s', iterOp R kind g script s = .ok out s' ∧ s'.w = s.w ∧ s'.r.cap = s.r.cap ∧
      Rep s'.r (mapRange (wr g) 0 (scriptNexts script) l) := by
  obtain ⟨o, s', e, h1, h2, _, h4⟩ := iterOp_spec R kind g script hr
  exact ⟨o, s', e, h1, h2, h4 hk⟩

/-- a full pass of `iter_mut` / `values_mut` that writes `g v` through every reference it gets
    (the script calls `next` at least `|l|` times before consuming the iterator): the container
    afterwards holds exactly `(k, g v)` for every `(k, v)` it held, in the same slots. -/
theorem mut_iter_writes_all (R : Render K V) {kind : IterKind} (hk : IsMut kind) (g : V → V)
    (script : List IterCmd) {s : St K V Q} {l : List (K × V)} (hr : Rep s.r l)
    (hn : l.length ≤ scriptNexts script) :
    ∃ out s', iterOp R kind g script s = .ok out s' ∧ s'.w = s.w ∧ s'.r.cap = s.r.cap ∧
      Rep s'.r (l.map fun p => (p.1, g p.2)) := by
  obtain ⟨o, s', e, h1, h2, h3⟩ := mut_iter_writes_prefix R hk g script hr
  rw [mapRange_all _ hn] at h3
  exact ⟨o, s', e, h1, h2, h3⟩

/-- writes made through `iter_mut` / `values_mut` are exactly what later lookups return: after the
    full pass, `get` / `get_key_value` with any probe finds the same slot as before (the keys did
    not move) and the value behind the returned reference is `g` of the old one. -/
theorem lookup_after_mut_iter (hE : E.Pure) (R : Render K V) {kind : IterKind} (hk : IsMut kind)
    (g : V → V) (script : List IterCmd) {s : St K V Q} {l : List (K × V)} (hr : Rep s.r l)
    (hb : Benign s.w) (hn : l.length ≤ scriptNexts script) (pr : Probe K Q) :
    ∃ out s1 s2, iterOp R kind g script s = .ok out s1 ∧
      get E pr s1 = .ok ((findKey E l pr).bind fun i => l[i]?.map fun p => (i, (p.1, g p.2))) s2 ∧
      s2.r = s1.r := by
  obtain ⟨o, s1, e, h1, _, h3⟩ := mut_iter_writes_all R hk g script hr hn
  have h := get_benign E hE h3 (h1 ▸ hb) pr
  rw [show (l.map fun p => (p.1, g p.2)) = l.map (wr g) from rfl, findKey_map_wr] at h
  cases hf : findKey E l pr with
  | none =>
    rw [hf] at h
    obtain ⟨s2, e2, g1, _⟩ := h
    exact ⟨o, s1, s2, e, e2, g1⟩
  | some i =>
    rw [hf] at h
    obtain ⟨hi, s2, e2, g1, _⟩ := h
    rw [List.length_map] at hi
    exact ⟨o, s1, s2, e, by simpa [hi, wr] using e2, g1⟩

/-- memory safety of the composite operation without any assumption beyond `Safe` (no assumption
    on `==`, on the profile or on an armed injection): for EVERY script and every kind, `iterOp`
    never reaches `ub`, never panics, and preserves `Safe` and the capacity. -/
theorem iterOp_safe (R : Render K V) (kind : IterKind) (g : V → V) (script : List IterCmd)
    {s : St K V Q} (hs : Safe s.r) :
    Sat (iterOp R kind g script) s
      (fun _ s' => Safe s'.r ∧ s'.r.cap = s.r.cap ∧ s'.r.len = s.r.len ∧ s'.w = s.w)
      (fun _ _ => False) := by
  obtain ⟨o, s', e, h1, h2, h3, h4⟩ := iterOp_spec R kind g script hs.rep
  refine Sat.of_ok e ?_
  by_cases hm : IsMut kind
  · have := h4 hm
    exact ⟨this.safe, h2, by rw [this.1, mapRange_length, hs.rep.1], h1⟩
  · rw [h3 hm]; exact ⟨hs, rfl, rfl, rfl⟩

/-! ### the same facts read off the composite operation (`iterOp` = `iter()` + script) -/

/-- what a `next` command reports (`Iters.nextOut`), for the kinds handing out `&V`: inside the
    window a reference into slot `k+i` showing exactly the stored entry, `None` after the end. -/
theorem nextOut_shared {kind : IterKind} (hk : ¬ IsMut kind) (g : V → V) (l : List (K × V)) (k i : Nat) :
    (∀ h : k + i < l.length, nextOut kind g l k i = RV.some (projItem kind (k + i) l[k + i])) ∧
    (l.length ≤ k + i → nextOut kind g l k i = RV.none) := by
  refine ⟨fun h => ?_, fun h => ?_⟩
  · simp [nextOut, h, hk]
  · simp [nextOut, List.getElem?_eq_none h]

/-- … and for `iter_mut` / `values_mut`: the reference shows the value after the write `g v`. -/
theorem nextOut_mut {kind : IterKind} (hk : IsMut kind) (g : V → V) (l : List (K × V)) (k i : Nat) :
    (∀ h : k + i < l.length,
      nextOut kind g l k i = RV.some (projItem kind (k + i) (l[k + i].1, g l[k + i].2))) ∧
    (l.length ≤ k + i → nextOut kind g l k i = RV.none) := by
  refine ⟨fun h => ?_, fun h => ?_⟩
  · simp [nextOut, h, hk, wr]
  · simp [nextOut, List.getElem?_eq_none h]

/-- exact lengths along a whole traversal, as the driver observes them: for EVERY number `j` of
    `next` commands (also beyond the end), every kind and every content, the script
    `next^j ; probe` reports the `j` items (slot `i`, entry `l[i]`, then `None`s) followed by
    `len() = |l| - j`, `size_hint() = (|l| - j, Some (|l| - j))`, `count() = |l| - j`
    (natural subtraction: `0` after the end). -/
theorem script_probe_after_j_steps (R : Render K V) (kind : IterKind) (g : V → V) (j : Nat)
    {s : St K V Q} {l : List (K × V)} (hr : Rep s.r l) :
    (∃ s', iterOp R kind g (List.replicate j .next ++ [.len]) s =
      .ok ((List.range j).map (nextOut kind g l 0) ++ [RV.nat (l.length - j)]) s') ∧
    (∃ s', iterOp R kind g (List.replicate j .next ++ [.hint]) s =
      .ok ((List.range j).map (nextOut kind g l 0) ++ [RV.hint (l.length - j) (some (l.length - j))]) s') ∧
    (∃ s', iterOp R kind g (List.replicate j .next ++ [.count]) s =
      .ok ((List.range j).map (nextOut kind g l 0) ++ [RV.nat (l.length - j)]) s') := by
  obtain ⟨sj, _, h⟩ := iterOp_nexts R kind g j hr
  have hsub : l.length - min j l.length = l.length - j := by omega
  exact ⟨⟨sj, h [.len] _ sj (by simp [iterScript, iterRunForks, SliceIt.len, hsub])⟩,
    ⟨sj, h [.hint] _ sj (by simp [iterScript, iterRunForks, SliceIt.len, hsub])⟩,
    ⟨sj, h [.count] _ sj (by simp [iterScript, iterRunForks, SliceIt.len, hsub])⟩⟩

/-- a clone inside a script (`next^j ; clone ; next^m`, shared kinds): the original goes on to
    report `nextOut … j 0`, `nextOut … j 1`, …; the clone, run to its end afterwards, yields the
    entries `l.drop j` with slot positions `j, j+1, …` … -/
theorem script_clone_at_j (R : Render K V) {kind : IterKind} (hk : ¬ IsMut kind) (g : V → V)
    {j : Nat} (m : Nat) {s : St K V Q} {l : List (K × V)} (hr : Rep s.r l) (hj : j ≤ l.length) :
    iterOp R kind g (List.replicate j .next ++ .clone :: List.replicate m .next) s =
      .ok ((List.range j).map (nextOut kind g l 0) ++ ((List.range m).map (nextOut kind g l j) ++
        [RV.list ((l.drop j).zipIdx.map fun x => projItem kind (j + x.2) x.1)])) s := by
  have hk' : ¬ (kind = IterKind.iter_mut ∨ kind = IterKind.values_mut) := hk
  obtain ⟨s1, h3, h5⟩ := iterOp_nexts R kind g j hr
  obtain ⟨s2, _, _, g3, _, g5⟩ := iterScript_nexts R kind g m j s l hr hj
  rw [h3 hk] at h5
  rw [g3 hk] at g5
  refine h5 _ _ s ?_
  rw [Nat.min_eq_left hj, iterScript]
  simp only [hk', if_false, List.nil_append]
  have inner := g5 [] [⟨j, l.length⟩]
    [RV.list ((l.drop j).zipIdx.map fun x => projItem kind (j + x.2) x.1)] s (by
      simp only [iterScript, iterRunForks, iterRunOut, getS, bind_apply, pure_apply, restR_rep hr hj s])
  rwa [List.append_nil] at inner

/-- … which, item for item, is what the original reports from there on: a cloned iterator continues
    identically to its original. -/
theorem script_clone_agrees {kind : IterKind} (hk : ¬ IsMut kind) (g : V → V) (l : List (K × V))
    (j i : Nat) (h : j + i < l.length) :
    some (nextOut kind g l j i) =
      (((l.drop j).zipIdx.map fun x => projItem kind (j + x.2) x.1)[i]?).map RV.some := by
  rw [(nextOut_shared hk g l j i).1 h]
  simp [List.getElem?_map, List.getElem?_zipIdx, h, List.getElem?_drop]

/-! ## std's provided `nth(k)` and `last()` on the borrowing iterators (`Model/StdIterB.lean`)

`Iter`, `IterMut`, `Keys`, `Values`, `ValuesMut` and `SetIter` do not override `nth`, `advance_by`
or `last`: these are core's definitions over the crate's `next` (`iterNthR` = `advance_by(k)`, which
stops at the first `None`, then `next`; `iterLastR` = `next` until `None`), and the script commands
`.nth k` / `.last` of `iterScriptX` run them.  As everything else about these iterators, the
statements hold for every capacity, every content `l` (any `r` with `Rep r l`), every `Env` and
every world. -/


/-- on scripts without `nth` / `last` the extended interpreter (what the driver runs for scripts
    with `t<k>` / `z`) IS the interpreter all the statements above are about. -/
theorem extended_script_extends (R : Render K V) (kind : IterKind) (g : V → V) (cs : List IterCmd)
    (it : SliceIt) (forks : List SliceIt) :
    iterScriptX (Q := Q) R kind g (cs.map .base) it forks = iterScript R kind g cs it forks ∧
    iterOpX (Q := Q) R kind g (cs.map .base) = iterOp R kind g cs :=
  ⟨iterScriptX_base R kind g cs it forks, by simp only [iterOpX, iterOp, iterScriptX_base]⟩

/-- `nth(k)` on an iterator standing at `j ≤ |l|`: never `ub`, never a panic, the state is
    untouched; it returns a reference into slot `j+k` and the pair stored there is the `(j+k)`-th
    entry (`None` if there is none); the iterator then stands at `min (j+k+1) |l|`. -/
theorem nth_yields {r : Raw K V} {l : List (K × V)} (hr : Rep r l) {j : Nat} (hj : j ≤ l.length) (k : Nat)
    (s : St K V Q) :
    iterNthR r k ⟨j, l.length⟩ s =
      .ok (l[j + k]?.map fun p => (j + k, p), ⟨min (j + k + 1) l.length, l.length⟩) s :=
  iterNthR_rep hr s k hj

/-- … so a later `len()` reports `|l| - min (j+k+1) |l|`. -/
theorem len_after_nth (l : List (K × V)) (j k : Nat) :
    (⟨min (j + k + 1) l.length, l.length⟩ : SliceIt).len = l.length - min (j + k + 1) l.length := rfl

/-- `nth(k)` inside the window is the `k`-th of `k+1` calls of `next`: same result, same iterator
    afterwards (`steps_from_start` / `after_k_steps` describe the latter). -/
theorem nth_eq_last_of_steps {r : Raw K V} {l : List (K × V)} (hr : Rep r l) {j : Nat} (hj : j ≤ l.length)
    (k : Nat) (s : St K V Q) :
    ∃ os it, iterSteps r (k + 1) ⟨j, l.length⟩ s = .ok (os, it) s ∧
      iterNthR r k ⟨j, l.length⟩ s = .ok ((os[k]?).join, it) s := by
  refine ⟨_, _, iterSteps_rep hr s (k + 1) j hj, ?_⟩
  rw [iterNthR_rep hr s k hj]
  have e : j + (k + 1) = j + k + 1 := by omega
  simp [e]

/-- an overshooting `nth(k)` (`|l| ≤ j + k`) returns `None` and exhausts the iterator: every later
    `next` returns `None` and `len()` is `0`. -/
theorem nth_overshoot {r : Raw K V} {l : List (K × V)} (hr : Rep r l) {j : Nat} (hj : j ≤ l.length)
    {k : Nat} (hk : l.length ≤ j + k) (m : Nat) (s : St K V Q) :
    iterNthR r k ⟨j, l.length⟩ s = .ok (none, ⟨l.length, l.length⟩) s ∧
    iterSteps r m ⟨l.length, l.length⟩ s = .ok (List.replicate m none, ⟨l.length, l.length⟩) s ∧
    (⟨l.length, l.length⟩ : SliceIt).len = 0 := by
  refine ⟨?_, iterSteps_end r (by simp) s m, by simp [SliceIt.len]⟩
  rw [iterNthR_rep hr s k hj, List.getElem?_eq_none hk]
  have : min (j + k + 1) l.length = l.length := by omega
  rw [this]; rfl

/-- `last()` on an iterator standing at `j ≤ |l|` (loop bound `len() + 1`, which is never hit: no
    `ub`): the state is untouched; it returns a reference into slot `|l| - 1` with the last entry if
    anything is left and `None` otherwise; the iterator is exhausted. -/
theorem last_yields {r : Raw K V} {l : List (K × V)} (hr : Rep r l) {j : Nat} (hj : j ≤ l.length)
    (s : St K V Q) :
    iterLastR r ((⟨j, l.length⟩ : SliceIt).len + 1) ⟨j, l.length⟩ none s =
      .ok (if j < l.length then l.getLast?.map fun p => (l.length - 1, p) else none,
        ⟨l.length, l.length⟩) s :=
  iterLastR_rep hr s _ j none hj (by simp [SliceIt.len])

/-- `last()` returns `None` iff nothing was left (`j = |l|`). -/
theorem last_none_iff (l : List (K × V)) {j : Nat} (hj : j ≤ l.length) :
    (if j < l.length then l.getLast?.map fun p => (l.length - 1, p) else none) = none ↔ j = l.length := by
  by_cases h : j < l.length
  · rw [if_pos h, Option.map_eq_none_iff, List.getLast?_eq_none_iff]
    exact ⟨fun h0 => by simp [h0] at h, fun _ => by omega⟩
  · simp only [h, if_false, true_iff]; omega

/-- the `nth(k)` command in a script over `iter` / `keys` / `values` (`Set::iter` is `keys` at
    `V = Unit`), iterator at `j ≤ |l|`: it reports `nextOut … j k` — a reference into slot `j+k`
    showing exactly the stored entry, `None` beyond the end (`nextOut_shared`) —, NOTHING in the
    container or the world changes, and the script goes on from `min (j+k+1) |l|`. -/
theorem script_nth_shared (R : Render K V) {kind : IterKind} (hk : ¬ IsMut kind) (g : V → V) (k : Nat)
    (cs : List IterCmdX) (forks : List SliceIt) {s : St K V Q} {l : List (K × V)} (hr : Rep s.r l)
    {j : Nat} (hj : j ≤ l.length) :
    iterScriptX R kind g (.nth k :: cs) ⟨j, l.length⟩ forks s =
      (iterScriptX R kind g cs ⟨min (j + k + 1) l.length, l.length⟩ forks >>= fun rest =>
        pure (nextOut kind g l j k :: rest)) s := by
  obtain ⟨s1, _, _, h3, _, e⟩ := iterScriptX_nth R kind g k hr hj
  rw [e, h3 hk]

/-- the `nth(k)` command in a script over `iter_mut` / `values_mut`: the report shows the value
    after the write `g v` (`nextOut_mut`); EXACTLY the received entry `j+k` is rewritten — the `k`
    skipped entries are not (`mapRange (wr g) (j+k) (j+k+1) l` is `l` with `g` applied to the value
    at position `j+k`, and `l` itself when there is no such position); keys, order, length,
    capacity and the world are untouched. -/
theorem script_nth_mut (R : Render K V) {kind : IterKind} (hk : IsMut kind) (g : V → V) (k : Nat)
    (cs : List IterCmdX) (forks : List SliceIt) {s : St K V Q} {l : List (K × V)} (hr : Rep s.r l)
    {j : Nat} (hj : j ≤ l.length) :
    ∃ s1 : St K V Q, s1.w = s.w ∧ s1.r.cap = s.r.cap ∧
      Rep s1.r (mapRange (wr g) (j + k) (j + k + 1) l) ∧
      iterScriptX R kind g (.nth k :: cs) ⟨j, l.length⟩ forks s =
        (iterScriptX R kind g cs ⟨min (j + k + 1) l.length, l.length⟩ forks >>= fun rest =>
          pure (nextOut kind g l j k :: rest)) s1 := by
  obtain ⟨s1, h1, h2, _, h4, e⟩ := iterScriptX_nth R kind g k hr hj
  rw [written, if_pos hk] at h4
  exact ⟨s1, h1, h2, h4, e cs forks⟩

/-- what "exactly entry `i` is rewritten" means, entry by entry. -/
theorem written_entry (g : V → V) (l : List (K × V)) (i n : Nat) :
    (mapRange (wr g) i (i + 1) l)[n]? = if n = i then l[n]?.map (wr g) else l[n]? := by
  rw [getElem?_mapRange]
  have : (i ≤ n ∧ n < i + 1) ↔ n = i := by omega
  simp only [this]

/-- the `last()` command in a script over `iter` / `keys` / `values`: the last entry with slot
    `|l| - 1` if anything is left, `None` otherwise; nothing changes; the script ends here (the
    clones taken before are run out, as after `count()`). -/
theorem script_last_shared (R : Render K V) {kind : IterKind} (hk : ¬ IsMut kind) (g : V → V)
    (cs : List IterCmdX) (forks : List SliceIt) {s : St K V Q} {l : List (K × V)} (hr : Rep s.r l)
    {j : Nat} (hj : j ≤ l.length) :
    iterScriptX R kind g (.last :: cs) ⟨j, l.length⟩ forks s =
      (iterRunForks kind forks >>= fun rest =>
        pure ((if j < l.length then nextOut kind g l (l.length - 1) 0 else RV.none) :: rest)) s := by
  obtain ⟨s1, _, _, h3, _, e⟩ := iterScriptX_last R kind g cs forks hr hj
  rw [e, h3 hk]

/-- the `last()` command in a script over `iter_mut` / `values_mut`: if anything is left, EXACTLY
    the last entry is rewritten to `g v` (the entries `last()` passes over are not) and the report
    shows it after the write; if nothing is left, nothing is written. -/
theorem script_last_mut (R : Render K V) {kind : IterKind} (hk : IsMut kind) (g : V → V)
    (cs : List IterCmdX) (forks : List SliceIt) {s : St K V Q} {l : List (K × V)} (hr : Rep s.r l)
    {j : Nat} (hj : j ≤ l.length) :
    ∃ s1 : St K V Q, s1.w = s.w ∧ s1.r.cap = s.r.cap ∧
      Rep s1.r (if j < l.length then mapRange (wr g) (l.length - 1) l.length l else l) ∧
      iterScriptX R kind g (.last :: cs) ⟨j, l.length⟩ forks s =
        (iterRunForks kind forks >>= fun rest =>
          pure ((if j < l.length then nextOut kind g l (l.length - 1) 0 else RV.none) :: rest)) s1 := by
  obtain ⟨s1, h1, h2, _, h4, e⟩ := iterScriptX_last R kind g cs forks hr hj
  refine ⟨s1, h1, h2, ?_, e⟩
  by_cases hlt : j < l.length
  · simpa [hk, hlt] using h4
  · simpa [hlt] using h4

/-- after an overshooting `nth(k)` in a script, for EVERY kind: the `nth` reports `None`, each of
    the `m` later `next` commands reports `None`, `len()` reports `0`, and nothing was written. -/
theorem script_nth_overshoot (R : Render K V) (kind : IterKind) (g : V → V) {k : Nat} (m : Nat)
    {s : St K V Q} {l : List (K × V)} (hr : Rep s.r l) {j : Nat} (hj : j ≤ l.length)
    (hk : l.length ≤ j + k) :
    ∃ s', iterScriptX R kind g (.nth k :: (List.replicate m IterCmd.next ++ [IterCmd.len]).map .base)
        ⟨j, l.length⟩ [] s = .ok (RV.none :: (List.replicate m RV.none ++ [RV.nat 0])) s' ∧
      s'.w = s.w ∧ Rep s'.r l := by
  obtain ⟨s1, h1, _, _, h4, e⟩ := iterScriptX_nth R kind g k hr hj
  rw [written_of_le _ _ (Or.inl hk)] at h4
  have hmin : min (j + k + 1) l.length = l.length := by omega
  obtain ⟨sj, g1, _, _, g4, g5⟩ := iterScript_nexts R kind g m l.length s1 l h4 (Nat.le_refl _)
  rw [written_of_le _ _ (Or.inl (Nat.le_refl _))] at g4
  have hmin2 : min (l.length + m) l.length = l.length := by omega
  have := g5 [.len] [] [RV.nat 0] sj (by
    simp [iterScript, iterRunForks, SliceIt.len, hmin2])
  refine ⟨sj, ?_, g1.trans h1, g4⟩
  rw [e, hmin]
  simp only [bind_apply, iterScriptX_base, this, pure_apply, nextOut_beyond kind g l hk]
  congr 2
  rw [List.map_congr_left (g := fun _ => RV.none)
    (fun i _ => nextOut_beyond kind g l (Nat.le_add_right _ i))]
  rw [List.map_const', List.length_range]

/-- as the driver observes it (shared kinds): the script `nth(k); len; next; len` on a fresh
    iterator reports the `k`-th entry with slot `k`, then `|l| - min (k+1) |l|`, then the entry at
    `min (k+1) |l|` (`None` at the end), then `|l| - min (k+2) |l|`; the state is untouched. -/
theorem script_nth_then_probe (R : Render K V) {kind : IterKind} (hk : ¬ IsMut kind) (g : V → V) (k : Nat)
    {s : St K V Q} {l : List (K × V)} (hr : Rep s.r l) :
    iterOpX R kind g [.nth k, .base .len, .base .next, .base .len] s =
      .ok [nextOut kind g l 0 k, RV.nat (l.length - min (k + 1) l.length),
           nextOut kind g l (min (k + 1) l.length) 0, RV.nat (l.length - min (k + 2) l.length)] s := by
  have e2 : min (min (k + 1) l.length + 0 + 1) l.length = min (k + 2) l.length := by omega
  have h1 := script_nth_shared R hk g k [.base .len, .base .next, .base .len] [] hr (Nat.zero_le _)
  have h2 := script_nth_shared R hk g 0 [.base .len] [] hr (Nat.min_le_right (k + 1) _)
  rw [Nat.zero_add] at h1
  rw [← iterScriptX_next_eq_nth0, e2] at h2
  -- `nth(k)`, then `len` (one command unfolded), then `next` as `nth(0)`, then the last `len`
  simp only [iterOpX, getS, bind_apply, hr.iterStartR_ok s, h1]
  conv => lhs; rw [iterScriptX]
  simp only [bind_apply, h2]
  simp only [iterScriptX, iterRunForks, bind_apply, pure_apply, SliceIt.len]

/-- as the driver observes it (shared kinds): `next^0; last` on a fresh iterator over a non-empty /
    empty container. -/
theorem script_last_from_start (R : Render K V) {kind : IterKind} (hk : ¬ IsMut kind) (g : V → V)
    {s : St K V Q} {l : List (K × V)} (hr : Rep s.r l) :
    iterOpX R kind g [.last] s =
      .ok [if 0 < l.length then nextOut kind g l (l.length - 1) 0 else RV.none] s := by
  have h1 := script_last_shared R hk g [] [] hr (Nat.zero_le _)
  simp only [iterOpX, getS, bind_apply, hr.iterStartR_ok s, h1, iterRunForks, pure_apply]

/-- the composite operation with ANY extended script, for the kinds handing out shared references:
    it runs to completion and leaves the whole state exactly as it was. -/
theorem shared_iterX_changes_nothing (R : Render K V) {kind : IterKind} (hk : ¬ IsMut kind) (g : V → V)
    (script : List IterCmdX) {s : St K V Q} {l : List (K × V)} (hr : Rep s.r l) :
    ∃ out, iterOpX R kind g script s = .ok out s := by
  obtain ⟨o, s', _, e, _, _, h3, _⟩ := iterOpX_spec R kind g script hr
  exact ⟨o, by rw [e, h3 hk]⟩

/-- `iter_mut` / `values_mut` under ANY extended script: only values change — the same keys in the
    same slots, the same length and capacity, the same world; nothing panics. -/
theorem mut_iterX_keeps_keys (R : Render K V) (kind : IterKind) (g : V → V) (script : List IterCmdX)
    {s : St K V Q} {l : List (K × V)} (hr : Rep s.r l) :
    ∃ out s' l', iterOpX R kind g script s = .ok out s' ∧ s'.w = s.w ∧ s'.r.cap = s.r.cap ∧
      Rep s'.r l' ∧ l'.map (·.1) = l.map (·.1) := by
  obtain ⟨o, s', l', e, h1, h2, _, h4, h5⟩ := iterOpX_spec R kind g script hr
  exact ⟨o, s', l', e, h1, h2, h4, h5⟩

/-- memory safety of the composite operation with ANY extended script and every kind, without any
    assumption beyond `Safe`: `iterOpX` never reaches `ub` (the loop bound of `last()` is never
    hit), never panics, and preserves `Safe`, the capacity, the length and the world. -/
theorem iterOpX_safe (R : Render K V) (kind : IterKind) (g : V → V) (script : List IterCmdX)
    {s : St K V Q} (hs : Safe s.r) :
    Sat (iterOpX R kind g script) s
      (fun _ s' => Safe s'.r ∧ s'.r.cap = s.r.cap ∧ s'.r.len = s.r.len ∧ s'.w = s.w)
      (fun _ _ => False) := by
  obtain ⟨o, s', l', e, h1, h2, _, h4, h5⟩ := iterOpX_spec R kind g script hs.rep
  refine Sat.of_ok e ⟨h4.safe, h2, ?_, h1⟩
  have := congrArg List.length h5
  simp only [List.length_map] at this
  rw [h4.1, this, hs.rep.1]

/-! Non-vacuity: a concrete container meets the hypotheses, and the model computes what the
    theorems say (tests, not proofs). -/

def exRaw : Raw Nat Nat :=
  { cap := 3, len := 2, slots := fun i => if i = 0 then some (7, 70) else if i = 1 then some (8, 80) else none }

def exSt : St Nat Nat Nat := { r := exRaw, w := {} }

example : Rep exRaw [(7, 70), (8, 80)] :=
  ⟨rfl, by decide, fun i hi => by
    have : i = 0 ∨ i = 1 := by simp at hi; omega
    rcases this with rfl | rfl <;> rfl⟩
example : Benign exSt.w := ⟨rfl, rfl⟩
example : IsMut .iter_mut := Or.inl rfl
example : ¬ IsMut .keys := by decide
example : scriptNexts [.next, .len, .next, .clone, .next, .count, .next] = 3 := by decide
example : (match iterToList exRaw 5 ⟨0, 2⟩ exSt with | .ok x _ => x | _ => []) =
    [(0, (7, 70)), (1, (8, 80))] := by decide
example : mapRange (wr (K := Nat) (· + 1)) 0 5 [(7, 70), (8, 80)] = [(7, 71), (8, 81)] := by decide

/-! Non-vacuity: the model computes what the theorems say on the concrete container `exRaw`
    (`[(7, 70), (8, 80)]`, capacity 3). -/

def exR : Render Nat Nat :=
  { dbgK := (fun _ k => toString k), dbgV := (fun _ v => toString v),
    dspK := (fun k => toString k), dspV := (fun v => toString v) }

example : (match iterNthR exRaw 1 ⟨0, 2⟩ exSt with | .ok x _ => x | _ => (none, ⟨9, 9⟩)) =
    (some (1, (8, 80)), ⟨2, 2⟩) := by decide
example : (match iterNthR exRaw 2 ⟨0, 2⟩ exSt with | .ok x _ => x | _ => (some (9, (9, 9)), ⟨9, 9⟩)) =
    (none, ⟨2, 2⟩) := by decide
example : (match iterLastR exRaw 3 ⟨0, 2⟩ none exSt with | .ok x _ => x | _ => (none, ⟨9, 9⟩)) =
    (some (1, (8, 80)), ⟨2, 2⟩) := by decide
example : (match iterLastR exRaw 1 ⟨2, 2⟩ none exSt with | .ok x _ => x | _ => (some (9, (9, 9)), ⟨9, 9⟩)) =
    (none, ⟨2, 2⟩) := by decide
/-- `values_mut`, script `nth(1); len; next`: the skipped entry keeps its value `70`, the received
    one becomes `81`; `len()` is `0` and the `next` reports `None`. -/
example : (match iterOpX exR .values_mut (· + 1) [.nth 1, .base .len, .base .next] exSt with
    | .ok [.some (.ref 1 (.val 81)), .nat 0, .none] s => (s.r.slots 0, s.r.slots 1)
    | _ => (none, none)) = (some (7, 70), some (8, 81)) := by decide +kernel
/-- `iter_mut`, script `last`: only the last entry is written. -/
example : (match iterOpX exR .iter_mut (· + 1) [.last, .base .next] exSt with
    | .ok [.some (.ref 1 (.pair 8 81))] s => (s.r.slots 0, s.r.slots 1)
    | _ => (none, none)) = (some (7, 70), some (8, 81)) := by decide +kernel
/-- `keys`, script `clone; nth(0); last`: the clone is run out after the script ended at `last`. -/
example : (match iterOpX exR .keys id [.base .clone, .nth 0, .last, .base .len] exSt with
    | .ok [.some (.ref 0 (.key 7)), .some (.ref 1 (.key 8)), .list [.ref 0 (.key 7), .ref 1 (.key 8)]] _ => true
    | _ => false) = true := by decide +kernel
example : mapRange (wr (K := Nat) (· + 1)) 1 2 [(7, 70), (8, 80)] = [(7, 70), (8, 81)] := by decide

end Micromap.Props.C09
