/-
C18 — The unsafe fast paths equal their safe counterparts whenever their contract is met.

Property theorems only (helpers live in `Micromap/Proofs/Unchecked.lean`, `Disjoint.lean`,
`UncheckedInv.lean`).  The first half is about the L0 model functions `insert_unchecked` /
`insert_i` / `insert` / `insert_ii` and `get_disjoint_unchecked_mut` / `get_disjoint_mut` of
`Micromap/Model/Map.lean`, the second about histories (`step` / `run`) that call them.
-/
import Micromap.Proofs.Unchecked
import Micromap.Props.C03
import Micromap.Props.C13
import Micromap.Proofs.UncheckedInv

namespace Micromap.Props.C18
open Micromap Micromap.Unchecked Micromap.Disjoint
open Micromap.SetAlg (NodupKeys)
variable {K V Q : Type} (E : Env K V Q)

/-- In a world where no injected fault is armed an operation cannot unwind by injection. -/
theorem no_inj {s s' : St K V Q} {c} (hb : Benign s.w) (h : InjPanic s s' c) : False := h.not_benign hb

/-! ### `insert_unchecked` -/

/-- Room in the map: `insert_unchecked(k, v)` and `insert(k, v)` have THE SAME OUTCOME — the same
    returned old value and the same final state (all slots, `len`, the world with its event log
    and leak list), or the same panic in the same state — for every `==` whatsoever (lawful or
    not, time-varying) and every injection point, in both profiles.  The hand-rolled loop makes the
    same comparisons in the same order; move-out + write-back is one overwrite of the slot. -/
theorem insert_unchecked_eq_room {s : St K V Q} {l : List (K × V)} (hr : Rep s.r l) (k : K) (v : V)
    (hroom : l.length < s.r.cap) : insert_unchecked E k v s = insert E k v s :=
  insert_unchecked_eq_insert E hr k v (Or.inl hroom)

/-- Key present (pure `==`): the same equality of outcomes, also on a full map. -/
theorem insert_unchecked_eq_present (hE : E.Pure) {s : St K V Q} {l : List (K × V)} (hr : Rep s.r l)
    (k : K) (v : V) (hp : findKey E l (.key k) ≠ none) : insert_unchecked E k v s = insert E k v s :=
  insert_unchecked_eq_insert E hr k v (Or.inr (Or.inl (scan_ne_none_of_present E hE hr k hp)))

/-- the contract as documented: "not full, or the key is already present". -/
theorem insert_unchecked_eq (hE : E.Pure) {s : St K V Q} {l : List (K × V)} (hr : Rep s.r l)
    (k : K) (v : V) (hc : l.length < s.r.cap ∨ findKey E l (.key k) ≠ none) :
    insert_unchecked E k v s = insert E k v s :=
  hc.elim (insert_unchecked_eq_room E hr k v) (insert_unchecked_eq_present E hE hr k v)

/-- the same for the cores (`update_key` either way, so also for a would-be unchecked
    `insert_key_value`): `insert_i = insert_ii` inside the contract, any `==`, any injection. -/
theorem insert_i_eq {s : St K V Q} {l : List (K × V)} (hr : Rep s.r l) (k : K) (v : V) (upd : Bool)
    (hroom : l.length < s.r.cap) : insert_i E k v upd s = insert_ii E k v upd s :=
  insert_i_eq_insert_ii E hr k v upd (Or.inl hroom)

/-- even outside the contract the two agree while `debug_assert!` is compiled in: both panic
    `.overflow` with the container untouched. -/
theorem insert_unchecked_eq_debug {s : St K V Q} {l : List (K × V)} (hr : Rep s.r l) (k : K) (v : V)
    (hd : s.w.profile = .debug) : insert_unchecked E k v s = insert E k v s :=
  insert_unchecked_eq_insert E hr k v (Or.inr (Or.inr hd))

/-- Hence every guarantee of `insert` transfers: with room, for any `==` and any injection point,
    `insert_unchecked` never reaches UB and satisfies the full triple of `insert` (result, final
    list — value replaced in place or pair appended, key uniqueness and stored-key identity as
    for `insert` —, effects, capacity, and the same exception-safety postcondition). -/
theorem insert_unchecked_sat {s : St K V Q} {l : List (K × V)} (hr : Rep s.r l) (k : K) (v : V)
    (hroom : l.length < s.r.cap) :
    Sat (insert_unchecked E k v) s
      (fun res s' => s'.r.cap = s.r.cap ∧
        ((∃ i, ∃ hi : i < l.length, res = some l[i].2 ∧ Rep s'.r (l.set i (l[i].1, v)) ∧
            WRel s.w s'.w [.dropK k] ∧ (E.Pure → findKey E l (.key k) = some i)) ∨
         (res = none ∧ l.length < s.r.cap ∧ Rep s'.r (l ++ [(k, v)]) ∧ WRel s.w s'.w [] ∧
            (E.Pure → findKey E l (.key k) = none))))
      (fun c s' => s'.r.cap = s.r.cap ∧ InjPanic s s' c ∧
        ∃ l', Rep s'.r l' ∧ (l' = l ∨ ∃ i, ∃ hi : i < l.length, l' = l.set i (l[i].1, v))) := by
  unfold Sat
  rw [insert_unchecked_eq_room E hr k v hroom]
  exact Sat.mono (insert_sat E hr k v) (fun _ _ h => h) fun _ _ ⟨hc, h⟩ =>
    ⟨hc, h.resolve_right fun ⟨_, _, hfull, _⟩ => Nat.ne_of_lt hroom hfull⟩

/-- never UB inside the contract (room), for any `==`, any injection point, both profiles. -/
theorem insert_unchecked_no_ub {s : St K V Q} {l : List (K × V)} (hr : Rep s.r l) (k : K) (v : V)
    (hroom : l.length < s.r.cap) : insert_unchecked E k v s ≠ .ub :=
  (insert_unchecked_sat E hr k v hroom).not_ub

/-- key present on a (possibly full) map, pure `==`, benign world: `insert_unchecked` returns the
    old value and replaces exactly that value, like `insert`. -/
theorem insert_unchecked_present (hE : E.Pure) {s : St K V Q} {l : List (K × V)} (hr : Rep s.r l)
    (hb : Benign s.w) (k : K) (v : V) {i} (hpres : findKey E l (.key k) = some i) :
    ∃ (hi : i < l.length) (s' : St K V Q), insert_unchecked E k v s = .ok (some l[i].2) s' ∧
      Rep s'.r (l.set i (l[i].1, v)) ∧ s'.r.cap = s.r.cap := by
  rw [insert_unchecked_eq_present E hE hr k v (by rw [hpres]; simp)]
  exact C03.insert_present_on_full E hE hr hb k v hpres

/-- OUTSIDE the contract — full map, absent key, release build — the model of `insert_unchecked`
    yields `ub` (the write past the array).  This is the documented UB of the `unsafe fn`; nothing
    is claimed about it.  It shows the contract hypothesis above cannot be dropped. -/
theorem insert_unchecked_ub_outside (hE : E.Pure) {s : St K V Q} {l : List (K × V)} (hr : Rep s.r l)
    (hb : Benign s.w) (k : K) (v : V) (hfull : l.length = s.r.cap) (hrel : s.w.profile = .release)
    (habs : findKey E l (.key k) = none) : insert_unchecked E k v s = .ub := by
  obtain ⟨s1, h1, _⟩ := scan_benign E hE hr hb (.key k)
  rw [habs] at h1
  unfold insert_unchecked
  rw [bind_apply, insert_i_ub_outside E hr k v false hfull hrel h1]

/-! ### `get_disjoint_unchecked_mut` -/

/-- whenever the pre-check passes, `get_disjoint_mut` is literally `get_disjoint_unchecked_mut`
    continued from the state the pre-check leaves (same container; only comparisons happened). -/
theorem get_disjoint_mut_is_unchecked {s s1 : St K V Q} (ks : List (Probe K Q))
    (h : overlapCheck E ks s = .ok () s1) :
    get_disjoint_mut E ks s = get_disjoint_unchecked_mut E ks s1 ∧ s1.r = s.r ∧
      WRel s.w s1.w [] :=
  have h' := (overlapCheck_sat E ks s).ok_of h
  ⟨get_disjoint_mut_of_check_ok E ks h, h'.1, h'.2.1⟩

/-- Pairwise unequal requests (pure `==`, benign world): from the same state the two functions
    have the same outcome — the same list of slots with the container unchanged, or (only
    possible for an unlawful `==`) both panic at the checked stack index. -/
theorem get_disjoint_unchecked_eq (hE : E.Pure) {s : St K V Q} {l : List (K × V)} (hr : Rep s.r l)
    (hb : Benign s.w) {ks : List (Probe K Q)} (hu : Unequal E ks) :
    (∃ res s1 s2, get_disjoint_unchecked_mut E ks s = .ok res s1 ∧
        get_disjoint_mut E ks s = .ok res s2 ∧ s1.r = s.r ∧ s2.r = s.r) ∨
    (∃ s1 s2, get_disjoint_unchecked_mut E ks s = .panic .oob s1 ∧
        get_disjoint_mut E ks s = .panic .oob s2 ∧ s1.r = s.r ∧ s2.r = s.r) := by
  obtain ⟨s1, hs1, _, p1, o1⟩ := unchecked_pure E hE hr hb ks
  obtain ⟨s2, hs2, _, _, p2, o2⟩ := checked_pure E hE hr hb ks
  by_cases ho : Overfull E l ks
  · exact .inr ⟨s1, s2, p1 ho, p2 hu ho, hs1, hs2⟩
  · exact .inl ⟨_, s1, s2, o1 ho, o2 hu ho, hs1, hs2⟩

/-- lawful `==`, unique keys, pairwise unequal requests: both return exactly the slots the scan
    (`get_mut`) finds, position by position; the container is unchanged. -/
theorem get_disjoint_unchecked_agrees (hE : E.Lawful) {s : St K V Q} {l : List (K × V)}
    (hr : Rep s.r l) (hn : NodupKeys E.keq l) (hb : Benign s.w) {ks : List (Probe K Q)}
    (hu : Unequal E ks) :
    ∃ s1 s2, get_disjoint_unchecked_mut E ks s = .ok (ks.map (findKey E l)) s1 ∧
      get_disjoint_mut E ks s = .ok (ks.map (findKey E l)) s2 ∧ s1.r = s.r ∧ s2.r = s.r := by
  obtain ⟨s1, hs1, _, _, o1⟩ := unchecked_pure E hE.toPure hr hb ks
  obtain ⟨s2, hs2, _, _, _, o2⟩ := checked_pure E hE.toPure hr hb ks
  have ho := not_overfull E hE hn ks
  rw [← resSpec_lawful E hE hn hu]
  exact ⟨s1, s2, o1 ho, o2 hu ho, hs1, hs2⟩

/-- within (and even outside) its precondition `get_disjoint_unchecked_mut` upholds every other
    guarantee, for any `==` and any injection point: no UB, container untouched, one result per
    request, live slots only, no two returned references alias. -/
theorem get_disjoint_unchecked_safe {s : St K V Q} {l : List (K × V)} (hr : Rep s.r l)
    (ks : List (Probe K Q)) :
    Sat (get_disjoint_unchecked_mut E ks) s
      (fun res s' => s'.r = s.r ∧ res.length = ks.length ∧
        (∀ (t j : Nat), res[t]? = some (some j) → j < l.length) ∧
        (∀ (t₁ t₂ j : Nat), res[t₁]? = some (some j) → res[t₂]? = some (some j) → t₁ = t₂))
      (fun c s' => s'.r = s.r ∧ (c = .oob ∨ InjPanic s s' c)) :=
  C13.get_disjoint_unchecked_mut_safe E hr ks

/-! Non-vacuity and the documented UB on concrete data (tests, not proofs). -/

def exEnv : Env Nat Nat Nat :=
  { eqK := fun _ a b => a == b, eqQ := fun _ a b => a == b, eqV := fun a b => a == b, borrow := id,
    clK := fun _ k => k, clV := fun _ v => v }

/-- a full map. -/
def exRaw : Raw Nat Nat :=
  { cap := 2, len := 2, slots := fun i => if i = 0 then some (7, 70) else if i = 1 then some (8, 80) else none }

/-- a map with room. -/
def exRaw3 : Raw Nat Nat := { exRaw with cap := 3 }

example : exEnv.Pure := ⟨fun _ _ _ => rfl, fun _ _ _ => rfl⟩
-- `exRaw3` is `C13.exRaw`; `exRaw` has the same slots
example : Rep exRaw [(7, 70), (8, 80)] := ⟨rfl, Nat.le_refl 2, C13.exRep.2.2⟩
example : Rep exRaw3 [(7, 70), (8, 80)] := C13.exRep
example : [(7, 70), (8, 80)].length < exRaw3.cap := by decide
example : findKey exEnv [(7, 70), (8, 80)] (.key 8) ≠ none := by decide
example : findKey exEnv [(7, 70), (8, 80)] (.key 9) = none := by decide
example : Unequal exEnv [.key 8, .q 9, .key 7] := by
  unfold Unequal; decide

/-- outside the contract (full, absent key, release profile) the model yields `ub`. -/
example : (match insert_unchecked exEnv 9 90 ⟨exRaw, { profile := .release }⟩ with
    | .ub => true | _ => false) = true := by rfl
/-- the safe `insert` panics instead (bounds check of `pairs[i]`). -/
example : (match insert exEnv 9 90 ⟨exRaw, { profile := .release }⟩ with
    | .panic .oob _ => true | _ => false) = true := by rfl
/-- inside the contract (key present on the full map, release profile): no UB, old value back. -/
example : (match insert_unchecked exEnv 8 81 ⟨exRaw, { profile := .release }⟩ with
    | .ok (some 80) _ => true | _ => false) = true := by rfl

/-! ### histories that use the unsafe fast paths within their contract -/

section Histories
open Micromap.UncheckedInv
variable (R : Render K V)

/-! ### no `ub`, invariant preserved -/

/-- **One step inside the contract.**  If all registers satisfy the invariant and the operation —
    a safe one, `insert_unchecked` on a register that is not full or holds the key, or
    `get_disjoint_unchecked_mut` with pairwise different requests — meets its contract in the
    current state, the step does not reach `ub` and all registers satisfy the invariant
    afterwards, whether the step returned, panicked or unwound from an injected panic.  Any user
    equality, any world. -/
theorem unchecked_step_inv {sys : Sys K V Q} (hs : SysInv E sys) (op : Op K V Q)
    (hc : op.contractOk E sys) :
    (step E R sys op).2.outcome ≠ .ub ∧ SysInv E (step E R sys op).1 :=
  step_inv_contract E R hs op hc

/-- **No history inside the contract reaches `ub`** — no dead slot is read, compared, returned or
    dropped and nothing is written past the array — from any well-formed state, for any user
    equality, any armed injections, either profile. -/
theorem unchecked_history_no_ub (ops : List (Op K V Q)) (sys : Sys K V Q) (hs : SysInv E sys)
    (hc : ContractAlong E R sys ops) : ∀ o, o ∈ (run E R sys ops).2 → o.outcome ≠ .ub :=
  (run_inv_contract E R ops sys hs hc).1

/-- the same from `new()` registers of any capacities. -/
theorem unchecked_history_no_ub_init (capM capS : Nat → Nat) (w : World K V Q) (ops : List (Op K V Q))
    (hc : ContractAlong E R (Sys.init capM capS w) ops) :
    ∀ o, o ∈ (run E R (Sys.init capM capS w) ops).2 → o.outcome ≠ .ub :=
  unchecked_history_no_ub E R ops _ (SysInv.init E capM capS w) hc

/-- the invariant at the end of a history inside the contract (hence, by
    `contractAlong_append`, after every prefix of it). -/
theorem unchecked_history_inv (ops : List (Op K V Q)) (sys : Sys K V Q) (hs : SysInv E sys)
    (hc : ContractAlong E R sys ops) : SysInv E (run E R sys ops).1 :=
  (run_inv_contract E R ops sys hs hc).2

/-- **Every state reached inside the contract is well-formed** (bounds and key uniqueness).  For
    every map register and every set register after the history:
    * `Safe`: `len ≤ capacity` and every slot below `len` holds a live pair — what every accessor
      of the crate relies on;
    * iteration yields exactly `len()` entries (the abstract list has length `len`);
    * for a lawful key type whose `Clone` respects `Eq` (`E.Good`) the keys are pairwise unequal.
    No hypothesis on the world: panics injected into user code at any point are covered. -/
theorem unchecked_history_wf (ops : List (Op K V Q)) (sys : Sys K V Q) (hs : SysInv E sys)
    (hc : ContractAlong E R sys ops) (i : Nat) :
    let sys' := (run E R sys ops).1
    (Safe (sys'.maps i) ∧ (sys'.maps i).len ≤ (sys'.maps i).cap ∧
      (sys'.maps i).abs.length = (sys'.maps i).len ∧ (E.Good → NodupKeys E.keq (sys'.maps i).abs)) ∧
    (Safe (sys'.sets i) ∧ (sys'.sets i).len ≤ (sys'.sets i).cap ∧
      (sys'.sets i).abs.length = (sys'.sets i).len ∧ (E.Good → NodupKeys E.toUnit.keq (sys'.sets i).abs)) := by
  intro sys'
  have h := unchecked_history_inv E R ops sys hs hc
  obtain ⟨hm, hn⟩ := (h.1 i).abs
  obtain ⟨hm', hn'⟩ := (h.2 i).abs
  exact ⟨⟨hm.safe, hm.safe.1, hm.1.symm, hn⟩, ⟨hm'.safe, hm'.safe.1, hm'.1.symm, fun hg => hn' hg.toUnit⟩⟩

/-- after every PREFIX of a history inside the contract the registers are well-formed too. -/
theorem unchecked_history_wf_prefix (ops₁ ops₂ : List (Op K V Q)) (sys : Sys K V Q) (hs : SysInv E sys)
    (hc : ContractAlong E R sys (ops₁ ++ ops₂)) : SysInv E (run E R sys ops₁).1 :=
  unchecked_history_inv E R ops₁ sys hs ((contractAlong_append E R ops₁ ops₂ sys).mp hc).1

/-- `get_disjoint_unchecked_mut` needs NO contract for safety in this implementation: with
    arbitrary requests (repeated ones included) the step — the call followed by a write through
    every returned reference — does not reach `ub` and keeps the invariant.  (The contract only
    matters for WHICH slots are returned: `get_disjoint_unchecked_eq` / `_agrees` above.) -/
theorem gdm_unchecked_step_inv {sys : Sys K V Q} (hs : SysInv E sys) (reg : Nat) (g : V → V)
    (ks : List (Probe K Q)) :
    (step E R sys (.map reg (.get_disjoint_mut true g ks))).2.outcome ≠ .ub ∧
      SysInv E (step E R sys (.map reg (.get_disjoint_mut true g ks))).1 :=
  step_inv_insertContract E R hs _ trivial

/-- the documented wording of the contract suffices for a time-independent `==`: a history in
    which every `insert_unchecked(k, _)` finds its register not full or `k` present in its abstract
    list (`findKey … ≠ none`), and every `get_disjoint_unchecked_mut` gets pairwise unequal
    requests, is inside the contract — in any world. -/
theorem contractAlong_of_pure (hE : E.Pure) (ops : List (Op K V Q)) (sys : Sys K V Q) (hs : SysInv E sys)
    (hc : ContractAlongPure E R sys ops) : ContractAlong E R sys ops :=
  ContractAlong.of_pure E R hE ops sys hs hc

/-! ### `insert_unchecked` refines to `insert` along histories -/

/-- **One step**: on a register that is not full, or on which the scan finds the key,
    `step (insert_unchecked k v) = step (insert k v)` — the same output record (outcome, returned
    old value, events, callback count, touched registers) and the same next state, for ANY `==`,
    any armed injection, either profile. -/
theorem insert_unchecked_step_refines {sys : Sys K V Q} (hs : SysInv E sys) (reg : Nat) (k : K) (v : V)
    (hc : (Op.map reg (.insert_unchecked k v) : Op K V Q).contractOk E sys) :
    step E R sys (.map reg (.insert_unchecked k v)) = step E R sys (.map reg (.insert k v)) :=
  step_insert_unchecked_eq E R reg (hs.1 reg) k v hc

/-- with `debug_assert!` compiled in the two steps agree even OUTSIDE the contract (both panic
    `.overflow` on a full map without the key, registers untouched). -/
theorem insert_unchecked_step_refines_debug {sys : Sys K V Q} (hs : SysInv E sys) (reg : Nat) (k : K) (v : V)
    (hd : sys.w.profile = .debug) :
    step E R sys (.map reg (.insert_unchecked k v)) = step E R sys (.map reg (.insert k v)) :=
  step_insert_unchecked_eq' E R reg (hs.1 reg) k v (Or.inr hd)

/-- the same with the contract as documented (pure `==`): `len < cap` or the key is present. -/
theorem insert_unchecked_step_refines_pure (hE : E.Pure) {sys : Sys K V Q} (hs : SysInv E sys) (reg : Nat)
    (k : K) (v : V)
    (hc : (sys.maps reg).len < (sys.maps reg).cap ∨ findKey E (sys.maps reg).abs (.key k : Probe K Q) ≠ none) :
    step E R sys (.map reg (.insert_unchecked k v)) = step E R sys (.map reg (.insert k v)) :=
  insert_unchecked_step_refines E R hs reg k v
    (contractOk_of_pure E hE hs (op := .map reg (.insert_unchecked k v)) hc)

/-- **Histories**: a history in which every `insert_unchecked` meets its contract produces
    exactly the outputs (per step: outcome, return value, events, callback count; at `endCase`
    the leak report) and the final register contents of the history with `insert` in its place
    (`toChecked`).  Neither lawfulness nor a benign world is needed. -/
theorem insert_unchecked_history_refines (ops : List (Op K V Q)) (sys : Sys K V Q) (hs : SysInv E sys)
    (hc : ContractAlong E R sys ops) : run E R sys ops = run E R sys (ops.map toChecked) :=
  run_toChecked_eq E R ops sys hs (InsertContractAlong.of_contractAlong E R ops sys hc)

/-- the history form for a lawful key type with the contract as documented. -/
theorem insert_unchecked_history_refines_lawful (hE : E.Lawful) (ops : List (Op K V Q)) (sys : Sys K V Q)
    (hs : SysInv E sys) (hc : ContractAlongPure E R sys ops) :
    run E R sys ops = run E R sys (ops.map toChecked) :=
  insert_unchecked_history_refines E R ops sys hs (contractAlong_of_pure E R hE.toPure ops sys hs hc)

/-- a history without `get_disjoint_unchecked_mut` refines to a history of the SAFE API, to which
    all history theorems of C01–C17 apply as they stand. -/
theorem toChecked_history_safe (ops : List (Op K V Q))
    (h : ∀ op, op ∈ ops → (∀ reg g ks, op ≠ .map reg (.get_disjoint_mut true g ks)) ∧
      (∀ reg g ks, op ≠ .umap reg (.get_disjoint_mut true g ks))) :
    ∀ op, op ∈ ops.map toChecked → op.safeApi = true := by
  intro op hop
  obtain ⟨op', hop', rfl⟩ := List.mem_map.mp hop
  exact toChecked_safe op' (h op' hop').1 (h op' hop').2

/-! ### the contract cannot be dropped -/

/-- **Outside the contract the step is `ub`**: full register, key absent (pure `==`), no
    injection armed, release profile — the system-level counterpart of
    `insert_unchecked_ub_outside`.  With `unchecked_step_inv` this makes the contract of
    `insert_unchecked` exactly the condition under which the step is defined. -/
theorem step_insert_unchecked_ub_outside (hE : E.Pure) {sys : Sys K V Q} (reg : Nat)
    (hs : Safe (sys.maps reg)) (hb : Benign sys.w) (k : K) (v : V)
    (hfull : (sys.maps reg).len = (sys.maps reg).cap) (hrel : sys.w.profile = .release)
    (habs : findKey E (sys.maps reg).abs (.key k : Probe K Q) = none) :
    (step E R sys (.map reg (.insert_unchecked k v))).2.outcome = .ub := by
  have h := insert_unchecked_ub_outside E hE (s := mapSt sys reg) hs.rep ⟨hb.1, hb.2⟩ k v
    (hs.rep.1 ▸ hfull) hrel habs
  have h' : stepMapOp E R sys.maps (.insert_unchecked k v) (mapSt sys reg) = .ub := by
    show (insert_unchecked E k v >>= _) _ = _
    rw [bind_apply, h]
  exact step_outcome_ub E R sys (fun _ => nofun) nofun
    ((stepCore_map E R _ reg rfl).trans (runOnMap_ub _ reg h'))

/-- in that situation the contract indeed fails (it is not merely unprovable). -/
theorem contract_fails_outside (hE : E.Pure) {sys : Sys K V Q} (hs : SysInv E sys) (reg : Nat)
    (hb : Benign sys.w) (k : K) (v : V) (hfull : (sys.maps reg).len = (sys.maps reg).cap)
    (hrel : sys.w.profile = .release)
    (habs : findKey E (sys.maps reg).abs (.key k : Probe K Q) = none) :
    ¬ (Op.map reg (.insert_unchecked k v) : Op K V Q).contractOk E sys := fun hc =>
  let R0 : Render K V := ⟨fun _ _ => "", fun _ _ => "", fun _ => "", fun _ => ""⟩
  (unchecked_step_inv E R0 hs _ hc).1
    (step_insert_unchecked_ub_outside E R0 hE reg (hs.1 reg).safe hb k v hfull hrel habs)

/-! ### non-vacuity on concrete data (tests, not proofs) -/

def exR : Render Nat Nat :=
  { dbgK := fun _ _ => "", dbgV := fun _ _ => "", dspK := fun _ => "", dspV := fun _ => "" }

/-- two map and two set registers of capacity 2, fresh. -/
def exSys (p : Profile) : Sys Nat Nat Nat := Sys.init (fun _ => 2) (fun _ => 2) { profile := p }

/-- `insert`, `insert_unchecked` with room, `insert_unchecked` of a present key on the now FULL
    map, `get_disjoint_unchecked_mut` with different keys (a hit and a miss), `insert_unchecked`
    on a `Map<K, (), 2>`, then the end of the test case. -/
def exHist : List (Op Nat Nat Nat) :=
  [ .map 0 (.insert 7 70), .map 0 (.insert_unchecked 8 80), .map 0 (.insert_unchecked 8 81),
    .map 0 (.get_disjoint_mut true (· + 1) [.key 8, .q 9, .key 7]),
    .umap 1 (.insert_unchecked 3 ()), .endCase ]

example : SysInv exEnv (exSys .release) := SysInv.init exEnv _ _ _

/-- the history is inside the contract (documented form, checked by evaluation). -/
private theorem exHist_contract : ContractAlongPure exEnv exR (exSys .release) exHist :=
  ⟨trivial, .inl (by decide +kernel), .inr (by decide +kernel),
    (show Unequal exEnv _ by unfold Unequal; decide), .inl (by decide +kernel), trivial, trivial⟩

example : ContractAlongPure exEnv exR (exSys .release) exHist := exHist_contract

example : ContractAlong exEnv exR (exSys .release) exHist :=
  contractAlong_of_pure exEnv exR ⟨fun _ _ _ => rfl, fun _ _ _ => rfl⟩ _ _ (SysInv.init exEnv _ _ _)
    exHist_contract

/-- what the history does, step by step (release profile). -/
example : (run exEnv exR (exSys .release) exHist).2.map (·.outcome) = [.ok, .ok, .ok, .ok, .ok, .ok] := by
  decide +kernel

/-- outside the contract: the third pair goes into a full map of capacity 2. -/
def exBad : List (Op Nat Nat Nat) :=
  [ .map 0 (.insert 7 70), .map 0 (.insert 8 80), .map 0 (.insert_unchecked 9 90) ]

/-- release build: the last step is `ub` … -/
example : (run exEnv exR (exSys .release) exBad).2.map (·.outcome) = [.ok, .ok, .ub] := by decide +kernel

/-- … so the history is not inside the contract … -/
example : ¬ ContractAlong exEnv exR (exSys .release) exBad := fun h => by
  have h1 := unchecked_history_no_ub exEnv exR exBad _ (SysInv.init exEnv _ _ _) h
  have h2 : Outcome.ub ∈ (run exEnv exR (exSys .release) exBad).2.map (·.outcome) := by decide +kernel
  obtain ⟨o, ho, hu⟩ := List.mem_map.mp h2
  exact h1 o ho hu

/-- … while with `debug_assert!` compiled in the same call panics like `insert` does. -/
example : (run exEnv exR (exSys .debug) exBad).2.map (·.outcome) = [.ok, .ok, .panic .overflow] := by decide +kernel

end Histories

end Micromap.Props.C18
