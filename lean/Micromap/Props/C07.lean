/-
C07 — Set is a correct bounded set: every operation agrees with a reference model.

`Set<T, N>` is `Map<T, (), N>` and every method forwards to a map method
(`src/set/methods.rs`, mirrored by `stepSetOp`); `RefineSet.smrun` is that forwarding:
the map method (`Refine.mrun (toD op)`) followed by `.is_none()`, `.is_some()`, `.map(|p| p.0)`.
The reference is the ideal finite set `RefineSet.sset` over a list of elements
(`any` / `find?` / `filter`).  Elements are compared by an arbitrary lawful `==`
(equal elements may be distinguishable), lookups may use a borrowed form, the capacity is an
arbitrary `Nat`, both build profiles are covered.
-/
import Micromap.Proofs.RefineSet
import Micromap.Proofs.RefineTie

namespace Micromap.Props.C07
open Micromap Micromap.Refine Micromap.RefineSet SetAlg
variable {K Q : Type} {F : Env K Unit Q}

/-- the container holds exactly the elements `ks` (in some order), pairwise unequal. -/
def SetSim (F : Env K Unit Q) (r : Raw K Unit) (ks : List K) : Prop :=
  ∃ d, Sim F r d ∧ d.map (·.1) = ks

/-- what one step promises. -/
def SetStepOK (F : Env K Unit Q) (op : SOp K Q) (s : St K Unit Q) (ks : List K) : Prop :=
  match sset F op ks s.r.cap with
  | .ok out ks' => ∃ out' s', smrun F op s = .ok out' s' ∧ SOutRel out' out ∧ SetSim F s'.r ks' ∧
      s'.r.cap = s.r.cap ∧ Benign s'.w
  | .overflow => ∃ c s', smrun F op s = .panic c s' ∧ OverflowPanic s c ∧ s'.r = s.r ∧ Benign s'.w
  | .noentry => False

theorem outS_rel (op : SOp K Q) {o o' : DOut K Unit} (h : OutRel o' o) : SOutRel (outS op o') (outS op o) := by
  rcases h.cases with rfl | ⟨a, b, rfl, rfl, hp⟩
  · exact .refl _
  · cases op with
    | iter => exact hp.map _
    | _ => rfl

/-- **One step**: `insert` returns `true` exactly when the element was absent (and panics exactly
    when it was absent and the set is full), `replace` hands back the old element, `contains` /
    `get` / `remove` / `take` report presence truthfully, `retain` keeps exactly the elements the
    predicate accepts, and the resulting membership is that of the ideal set. -/
theorem set_step_refines (hF : F.Lawful) (op : SOp K Q) {s : St K Unit Q} {ks : List K}
    (hs : SetSim F s.r ks) (hb : Benign s.w) : SetStepOK F op s ks := by
  obtain ⟨d, hsim, rfl⟩ := hs
  have h := sim_step hF (toD op) hsim hb
  unfold StepOK at h
  unfold SetStepOK
  rw [sset_eq_srun]
  generalize hsr : srun F (toD op) d s.r.cap = r at h ⊢
  cases r with
  | ok o d' =>
    obtain ⟨o', s', hm, ho, hs', hc, hb'⟩ := h
    exact ⟨outS op o', s', bind_ok hm, outS_rel op ho, ⟨d', hs', rfl⟩, hc, hb'⟩
  | overflow =>
    obtain ⟨c, s', hm, ho, hr, hb'⟩ := h
    exact ⟨c, s', by rw [smrun, bind_apply, hm], ho, hr, hb'⟩
  | noentry => exact srun_toD_ne_noentry F op d _ hsr

/-- all outputs of a history agree with the ideal set; an overflowing `insert` leaves both sides
    where they were and the history goes on. -/
def SetHistOK (F : Env K Unit Q) : List (SOp K Q) → St K Unit Q → List K → Prop
  | [], _, _ => True
  | op :: ops, s, ks =>
    match sset F op ks s.r.cap with
    | .ok out ks' => ∃ out' s', smrun F op s = .ok out' s' ∧ SOutRel out' out ∧ SetHistOK F ops s' ks'
    | .overflow => ∃ c s', smrun F op s = .panic c s' ∧ OverflowPanic s c ∧ SetHistOK F ops s' ks
    | .noentry => False

/-- **Any sequence of Set operations** behaves like the ideal finite set of the same capacity;
    in particular membership afterwards is exactly "successfully inserted and not yet removed"
    (that is how `sset` is defined: `insert` appends when absent, `remove`/`take`/`retain` filter). -/
theorem set_history_refines (hF : F.Lawful) (ops : List (SOp K Q)) :
    ∀ (s : St K Unit Q) (ks : List K), SetSim F s.r ks → Benign s.w → SetHistOK F ops s ks := by
  induction ops with
  | nil => intro _ _ _ _; trivial
  | cons op ops ih =>
    intro s ks hs hb
    have h := set_step_refines hF op hs hb
    unfold SetStepOK at h
    unfold SetHistOK
    generalize sset F op ks s.r.cap = r at h ⊢
    cases r with
    | ok out ks' =>
      obtain ⟨out', s', hm, ho, hs', _, hb'⟩ := h
      exact ⟨out', s', hm, ho, ih s' ks' hs' hb'⟩
    | overflow =>
      obtain ⟨c, s', hm, ho, hr, hb'⟩ := h
      exact ⟨c, s', hm, ho, ih s' ks (hr ▸ hs) hb'⟩
    | noentry => exact h

theorem new_setsim (cap : Nat) : SetSim F (Raw.new cap : Raw K Unit) [] :=
  ⟨[], ⟨[], Rep.new cap, List.Pairwise.nil, List.Perm.nil⟩, rfl⟩

theorem set_history_from_new (hF : F.Lawful) (cap : Nat) (w : World K Unit Q) (hb : Benign w)
    (ops : List (SOp K Q)) : SetHistOK F ops ⟨Raw.new cap, w⟩ [] :=
  set_history_refines hF ops _ _ (new_setsim cap) hb

/-- `insert` returns `true` exactly when the element was absent. -/
theorem insert_true_iff_absent (hF : F.Lawful) (k : K) {s : St K Unit Q} {ks : List K}
    (hs : SetSim F s.r ks) (hb : Benign s.w) {b s'} (hm : smrun F (.insert k) s = .ok (.bool b) s') :
    b = !ks.any (F.hitP (.key k)) := by
  have h := set_step_refines hF (.insert k) hs hb
  unfold SetStepOK sset at h
  cases ha : ks.any (F.hitP (.key k)) <;> simp only [ha, if_true, Bool.false_eq_true, if_false] at h
  · by_cases hroom : ks.length < s.r.cap <;> simp only [hroom, if_true, if_false] at h
    · obtain ⟨o, s1, hm1, ho, _⟩ := h
      rw [hm] at hm1; cases hm1
      cases (ho : SOut.bool b = .bool true); rfl
    · obtain ⟨c, s1, hm1, _⟩ := h
      rw [hm] at hm1; cases hm1
  · obtain ⟨o, s1, hm1, ho, _⟩ := h
    rw [hm] at hm1; cases hm1
    cases (ho : SOut.bool b = .bool false); rfl

/-- `remove` reports presence truthfully and the element is gone afterwards (every element
    equal to the probe is filtered out; by uniqueness that is at most one). -/
theorem remove_reports_presence (hF : F.Lawful) (pr : Probe K Q) {s : St K Unit Q} {ks : List K}
    (hs : SetSim F s.r ks) (hb : Benign s.w) :
    ∃ s', smrun F (.remove pr) s = .ok (.bool (ks.any (F.hitP pr))) s' ∧
      SetSim F s'.r (ks.filter fun x => !F.hitP pr x) := by
  have h := set_step_refines hF (.remove pr) hs hb
  unfold SetStepOK sset at h
  obtain ⟨o, s', hm, ho, hs', _⟩ := h
  exact ⟨s', ho.eq_of (fun _ => nofun) ▸ hm, hs'⟩

/-- lookups by a borrowed form of an element answer like lookups by the element. -/
theorem sset_borrowed (hF : F.Lawful) (k : K) (ks : List K) (cap : Nat) :
    sset F (.contains (.q (F.borrow k))) ks cap = sset F (.contains (.key k)) ks cap ∧
    sset F (.get (.q (F.borrow k))) ks cap = sset F (.get (.key k)) ks cap ∧
    sset F (.remove (.q (F.borrow k))) ks cap = sset F (.remove (.key k)) ks cap ∧
    sset F (.take (.q (F.borrow k))) ks cap = sset F (.take (.key k)) ks cap := by
  simp only [sset, hitP_borrow hF k, and_self]

/-- **The theorems are about what is executed**: `smrun op` is `stepSetOp` on the corresponding
    `SetOp` of the operation language, up to the erasure of slot positions. -/
theorem step_executes_smrun (R : Render K Unit) (other : Nat → Raw K Unit) (op : SOp K Q) (sop : SetOp K Q)
    (h : toSetOp op = some sop) (s : St K Unit Q) :
    Res.mapOut (viewSRV op) (stepSetOp F R other sop s) = smrun F op s :=
  stepSetOp_eq_smrun F R other op sop h s

/-! ### non-vacuity (tests) -/

def exEnv : Env (Nat × Nat) Unit Nat :=
  { eqK := fun _ a b => a.1 == b.1, eqQ := fun _ a b => a == b, eqV := fun _ _ => true,
    borrow := fun a => a.1, clK := fun n k => (k.1, n), clV := fun _ v => v, vGlue := false }

theorem exEnv_lawful : exEnv.Lawful :=
  .of_proj Prod.fst id (fun _ _ _ => rfl) (fun _ _ _ => rfl) (fun _ => rfl)

example : SetHistOK exEnv
    [.insert (1, 10), .insert (2, 11), .insert (1, 12), .insert (3, 13), .contains (.q 1),
     .take (.key (1, 99)), .replace (2, 50), .retain (fun k => k.1 != 2), .iter]
    ⟨Raw.new 2, {}⟩ [] :=
  set_history_from_new exEnv_lawful 2 {} ⟨rfl, rfl⟩ _

end Micromap.Props.C07
