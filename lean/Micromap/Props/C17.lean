/-
C17 — Misbehaving `Eq` / `Borrow` impls may give wrong answers but never memory unsafety.

`E : Env K V Q` is universally quantified WITHOUT any hypothesis: `E.eqK n a b` and
`E.eqQ n a b` may depend on the call number `n`, so `==` may be non-reflexive, asymmetric and
change between calls, and `Borrow` need not be consistent with `Eq`.  In the model every
memory-unsafe event of the real program (reading, comparing, returning, moving out or dropping a
slot that holds no live element; an unchecked access beyond the array) is the outcome `ub`;
writes go through `itemWrite` / `checkedWrite` / `valueReplace` / `pairReplace`, each of which
is `ub` or a panic outside `[0, cap)`.  So "never `ub`" is: no use of dead data, no double
drop of a slot, nothing outside the container written.
-/
import Micromap.Props.C02

namespace Micromap.Props.C17
open Micromap
variable {K V Q : Type} (E : Env K V Q) (R : Render K V)

/-- **Any history, any oracle.**  No step of any history of safe operations reaches `ub`, and
    afterwards every register is memory-safe: `len ≤ cap` and all slots below `len` are live. -/
theorem run_safe_any_oracle (capM capS : Nat → Nat) (w : World K V Q) (ops : List (Op K V Q))
    (hops : ∀ op, op ∈ ops → op.safeApi = true) :
    (∀ o, o ∈ (run E R (Sys.init capM capS w) ops).2 → o.outcome ≠ .ub) ∧
    (∀ i, Safe ((run E R (Sys.init capM capS w) ops).1.maps i)) ∧
    (∀ i, Safe ((run E R (Sys.init capM capS w) ops).1.sets i)) := by
  have h := run_inv E R ops _ (SysInv.init E capM capS w) hops
  exact ⟨h.1, fun i => (h.2.1 i).safe, fun i => (h.2.2 i).safe⟩

/-- `len()` never exceeds `capacity()` and matches what iteration yields: in a memory-safe
    register `iter()` yields exactly `len()` entries. -/
theorem len_matches_iteration {r : Raw K V} (h : Safe r) (s : St K V Q) :
    r.len ≤ r.cap ∧ ∃ l, entriesOf r s = .ok l s ∧ l.length = r.len :=
  ⟨h.1, r.abs, Refine.entriesOf_ok h.rep s, h.rep.1.symm⟩

/-- in every reachable state, under any oracle. -/
theorem reachable_len (capM capS : Nat → Nat) (w : World K V Q) (ops : List (Op K V Q))
    (hops : ∀ op, op ∈ ops → op.safeApi = true) (i : Nat) (s : St K V Q) :
    let r := (run E R (Sys.init capM capS w) ops).1.maps i
    r.len ≤ r.cap ∧ ∃ l, entriesOf r s = .ok l s ∧ l.length = r.len :=
  len_matches_iteration ((run_safe_any_oracle E R capM capS w ops hops).2.1 i) s

/-- mutable references handed out together never alias, whatever `==` answers: the `Some`
    positions returned by one `get_disjoint_mut` call are pairwise distinct live slots, and the call
    leaves the container untouched (it may panic — overlap, a checked index — but not `ub`). -/
theorem disjoint_refs_never_alias {s : St K V Q} (hs : Safe s.r) (ks : List (Probe K Q)) :
    Sat (get_disjoint_mut E ks) s
      (fun res s' => s'.r = s.r ∧ res.length = ks.length ∧
        (∀ (t j : Nat), res[t]? = some (some j) → j < s.r.len) ∧ Disjoint.NoAlias res)
      (fun _ s' => s'.r = s.r) := by
  refine Sat.mono (Disjoint.checked_sat E hs.rep ks) ?_ (fun _ _ h => h.1)
  intro res s' ⟨h1, _, h3, h4, h5, _⟩
  exact ⟨h1, h3, fun t j h => by rw [hs.rep.1]; exact h4 t j h, h5⟩

/-- **Every element is still destroyed exactly once, whatever `==` answers.**  For any history
    of the owning dictionary operations under an arbitrary oracle: passed in = stored ⊎ handed back
    ⊎ destroyed, as a multiset equation (through all weightings `w`).  A lying `==` changes WHICH
    branch an operation takes (wrong answers), never the balance. -/
theorem ledger_any_oracle (hv : E.vGlue = true) (cap : Nat) (w0 : World K V Q) (hb : Benign w0)
    (ops : List (Ledger.LOp K V Q)) (w : Obj K V → Nat) :
    ∃ sf back tr lf, Ledger.lmhist E ops ⟨Raw.new cap, w0⟩ = some (sf, back) ∧ Rep sf.r lf ∧
      WRel w0 sf.w tr ∧
      Ledger.wsum w (ops.flatMap Ledger.LOp.inObjs) =
        Ledger.wpairs w lf + Ledger.wsum w back + Ledger.wsum w (Ledger.droppedOf tr) :=
  C02.history_ledger E hv cap w0 hb ops w

section sysledger
open Ledger Own OwnSys

/-- **… over the whole operation language and all four registers** (the system-level ledger of C02,
    read for an arbitrary oracle: `E` carries no hypothesis there either).  Any history of safe
    operations — entry API, `retain`, iterators and drains consumed, dropped or forgotten, set
    algebra, clone, `extend`, serde — followed by the drop of every register: no step reaches `ub`,
    the registers end empty, and everything passed in, created by `Clone` or decoded was handed back
    to the caller, dropped (once: it is a multiset equation, read through every weighting `w`) or is
    in the final leak list.  A lying `==` decides which branch runs, never whether the books balance. -/
theorem run_and_drop_ledger_any_oracle (capM capS : Nat → Nat) (w0 : World K V Q) (hb : Benign w0)
    (ops : List (Op K V Q)) (w : Obj K V → Nat) (hv : HV E w)
    (hops : ∀ op ∈ ops, op.safeApi = true ∧ op.regsOk = true ∧ op.WOk w ∧ ∀ j, op ≠ .inject j) :
    (∀ o ∈ (run E R (Sys.init capM capS w0) (ops ++ [.endCase])).2, o.outcome ≠ .ub) ∧
    ∃ last lk dec, (run E R (Sys.init capM capS w0) (ops ++ [.endCase])).2.getLast? = some last ∧
      last.outcome = .ok ∧ last.leaks = w0.leaked ++ lk ∧
      sysLive w (run E R (Sys.init capM capS w0) (ops ++ [.endCase])).1 = 0 ∧
      DecRun E R (Sys.init capM capS w0) (ops ++ [.endCase]) dec ∧
      wsum w (runIn (ops ++ [.endCase])) + wsum w (runCreated (run E R (Sys.init capM capS w0) (ops ++ [.endCase])).2) +
          wsum w dec =
        wsum w (runOwned (ops ++ [.endCase]) (run E R (Sys.init capM capS w0) (ops ++ [.endCase])).2) +
          wsum w (runDropped (run E R (Sys.init capM capS w0) (ops ++ [.endCase])).2) + wsum w lk :=
  C02.run_and_drop_ledger E R capM capS w0 hb ops w hv hops

end sysledger

/-- one step under any oracle and any injection. -/
theorem step_safe_any_oracle {sys : Sys K V Q} (hs : SysInv E sys) (op : Op K V Q)
    (hop : op.safeApi = true) :
    (step E R sys op).2.outcome ≠ .ub ∧ SysInv E (step E R sys op).1 :=
  step_inv E R hs op hop

/-! ### non-vacuity (tests): an oracle that lies in every possible way -/

/-- answers depend on the parity of the call number: non-reflexive, asymmetric, time-varying. -/
def liar : Env Nat Nat Nat :=
  { eqK := fun n a b => (n + a) % 2 == 0 || a < b, eqQ := fun n a _ => n % 3 == a % 3,
    eqV := fun _ _ => false, borrow := fun a => a + 1, clK := fun n _ => n, clV := fun n _ => n }

example : liar.eqK 1 3 3 = true ∧ liar.eqK 2 3 3 = false := by decide
example : liar.eqK 0 1 2 = true ∧ liar.eqK 0 2 1 = true ∧ liar.eqK 1 2 1 = false := by decide

end Micromap.Props.C17
