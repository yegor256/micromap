/-
std's PROVIDED iterator methods `nth` and `last` on the crate's BORROWING iterators (`Iter`,
`IterMut`, `Keys`, `Values`, `ValuesMut`, `SetIter`) and on the four lazy set operations
(`Difference`, `Intersection`, `Union`, `SymmetricDifference`).

None of these types overrides `nth`, `advance_by` or `last` (tools/inventory.json), so callers reach
the crate's `next` — and, for the set operations, the crate's `fold` — through core's definitions:

    nth(k):   advance_by(k) = `self.next()` up to `k` times, stopping at the first `None`;
              then (only if all `k` were there) `self.next()`
    last():   fold(None, |_, x| Some(x)).  The borrowing iterators do not override `fold`: it is
              `while let Some(x) = self.next() { acc = Some(x) }`.  The lazy set operations DO
              override `fold`, so there `last()` runs the crate's `fold` and keeps the last item
              visited.  `last` takes the iterator by value: the script ends.

They are written here over the model's `iterNextR` / `algNext` / `algFold`, as scripts of an
extended command type `IterCmdX`; on scripts without `nth` / `last` the extended interpreters ARE
the old ones (`iterScriptX_base` in `Proofs/Iters.lean`, `algScriptX_base` in `Proofs/StdIterB.lean`).

The caller of the script (the harness) writes `g v` through the `&mut V` of the items it RECEIVES
from `iter_mut` / `values_mut`: the items `nth` skips and all but the last item of `last()` are
never handed out and are not written (`iterYield`).
-/
import Micromap.Model.Sys

namespace Micromap

/-- one step of an iterator script, with std's provided `nth(k)` and `last()`. -/
inductive IterCmdX where
  | base (c : IterCmd)
  | nth (k : Nat)
  | last           -- consumes the iterator (ends the script)
  deriving DecidableEq, Repr

def IterCmdX.isBase : IterCmdX → Bool
  | .base _ => true
  | _ => false

/-! ### borrowing iterators -/

section
variable {K V Q : Type}

/-- `advance_by(k)` on a borrowing iterator over container `r`: `next` up to `k` times, stopping at
    the first `None`; `true` if `k` items were skipped. -/
def iterSkipR (r : Raw K V) : Nat → SliceIt → SM K V Q (Bool × SliceIt)
  | 0, it => pure (true, it)
  | k + 1, it => do
    let (o, it') ← iterNextR r it
    match o with
    | none => pure (false, it')
    | some _ => iterSkipR r k it'

/-- `nth(k)`. -/
def iterNthR (r : Raw K V) (k : Nat) (it : SliceIt) :
    SM K V Q (Option (Nat × (K × V)) × SliceIt) := do
  let (ok, it') ← iterSkipR r k it
  if ok then iterNextR r it' else pure (none, it')

/-- `last()`: `next` until `None`, keeping the latest item.  `fuel` bounds the loop (`len + 1`
    suffices: every successful `next` shortens the window); running out of it is `ub`, so a theorem
    "never `ub`" says the bound is enough. -/
def iterLastR (r : Raw K V) : Nat → SliceIt → Option (Nat × (K × V)) →
    SM K V Q (Option (Nat × (K × V)) × SliceIt)
  | 0, _, _ => ubM
  | fuel + 1, it, acc => do
    let (o, it') ← iterNextR r it
    match o with
    | none => pure (acc, it')
    | some x => iterLastR r fuel it' (some x)

/-- what the script does with an item it receives: for `iter_mut` / `values_mut` it writes `g v`
    through the reference; the item is reported as a reference into its slot. -/
def iterYield (kind : IterKind) (g : V → V) : Option (Nat × (K × V)) → SM K V Q (RV K V)
  | none => pure RV.none
  | some (slot, p) => do
    let p' ← (if kind = .iter_mut ∨ kind = .values_mut then do
        let _ ← valueReplace slot (g p.2)
        pure (p.1, g p.2)
      else pure p : SM K V Q (K × V))
    pure (RV.some (projItem kind slot p'))

/-- interpret an extended script over a borrowing iterator of `self`.  The `base` commands are those
    of `iterScript`, word for word. -/
def iterScriptX (R : Render K V) (kind : IterKind) (g : V → V) :
    List IterCmdX → SliceIt → List SliceIt → SM K V Q (List (RV K V))
  | [], _, forks => iterRunForks kind forks
  | c :: cs, it, forks => do
    match c with
    | .base .next =>
      let s ← getS
      let (o, it') ← iterNextR s.r it
      let x ← iterYield kind g o
      pure (x :: (← iterScriptX R kind g cs it' forks))
    | .base .len => pure (RV.nat it.len :: (← iterScriptX R kind g cs it forks))
    | .base .hint => pure (RV.hint it.len (some it.len) :: (← iterScriptX R kind g cs it forks))
    | .base .debug =>
      let s ← getS
      let l ← it.restR s.r
      pure (RV.str (renderRest R kind false l) :: (← iterScriptX R kind g cs it forks))
    | .base .debugAlt =>
      let s ← getS
      let l ← it.restR s.r
      pure (RV.str (renderRest R kind true l) :: (← iterScriptX R kind g cs it forks))
    | .base .clone =>
      if kind = .iter_mut ∨ kind = .values_mut then iterScriptX R kind g cs it forks
      else iterScriptX R kind g cs it (forks ++ [it])
    | .base .count | .base .fold =>
      -- consumes the iterator: the script ends here (forks are still run out)
      pure (RV.nat it.len :: (← iterRunForks kind forks))
    | .nth k =>
      let s ← getS
      let (o, it') ← iterNthR s.r k it
      let x ← iterYield kind g o
      pure (x :: (← iterScriptX R kind g cs it' forks))
    | .last =>
      -- consumes the iterator: the script ends here (forks are still run out)
      let s ← getS
      let (o, _) ← iterLastR s.r (it.len + 1) it none
      let x ← iterYield kind g o
      pure (x :: (← iterRunForks kind forks))

def iterOpX (R : Render K V) (kind : IterKind) (g : V → V) (script : List IterCmdX) :
    SM K V Q (List (RV K V)) := do
  let s ← getS
  let it ← iterStartR s.r
  iterScriptX R kind g script it []

end

/-! ### the lazy set operations -/

section
variable {K V Q : Type} (E : Env K V Q)

/-- `advance_by(k)` on one of the four lazy set iterators. -/
def algSkip (a b : Raw K V) : Nat → AlgIt → SM K V Q (Bool × AlgIt)
  | 0, it => pure (true, it)
  | k + 1, it => do
    let (o, it') ← algNext E a b it
    match o with
    | none => pure (false, it')
    | some _ => algSkip a b k it'

/-- `nth(k)`. -/
def algNth (a b : Raw K V) (k : Nat) (it : AlgIt) : SM K V Q (Option (AlgItem K) × AlgIt) := do
  let (ok, it') ← algSkip E a b k it
  if ok then algNext E a b it' else pure (none, it')

/-- `last()`: the crate's `fold` with `|_, x| Some(x)` — the last item `fold` visits. -/
def algLast (a b : Raw K V) (it : AlgIt) : SM K V Q (Option (AlgItem K)) := do
  let l ← algFold E a b it
  pure l.getLast?

end

section
variable {K Q : Type} (E : Env K Unit Q)

def algOptRV (o : Option (AlgItem K)) : RV K Unit :=
  match o with | none => .none | some x => .some (algItemRV x)

/-- interpret an extended script over a lazy set operation.  The `base` commands are those of
    `algScript`, word for word. -/
def algScriptX (dbg : Bool → K → String) (a b : Raw K Unit) :
    List IterCmdX → AlgIt → List AlgIt → SM K Unit Q (List (RV K Unit))
  | [], _, forks => algRunForks E a b forks
  | c :: cs, it, forks => do
    match c with
    | .base .next =>
      let (o, it') ← algNext E a b it
      let r : RV K Unit := match o with | none => .none | some x => .some (algItemRV x)
      pure (r :: (← algScriptX dbg a b cs it' forks))
    | .base .hint =>
      let h := algHint a b it
      pure (RV.hint h.1 h.2 :: (← algScriptX dbg a b cs it forks))
    | .base .len => algScriptX dbg a b cs it forks       -- not ExactSizeIterator
    | .base .debug =>
      let l ← algRunOut E a b (a.len + b.len + 1) it
      pure (RV.str (StdFmt.debugList false (l.map fun x => dbg false x.2.2)) ::
        (← algScriptX dbg a b cs it forks))
    | .base .debugAlt =>
      let l ← algRunOut E a b (a.len + b.len + 1) it
      pure (RV.str (StdFmt.debugList true (l.map fun x => dbg true x.2.2)) ::
        (← algScriptX dbg a b cs it forks))
    | .base .clone => algScriptX dbg a b cs it (forks ++ [it])
    | .base .count =>
      let l ← algFold E a b it
      pure (RV.nat l.length :: (← algRunForks E a b forks))
    | .base .fold =>
      let l ← algFold E a b it
      pure (RV.list (l.map algItemRV) :: (← algRunForks E a b forks))
    | .nth k =>
      let (o, it') ← algNth E a b k it
      pure (algOptRV o :: (← algScriptX dbg a b cs it' forks))
    | .last =>
      -- consumes the iterator: the script ends here (forks are still run out)
      let o ← algLast E a b it
      pure (algOptRV o :: (← algRunForks E a b forks))

def algOpX (dbg : Bool → K → String) (kind : AlgKind) (a b : Raw K Unit) (script : List IterCmdX) :
    SM K Unit Q (List (RV K Unit)) := do
  let it ← algStart a b kind
  algScriptX E dbg a b script it []

end
end Micromap
